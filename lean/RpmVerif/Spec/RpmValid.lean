import RpmVerif.Model.Header
import RpmVerif.Spec.RpmTagTypes
/-!
# Spec for C09: rpm's structural rules as decidable propositions

A transcription of what rpm enforces when it loads a package (`lib/header.c`: `hdrblobInit`,
`hdrblobVerifyRegion`, `hdrblobVerifyInfo`; `lib/rpmlead.c`; `lib/cpio.c`; `lib/rpmds.c` rpmlib() table),
restricted to the rules the property lists.  Everything is a decidable `Prop` over the parsed structures of
`Model/Header.lean` (the parser itself checks the magics, the header version, `type ≤ 9` and that index
and store have the announced sizes), so that the same definitions are the subject of the theorems in
`Props/C09.lean` and, through `decide`, the validator the driver runs on the bytes of every emitted package.

Every rule has a stable short name (`firstViolation`): `lead`, `intro-sizes`, `region`, `tags-ascending`,
`type`, `count-zero`, `alignment`, `string-term`, `range`, `overlap`, `sig-limits`, `tag-type`, `sig-padding`, `compressor-magic`,
`payload-flags`, `rpmlib`, `cpio-entry`, `cpio-order`, `cpio-trailer`, and — judged last, so that they never hide another rule —
`rpmlib-tilde`, `rpmlib-caret`, `rpmlib-rich`, `rpmlib-interp-args`.

Numbers (tag values, limits, magics) are written out here as rpm defines them — they are NOT taken from the
tables generated from rpm-rs, so that a wrong constant in rpm-rs is a failure, not an agreement.

Transcription choices (stated precisely because there is no rpm binary here to cross-check; the only
external check is that all rpm-built packages in /repo/test_assets are judged valid):
* every non-region entry: `tag ≥ 100` (`hdrchkTag`: `tag < HEADER_I18NTABLE` is rejected — this holds for
  signature headers too, whose tags are 256.. and 1000..) and `tag ≠ regionTag`;
* `type ∈ 1..9` (`RPM_MIN_TYPE = 1`; type 0 has data length 0, which `len <= 0` rejects anyway);
* `count ≥ 1`; STRING entries have `count = 1` (`dataLength` returns -1 otherwise);
* data must end at or before the region trailer (rpm checks `end ≤ rdl`, `rdl` being the END of the trailer;
  "non-overlapping" in the property text includes the trailer, so the stricter bound is used);
* tags strictly ascending is a property-level rule (rpm sorts the index on load);
* the signature header obeys the tighter limits of `hdrblobRead` (`il_max = 32`, `dl_max = 64 MiB` for `RPMTAG_HEADERSIGNATURES`);
* the main header's known tags carry the data type of rpm's tag table (`hdrchkTagType`, Spec/RpmTagTypes.lean); rpm does not
  type-check signature headers;
* the cpio archive is read by an INDEPENDENT transcription of the newc format as rpm reads it (`rpmcpioHeaderRead`), not by the model
  of rpm-rs' own reader: numeric fields are exactly eight hexadecimal digits (rpm-rs' `u32::from_str_radix` would also take `+1234567`);
* rpmlib() features: nine that do not depend on the content plus the four rpmbuild adds from the CONTENT of dependencies and scriptlets
  (build/pack.c `haveCharInDep('~')` / `('^')`, `haveRichDep`; build/parseScript.c: an interpreter with arguments).

Packages rpm itself built are judged by `ForeignValid` (last part of the file): the same rules for lead, headers, padding, compressor
magic, flags and rpmlib(), and a weaker archive rule (`cpioCheckForeign`: %ghost files may be missing, hard-link sets, names without the
"./" prefix), with `firstViolationForeign` for the rule names.
-/
namespace RpmVerif.RpmValid
open RpmVerif RpmVerif.Hdr

/-- `rpmLeadRead`: major 3 (rpm accepts 3 and 4; packages are written with 3), type binary (0) or
source (1), signature type `RPMSIGTYPE_HEADERSIG` = 5. (The magic is checked by the parser.) -/
def LeadValid (l : Lead) : Prop := l.major = 3 ∧ (l.ptype = 0 ∨ l.ptype = 1) ∧ l.sigtype = 5

instance (l : Lead) : Decidable (LeadValid l) := by unfold LeadValid; exact inferInstance

/-- `typeAlign[]` of `header.c`, indexed by type -/
def typeAlign : Nat → Nat
  | 3 => 2 | 4 => 4 | 5 => 8 | _ => 1

/-- length, including the terminator, of the NUL-terminated string at the start of `bs`;
`none` when the bytes end before a NUL (`strtaglen` returning -1) -/
def strLen : Bytes → Option Nat
  | [] => none
  | b :: r => if b = 0 then some 1 else (strLen r).map (· + 1)

/-- total length of `k` consecutive NUL-terminated strings -/
def stringsLen : Nat → Bytes → Option Nat
  | 0, _ => some 0
  | k + 1, bs =>
    match strLen bs with
    | none => none
    | some n => (stringsLen k (bs.drop n)).map (n + ·)

/-- `dataLength(type, store + off, count, …, store + dl)`: `none` = -1 (illegal type, unterminated string) -/
def dataLen (store : Bytes) (off ty cnt : Nat) : Option Nat :=
  match ty with
  | 1 => some cnt | 2 => some cnt | 7 => some cnt
  | 3 => some (2 * cnt) | 4 => some (4 * cnt) | 5 => some (8 * cnt)
  | 6 => strLen (store.drop off)
  | 8 => stringsLen cnt (store.drop off)
  | 9 => stringsLen cnt (store.drop off)
  | _ => none

def entryLen (store : Bytes) (e : Entry) : Option Nat := dataLen store e.off e.data.typeCode e.cnt

/-- the entries after the leading region entry -/
def body (h : Header) : List Entry := h.entries.drop 1

/-- offset of the region trailer = upper bound for all other data -/
def limit (h : Header) : Nat := h.dataSize - 16

/-- `intro-sizes`: `il` is the number of index entries, `1 ≤ il ≤ 65535`; `dl` is the size of the store,
`dl < 256 MiB` (`hdrchkTags`, `hdrchkData`) -/
def IntroSizes (h : Header) : Prop :=
  h.nEntries = h.entries.length ∧ 1 ≤ h.nEntries ∧ h.nEntries ≤ 65535 ∧
  h.dataSize = h.store.length ∧ h.dataSize < 268435456

/-- the 16 bytes of a region trailer: an index entry (tag, BIN, −16·il, 16), offset in two's complement -/
def trailerBytes (rt il : Nat) : Bytes := be32 rt ++ be32 7 ++ be32 (4294967296 - 16 * il) ++ be32 16

/-- `region`: the first entry is (regionTag, BIN, count 16) whose data are the last 16 bytes of the store
(`offset + 16 = dl`: in package files the region covers the whole header) and these bytes are the trailer
pointing back over exactly `il` entries -/
def RegionOk (rt : Nat) (h : Header) : Prop :=
  match h.entries with
  | [] => False
  | e :: _ => e.tag = rt ∧ e.data.typeCode = 7 ∧ e.cnt = 16 ∧ e.off + 16 = h.dataSize ∧
      (h.store.drop e.off).take 16 = trailerBytes rt h.nEntries

/-- `tags-ascending`: legal tags, strictly ascending in index order -/
def TagsAscending (rt : Nat) (h : Header) : Prop :=
  (∀ e ∈ body h, 100 ≤ e.tag ∧ e.tag ≠ rt) ∧ (body h).Pairwise (fun a b => a.tag < b.tag)

/-- `type` -/
def TypesLegal (h : Header) : Prop := ∀ e ∈ body h, 1 ≤ e.data.typeCode ∧ e.data.typeCode ≤ 9

/-- `count-zero`: no empty entry; a STRING entry holds exactly one string -/
def CountsOk (h : Header) : Prop := ∀ e ∈ body h, 1 ≤ e.cnt ∧ (e.data.typeCode = 6 → e.cnt = 1)

/-- `alignment` -/
def Aligned (h : Header) : Prop := ∀ e ∈ body h, e.off % typeAlign e.data.typeCode = 0

/-- `string-term`: the data length is defined, i.e. every string of the entry is terminated inside the store -/
def StringsTerminated (h : Header) : Prop := ∀ e ∈ body h, (entryLen h.store e).isSome = true

/-- `range`: the offset is inside the data area, the data are non-empty and end before the region trailer -/
def InRange (h : Header) : Prop :=
  ∀ e ∈ body h, e.off ≤ limit h ∧ ∀ len ∈ entryLen h.store e, 0 < len ∧ e.off + len ≤ limit h

def SeqFrom (store : Bytes) : Nat → List Entry → Prop
  | _, [] => True
  | start, e :: es => start ≤ e.off ∧ SeqFrom store (e.off + (entryLen store e).getD 0) es

/-- `overlap`: data laid out in index order without overlap -/
def NoOverlap (h : Header) : Prop := SeqFrom h.store 0 (body h)

/-- **a header as rpm accepts it** -/
structure HeaderValid (rt : Nat) (h : Header) : Prop where
  intro : IntroSizes h
  region : RegionOk rt h
  tags : TagsAscending rt h
  types : TypesLegal h
  counts : CountsOk h
  aligned : Aligned h
  strings : StringsTerminated h
  range : InRange h
  seq : NoOverlap h

instance (h : Header) : Decidable (IntroSizes h) := by unfold IntroSizes; exact inferInstance
instance (rt : Nat) (h : Header) : Decidable (RegionOk rt h) := by
  unfold RegionOk; split <;> exact inferInstance
instance (rt : Nat) (h : Header) : Decidable (TagsAscending rt h) := by unfold TagsAscending; exact inferInstance
instance (h : Header) : Decidable (TypesLegal h) := by unfold TypesLegal; exact inferInstance
instance (h : Header) : Decidable (CountsOk h) := by unfold CountsOk; exact inferInstance
instance (h : Header) : Decidable (Aligned h) := by unfold Aligned; exact inferInstance
instance (h : Header) : Decidable (StringsTerminated h) := by unfold StringsTerminated; exact inferInstance
instance (o : Option Nat) (p : Nat → Prop) [DecidablePred p] : Decidable (∀ x ∈ o, p x) :=
  match o with
  | none => isTrue (fun _ h => by cases h)
  | some x => if hx : p x then isTrue (fun y hy => by cases hy; exact hx) else isFalse (fun h => hx (h x rfl))
instance (h : Header) : Decidable (InRange h) := by unfold InRange; exact inferInstance
def decSeqFrom (store : Bytes) : (start : Nat) → (es : List Entry) → Decidable (SeqFrom store start es)
  | _, [] => isTrue trivial
  | start, e :: es =>
    match Nat.decLe start e.off, decSeqFrom store (e.off + (entryLen store e).getD 0) es with
    | isTrue a, isTrue b => isTrue ⟨a, b⟩
    | isFalse a, _ => isFalse (fun h => a h.1)
    | _, isFalse b => isFalse (fun h => b h.2)
instance (store : Bytes) (start : Nat) (es : List Entry) : Decidable (SeqFrom store start es) := decSeqFrom store start es
instance (h : Header) : Decidable (NoOverlap h) := by unfold NoOverlap; exact inferInstance

theorem headerValid_iff (rt : Nat) (h : Header) : HeaderValid rt h ↔
    (IntroSizes h ∧ RegionOk rt h ∧ TagsAscending rt h ∧ TypesLegal h ∧ CountsOk h ∧ Aligned h ∧
      StringsTerminated h ∧ InRange h ∧ NoOverlap h) :=
  ⟨fun v => ⟨v.intro, v.region, v.tags, v.types, v.counts, v.aligned, v.strings, v.range, v.seq⟩,
   fun ⟨a, b, c, d, e, f, g, i, j⟩ => ⟨a, b, c, d, e, f, g, i, j⟩⟩

instance (rt : Nat) (h : Header) : Decidable (HeaderValid rt h) := decidable_of_iff _ (headerValid_iff rt h).symm

/-- name of the first violated header rule (diagnostics for the driver; `none` ⇔ `HeaderValid`) -/
def headerViolation (rt : Nat) (h : Header) : Option String :=
  if ¬ IntroSizes h then some "intro-sizes"
  else if ¬ RegionOk rt h then some "region"
  else if ¬ TagsAscending rt h then some "tags-ascending"
  else if ¬ TypesLegal h then some "type"
  else if ¬ CountsOk h then some "count-zero"
  else if ¬ Aligned h then some "alignment"
  else if ¬ StringsTerminated h then some "string-term"
  else if ¬ InRange h then some "range"
  else if ¬ NoOverlap h then some "overlap"
  else none

theorem rule_eq_none {p : Prop} [Decidable p] {name : String} {rest : Option String} :
    (if ¬ p then some name else rest) = none ↔ p ∧ rest = none := by
  by_cases hp : p
  · rw [if_neg (not_not_intro hp)]; exact (and_iff_right hp).symm
  · rw [if_pos hp]; exact ⟨nofun, fun h => absurd h.1 hp⟩

theorem headerViolation_none (rt : Nat) (h : Header) : headerViolation rt h = none ↔ HeaderValid rt h := by
  simp only [headerValid_iff, headerViolation, rule_eq_none, and_true]

/-- `sig-limits`: `hdrblobRead` with `regionTag == RPMTAG_HEADERSIGNATURES`: `il_max = 32`, `dl_max = 64 * 1024 * 1024`
(`hdrchkRange(max, x)` rejects `x > max`) -/
def SigLimits (sig : Header) : Prop := sig.nEntries ≤ 32 ∧ sig.dataSize ≤ 67108864

instance (sig : Header) : Decidable (SigLimits sig) := by unfold SigLimits; exact inferInstance

/-- `tag-type`: every entry of the MAIN header whose tag rpm's tag table knows carries the table's data type
(`hdrblobVerifyInfo`: `typechk && hdrchkTagType(info.tag, info.type)`; `typechk` is off for signature headers) -/
def TagTypesOk (h : Header) : Prop := ∀ e ∈ body h, tagTypeOk e.tag e.data.typeCode = true

instance (h : Header) : Decidable (TagTypesOk h) := by unfold TagTypesOk; exact inferInstance

/-- `sig-padding`: the signature header (intro 16 bytes + 16·il + dl, starting after the 96-byte lead) is
followed by `(8 − dl mod 8) mod 8` zero bytes, so that the main header starts at a multiple of 8 -/
def SigPadding (bytes : Bytes) (sig : Header) : Prop :=
  let stop := 96 + (16 + 16 * sig.nEntries + sig.dataSize)
  let pad := (8 - sig.dataSize % 8) % 8
  (bytes.drop stop).take pad = List.replicate pad 0 ∧ (stop + pad) % 8 = 0 ∧ stop + pad ≤ bytes.length

instance (bytes : Bytes) (sig : Header) : Decidable (SigPadding bytes sig) := by
  unfold SigPadding; exact inferInstance

def find (h : Header) (tag : Nat) : Option IndexData := (h.entries.find? (·.tag == tag)).map (·.data)

def strsOf (h : Header) (tag : Nat) : Option (List Bytes) :=
  match find h tag with | some (.strArray l) => some l | _ => none
def strOf (h : Header) (tag : Nat) : Option Bytes :=
  match find h tag with | some (.str s) => some s | _ => none
def u16sOf (h : Header) (tag : Nat) : Option (List Nat) :=
  match find h tag with | some (.int16 l) => some l | _ => none
def u32sOf (h : Header) (tag : Nat) : Option (List Nat) :=
  match find h tag with | some (.int32 l) => some l | _ => none
def u64sOf (h : Header) (tag : Nat) : Option (List Nat) :=
  match find h tag with | some (.int64 l) => some l | _ => none

-- rpm's tag numbers (rpmtag.h)
def tBASENAMES : Nat := 1117
def tDIRNAMES : Nat := 1118
def tDIRINDEXES : Nat := 1116
def tFILESIZES : Nat := 1028
def tLONGFILESIZES : Nat := 5008
def tFILEMODES : Nat := 1030
def tREQUIRENAME : Nat := 1049
def tPAYLOADCOMPRESSOR : Nat := 1125
def tPAYLOADFLAGS : Nat := 1126
def tFILECAPS : Nat := 5010
def tFILEDIGESTALGO : Nat := 5011

/-- what the archive must say about one file -/
structure FileExp where
  name : Bytes     -- cpio name: "." ++ dirname ++ basename
  size : Nat
  mode : Nat
  deriving DecidableEq, Repr

def mkFiles (dirs : List Bytes) : List Bytes → List Nat → List Nat → List Nat → Option (List FileExp)
  | [], [], [], [] => some []
  | b :: bs, i :: is, s :: ss, m :: ms =>
    match dirs[i]?, mkFiles dirs bs is ss ms with
    | some d, some r => some (⟨[46] ++ (d ++ b), s, m⟩ :: r)
    | _, _ => none
  | _, _, _, _ => none

/-- the file list of a header: BASENAMES / DIRNAMES / DIRINDEXES (rpm's compressed file names), sizes from
LONGFILESIZES when present, else FILESIZES, modes from FILEMODES. No BASENAMES = no files. -/
def headerFiles (h : Header) : Option (List FileExp) :=
  match strsOf h tBASENAMES with
  | none => some []
  | some bases =>
    match strsOf h tDIRNAMES, u32sOf h tDIRINDEXES, u16sOf h tFILEMODES,
          (match u64sOf h tLONGFILESIZES with | some l => some l | none => u32sOf h tFILESIZES) with
    | some dirs, some idx, some modes, some sizes => mkFiles dirs bases idx sizes modes
    | _, _, _, _ => none

inductive CpioErr where
  | entry | order | trailer
  deriving DecidableEq, Repr

def CpioErr.name : CpioErr → String
  | .entry => "cpio-entry" | .order => "cpio-order" | .trailer => "cpio-trailer"

/-- "TRAILER!!!" -/
def trailerName : Bytes := [84, 82, 65, 73, 76, 69, 82, 33, 33, 33]

/-! ### the newc format as rpm reads it (`lib/cpio.c`: `rpmcpioHeaderRead`, `GET_NUM_FIELD`, `rpmcpioReadPad`)

An independent transcription — nothing below refers to `Model/Cpio.lean`, the model of rpm-rs' own reader and writer, so that a change
made symmetrically in rpm-rs' writer and reader still fails here. An entry is the 6-byte magic `070701` (newc) or `070702` (crc), thirteen
numeric fields of EXACTLY eight hexadecimal digits (ino, mode, uid, gid, nlink, mtime, filesize, devmajor, devminor, rdevmajor, rdevminor,
namesize, check), `namesize` bytes of name ending in NUL (`1 ≤ namesize ≤ 4096`: rpm rejects `nameSize <= 0 || nameSize > 4096`), padding
to a multiple of 4 counted from the start of the entry, `filesize` bytes of data, padding to a multiple of 4.  rpm's own large-file form is
the magic `07070X`, one eight-digit field (the index of the file in the header) and padding to 16 bytes. -/

def hexDigit? (b : UInt8) : Option Nat :=
  if 48 ≤ b.toNat ∧ b.toNat ≤ 57 then some (b.toNat - 48)
  else if 97 ≤ b.toNat ∧ b.toNat ≤ 102 then some (b.toNat - 87)
  else if 65 ≤ b.toNat ∧ b.toNat ≤ 70 then some (b.toNat - 55)
  else none

/-- a numeric field: exactly eight hexadecimal digits — no sign, no blank, no `0x` -/
def hexField : Bytes → Option Nat
  | [a, b, c, d, e, f, g, h] => do
    let a ← hexDigit? a; let b ← hexDigit? b; let c ← hexDigit? c; let d ← hexDigit? d
    let e ← hexDigit? e; let f ← hexDigit? f; let g ← hexDigit? g; let h ← hexDigit? h
    pure (a * 268435456 + b * 16777216 + c * 1048576 + d * 65536 + e * 4096 + f * 256 + g * 16 + h)
  | _ => none

def rdField (bs : Bytes) : Option (Nat × Bytes) := (hexField (bs.take 8)).map fun n => (n, bs.drop 8)

def skipN (n : Nat) (bs : Bytes) : Option Bytes := if n ≤ bs.length then some (bs.drop n) else none

def pad4 (n : Nat) : Nat := (4 - n % 4) % 4

inductive ArchEntry where
  | newc (name : Bytes) (mode nlink size : Nat)
  | stripped (idx : Nat)
  deriving DecidableEq, Repr

def readEntry (bs : Bytes) : Option (ArchEntry × Bytes) :=
  if bs.take 6 = [48, 55, 48, 55, 48, 49] ∨ bs.take 6 = [48, 55, 48, 55, 48, 50] then do
    let (_, r) ← rdField (bs.drop 6)        -- ino
    let (mode, r) ← rdField r
    let (_, r) ← rdField r                  -- uid
    let (_, r) ← rdField r                  -- gid
    let (nlink, r) ← rdField r
    let (_, r) ← rdField r                  -- mtime
    let (size, r) ← rdField r
    let (_, r) ← rdField r                  -- devmajor
    let (_, r) ← rdField r                  -- devminor
    let (_, r) ← rdField r                  -- rdevmajor
    let (_, r) ← rdField r                  -- rdevminor
    let (namesize, r) ← rdField r
    let (_, r) ← rdField r                  -- check
    if namesize = 0 ∨ 4096 < namesize ∨ r.length < namesize then none
    else if (r.take namesize).getLast? ≠ some 0 then none
    else do
      let r' ← skipN (pad4 (110 + namesize)) (r.drop namesize)
      pure (.newc ((r.take namesize).takeWhile (· != 0)) mode nlink size, r')
  else if bs.take 6 = [48, 55, 48, 55, 48, 88] then do
    let (idx, r) ← rdField (bs.drop 6)
    let r' ← skipN 2 r
    pure (.stripped idx, r')
  else none

def skipData (size : Nat) (bs : Bytes) : Option Bytes := skipN (size + pad4 size) bs

/-- walk the archive: entry `i` must be a newc entry named like header file `i` with its size and mode (or, in the
stripped form rpm uses for files > 4 GiB, carry the index `i`; its data then have the header's size), header + name
and data each padded to a multiple of 4 (a missing pad derails the next magic), and after the last file comes the
`TRAILER!!!` entry (or rpm's stripped end marker, index ffffffff). -/
def cpioCheck : Nat → List FileExp → Bytes → Option CpioErr
  | _, [], bs =>
    match readEntry bs with
    | some (.newc name _ _ _, _) => if name = trailerName then none else some .trailer
    | some (.stripped idx, _) => if idx = 4294967295 then none else some .trailer
    | none => some .trailer
  | i, f :: fs, bs =>
    match readEntry bs with
    | some (.newc name mode _ size, r) =>
      if name ≠ f.name then some .order
      else if size ≠ f.size ∨ mode ≠ f.mode then some .entry
      else match skipData size r with
        | some r' => cpioCheck (i + 1) fs r'
        | none => some .entry
    | some (.stripped idx, r) =>
      if idx ≠ i then some .order
      else match skipData f.size r with
        | some r' => cpioCheck (i + 1) fs r'
        | none => some .entry
    | none => some .entry

def cpioViolation (h : Header) (arch : Bytes) : Option CpioErr :=
  match headerFiles h with
  | none => some .entry
  | some fs => cpioCheck 0 fs arch

/-- `cpio-entry` / `cpio-order` / `cpio-trailer`: the decompressed payload is a well-formed cpio archive
listing exactly the header's files, in header order, with matching names, sizes and modes -/
def CpioValid (h : Header) (arch : Bytes) : Prop := cpioViolation h arch = none

instance (h : Header) (arch : Bytes) : Decidable (CpioValid h arch) := by unfold CpioValid; exact inferInstance

-- compressor names
def sGzip : Bytes := [103, 122, 105, 112]
def sZstd : Bytes := [122, 115, 116, 100]
def sXz : Bytes := [120, 122]
def sBzip2 : Bytes := [98, 122, 105, 112, 50]
def sLzma : Bytes := [108, 122, 109, 97]

def compMagic (name : Bytes) : Option Bytes :=
  if name = sGzip then some [0x1f, 0x8b]
  else if name = sZstd then some [0x28, 0xb5, 0x2f, 0xfd]
  else if name = sXz then some [0xfd, 0x37, 0x7a, 0x58, 0x5a, 0x00]
  else if name = sBzip2 then some [66, 90, 104]
  else if name = sLzma then some [0x5d, 0x00, 0x00]
  else none

/-- `compressor-magic`: the payload starts with the magic of the compressor PAYLOADCOMPRESSOR names.
Without the tag rpm opens the payload with its gzip reader, which also passes plain data through:
the payload then is a gzip stream or a bare cpio archive ("0707"). -/
def CompressorMagic (h : Header) (payload : Bytes) : Prop :=
  match find h tPAYLOADCOMPRESSOR with
  | none => [0x1f, 0x8b] <+: payload ∨ [48, 55, 48, 55] <+: payload
  | some (.str name) =>
    match compMagic name with
    | some m => m <+: payload
    | none => False
  | some _ => False

instance (h : Header) (payload : Bytes) : Decidable (CompressorMagic h payload) := by
  unfold CompressorMagic; split <;> (try split) <;> exact inferInstance

/-- `payload-flags`: PAYLOADFLAGS, when present, is a plain STRING entry. rpm reads PAYLOADCOMPRESSOR / PAYLOADFLAGS with
`headerGetString`, which answers NULL for any other type (a STRING_ARRAY compressor name would silently mean "gzip"; that case is
already rejected by `CompressorMagic`). rpm never interprets the text when it reads a package (it opens the payload with
`"r." + compressor`), and its own packages carry `""`, `"2"`, `"19"`, `"19T0"`: nothing is demanded of the text. -/
def PayloadFlagsOk (h : Header) : Prop :=
  match find h tPAYLOADFLAGS with
  | none => True
  | some (.str _) => True
  | some _ => False

instance (h : Header) : Decidable (PayloadFlagsOk h) := by
  unfold PayloadFlagsOk; split <;> exact inferInstance

/-- "rpmlib(" ++ feature ++ ")" -/
def rpmlibName (feature : Bytes) : Bytes := [114, 112, 109, 108, 105, 98, 40] ++ feature ++ [41]

def fPayloadIsZstd : Bytes := [80, 97, 121, 108, 111, 97, 100, 73, 115, 90, 115, 116, 100]
def fPayloadIsXz : Bytes := [80, 97, 121, 108, 111, 97, 100, 73, 115, 88, 122]
def fPayloadIsBzip2 : Bytes := [80, 97, 121, 108, 111, 97, 100, 73, 115, 66, 122, 105, 112, 50]
def fPayloadIsLzma : Bytes := [80, 97, 121, 108, 111, 97, 100, 73, 115, 76, 122, 109, 97]
def fFileCaps : Bytes := [70, 105, 108, 101, 67, 97, 112, 115]
def fLargeFiles : Bytes := [76, 97, 114, 103, 101, 70, 105, 108, 101, 115]
def fCompressedFileNames : Bytes :=
  [67, 111, 109, 112, 114, 101, 115, 115, 101, 100, 70, 105, 108, 101, 78, 97, 109, 101, 115]
def fFileDigests : Bytes := [70, 105, 108, 101, 68, 105, 103, 101, 115, 116, 115]
def fPayloadFilesHavePrefix : Bytes :=
  [80, 97, 121, 108, 111, 97, 100, 70, 105, 108, 101, 115, 72, 97, 118, 101, 80, 114, 101, 102, 105, 120]
/-- "TildeInVersions", "CaretInVersions", "RichDependencies", "ScriptletInterpreterArgs" -/
def fTildeInVersions : Bytes := [84, 105, 108, 100, 101, 73, 110, 86, 101, 114, 115, 105, 111, 110, 115]
def fCaretInVersions : Bytes := [67, 97, 114, 101, 116, 73, 110, 86, 101, 114, 115, 105, 111, 110, 115]
def fRichDependencies : Bytes := [82, 105, 99, 104, 68, 101, 112, 101, 110, 100, 101, 110, 99, 105, 101, 115]
def fScriptletInterpreterArgs : Bytes :=
  [83, 99, 114, 105, 112, 116, 108, 101, 116, 73, 110, 116, 101, 114, 112, 114, 101, 116, 101, 114, 65, 114, 103, 115]

def strsAt (h : Header) (tag : Nat) : List Bytes := (strsOf h tag).getD []

/-- `depevrtags[]` of build/pack.c: PROVIDEVERSION, REQUIREVERSION, OBSOLETEVERSION, CONFLICTVERSION, ORDERVERSION, TRIGGERVERSION,
SUGGESTVERSION, ENHANCEVERSION, RECOMMENDVERSION, SUPPLEMENTVERSION -/
def depEvrTags : List Nat := [1113, 1050, 1115, 1055, 5036, 1067, 5050, 5056, 5047, 5053]

/-- `haveCharInDep(pkg, c)`: some dependency version contains the character (every package provides itself, so a `~` / `^` in its
own version or release is seen here too) -/
def evrHasChar (h : Header) (c : UInt8) : Bool := depEvrTags.any fun t => (strsAt h t).any fun v => v.contains c

/-- the dependency kinds `haveRichDep` looks at: REQUIRENAME, RECOMMENDNAME, SUGGESTNAME, SUPPLEMENTNAME, ENHANCENAME, CONFLICTNAME -/
def richNameTags : List Nat := [1049, 5046, 5049, 5052, 5055, 1054]

/-- `haveRichDep(pkg)`: a dependency whose name starts with "(" (`rpmdsIsRich`) -/
def hasRichDep (h : Header) : Bool := richNameTags.any fun t => (strsAt h t).any fun n => n.head? == some 40

/-- the interpreter tags of the package scriptlets: PREINPROG, POSTINPROG, PREUNPROG, POSTUNPROG, VERIFYSCRIPTPROG, PRETRANSPROG,
POSTTRANSPROG, PREUNTRANSPROG, POSTUNTRANSPROG -/
def progTags : List Nat := [1085, 1086, 1087, 1088, 1091, 1153, 1154, 5105, 5106]

/-- build/parseScript.c: `progArgc > 1` — an interpreter entry that holds more than the program (rpm writes a lone interpreter as a
STRING, one with arguments as a STRING_ARRAY, and then adds the feature) -/
def hasInterpArgs (h : Header) : Bool := progTags.any fun t => decide (1 < (strsAt h t).length)

/-- the rpmlib() features rpmbuild derives from the CONTENT of dependencies and scriptlets -/
def contentFeatures (h : Header) : List Bytes :=
  (if evrHasChar h 126 then [fTildeInVersions] else []) ++
  (if evrHasChar h 94 then [fCaretInVersions] else []) ++
  (if hasRichDep h then [fRichDependencies] else []) ++
  (if hasInterpArgs h then [fScriptletInterpreterArgs] else [])

/-- the rpmlib() features a header uses because of its STRUCTURE: the payload compressor (zstd / xz / bzip2 / lzma), file
capabilities (FILECAPS present), large files (LONGFILESIZES present), compressed file names (BASENAMES
present), non-MD5 file digests (FILEDIGESTALGO present). `prefixed` = the archive names its files with the
"./" prefix (always the case for archives accepted by `CpioValid` that contain a file). -/
def structFeatures (h : Header) (prefixed : Bool) : List Bytes :=
  (match strOf h tPAYLOADCOMPRESSOR with
   | some c => if c = sZstd then [fPayloadIsZstd] else if c = sXz then [fPayloadIsXz]
               else if c = sBzip2 then [fPayloadIsBzip2] else if c = sLzma then [fPayloadIsLzma] else []
   | none => []) ++
  (if (find h tFILECAPS).isSome then [fFileCaps] else []) ++
  (if (find h tLONGFILESIZES).isSome then [fLargeFiles] else []) ++
  (if (find h tBASENAMES).isSome then [fCompressedFileNames] else []) ++
  (if (find h tFILEDIGESTALGO).isSome then [fFileDigests] else []) ++
  (if prefixed then [fPayloadFilesHavePrefix] else [])

/-- **the rpmlib() features a header uses** (what rpmbuild would declare for it): structure, then content -/
def featuresUsed (h : Header) (prefixed : Bool) : List Bytes := structFeatures h prefixed ++ contentFeatures h

def declared (h : Header) (f : Bytes) : Bool := (strsAt h tREQUIRENAME).contains (rpmlibName f)

/-- `rpmlib`: every feature the package uses is declared as a `rpmlib(…)` requirement -/
def RpmlibDeclared (h : Header) (prefixed : Bool) : Prop :=
  ∀ f ∈ featuresUsed h prefixed, rpmlibName f ∈ strsAt h tREQUIRENAME

instance (h : Header) (prefixed : Bool) : Decidable (RpmlibDeclared h prefixed) := by
  unfold RpmlibDeclared; exact inferInstance

/-- the same for a sub-list of the features (diagnostics: which kind is missing) -/
def allDeclared (h : Header) (fs : List Bytes) : Bool := fs.all (declared h)

/-- name of the rule a missing content feature is reported under -/
def contentRuleName (f : Bytes) : String :=
  if f = fTildeInVersions then "rpmlib-tilde" else if f = fCaretInVersions then "rpmlib-caret"
  else if f = fRichDependencies then "rpmlib-rich" else "rpmlib-interp-args"

def contentViolation (h : Header) : Option String :=
  ((contentFeatures h).find? fun f => !declared h f).map contentRuleName

def hasFiles (h : Header) : Bool := (find h tBASENAMES).isSome

/-- **a package as rpm accepts it**: `bytes` are the written package, `p` what they parse to
(`parsePackage bytes = .ok p`), `arch` the decompressed payload -/
structure PackageValid (bytes : Bytes) (p : Package) (arch : Bytes) : Prop where
  lead : LeadValid p.md.lead
  sig : HeaderValid 62 p.md.signature
  siglim : SigLimits p.md.signature
  hdr : HeaderValid 63 p.md.header
  tagtypes : TagTypesOk p.md.header
  pad : SigPadding bytes p.md.signature
  magic : CompressorMagic p.md.header p.content
  flags : PayloadFlagsOk p.md.header
  rpmlib : RpmlibDeclared p.md.header (hasFiles p.md.header)
  cpio : CpioValid p.md.header arch

theorem packageValid_iff (bytes : Bytes) (p : Package) (arch : Bytes) : PackageValid bytes p arch ↔
    (LeadValid p.md.lead ∧ HeaderValid 62 p.md.signature ∧ SigLimits p.md.signature ∧ HeaderValid 63 p.md.header ∧
     TagTypesOk p.md.header ∧ SigPadding bytes p.md.signature ∧ CompressorMagic p.md.header p.content ∧
     PayloadFlagsOk p.md.header ∧ RpmlibDeclared p.md.header (hasFiles p.md.header) ∧ CpioValid p.md.header arch) :=
  ⟨fun v => ⟨v.lead, v.sig, v.siglim, v.hdr, v.tagtypes, v.pad, v.magic, v.flags, v.rpmlib, v.cpio⟩,
   fun ⟨a, b, c, d, e, f, g, h, i, j⟩ => ⟨a, b, c, d, e, f, g, h, i, j⟩⟩

instance (bytes : Bytes) (p : Package) (arch : Bytes) : Decidable (PackageValid bytes p arch) :=
  decidable_of_iff _ (packageValid_iff bytes p arch).symm

/-- the rules about header bytes and payload start that built and foreign packages share, in the order they are reported -/
def commonViolation (bytes : Bytes) (p : Package) : Option String :=
  if ¬ LeadValid p.md.lead then some "lead"
  else match headerViolation 62 p.md.signature with
  | some r => some r
  | none =>
    if ¬ SigLimits p.md.signature then some "sig-limits"
    else match headerViolation 63 p.md.header with
    | some r => some r
    | none =>
      if ¬ TagTypesOk p.md.header then some "tag-type"
      else if ¬ SigPadding bytes p.md.signature then some "sig-padding"
      else if ¬ CompressorMagic p.md.header p.content then some "compressor-magic"
      else if ¬ PayloadFlagsOk p.md.header then some "payload-flags"
      else none

/-- name of the first violated rule, for the driver's diagnostics only: the driver's verdict is `decide (PackageValid …)`, and no
theorem relates `firstViolation … = none` to `PackageValid` (for the header rules alone: `headerViolation_none`). The four content
features come LAST: a package that breaks another rule as well is reported under that rule. -/
def firstViolation (bytes : Bytes) (p : Package) (arch : Bytes) : Option String :=
  match commonViolation bytes p with
  | some r => some r
  | none =>
    if !allDeclared p.md.header (structFeatures p.md.header (hasFiles p.md.header)) then some "rpmlib"
    else match cpioViolation p.md.header arch with
    | some e => some e.name
    | none => contentViolation p.md.header

/-! ## foreign packages (rpm-built): what rpm guarantees about archive vs header

A package rpm built may omit `%ghost` files from the archive, store hard-link sets with the content on the
last member only, name files without the "./" prefix (source packages), and old ones carry MD5 digests.
For such packages the header rules, the limits, the tag types, the padding, the compressor magic, the flags and the rpmlib rule are
checked as above (`prefixed` = what the archive actually does); of the cpio rules only this is demanded: the archive is a
well-formed sequence of newc entries up to `TRAILER!!!`, every entry names a file of the header (with or
without the prefix), the files appear in header order, modes agree, and sizes agree except on members of a
hard-link set that carry no data. -/

/-- index ≥ `from` of the header file an archive name denotes: "." ++ path, or the path itself
(source packages: the base name) -/
def findFile (fs : List FileExp) (start : Nat) (name : Bytes) : Option Nat :=
  let cands := [name, [46] ++ name, [46, 47] ++ name]
  ((fs.zipIdx).find? fun x => x.2 ≥ start && cands.contains x.1.name).map (·.2)

def cpioCheckForeign (fs : List FileExp) : Nat → Nat → Bytes → Option CpioErr
  | 0, _, _ => some .trailer
  | fuel + 1, start, bs =>
    match readEntry bs with
    | some (.newc name mode nlink size, r) =>
      if name = trailerName then none else
      match findFile fs start name with
      | none => some .order
      | some i =>
        match fs[i]? with
        | none => some .order
        | some f =>
          if mode % 65536 ≠ f.mode then some .entry
          else if size ≠ f.size ∧ ¬ (nlink > 1 ∧ size = 0) then some .entry
          else match skipData size r with
            | some r' => cpioCheckForeign fs fuel (i + 1) r'
            | none => some .entry
    | some (.stripped idx, r) =>
      if idx = 4294967295 then none
      else if idx < start then some .order
      else match fs[idx]? with
        | none => some .order
        | some f => match skipData f.size r with
          | some r' => cpioCheckForeign fs fuel (idx + 1) r'
          | none => some .entry
    | none => some .entry

def cpioViolationForeign (h : Header) (arch : Bytes) : Option CpioErr :=
  match headerFiles h with
  | none => some .entry
  | some fs => cpioCheckForeign fs (fs.length + 1) 0 arch

/-- does the archive name its first file with the "./" prefix? -/
def archivePrefixed (arch : Bytes) : Bool :=
  match readEntry arch with
  | some (.newc name _ _ _, _) => name ≠ trailerName && (name.take 2 == [46, 47])
  | _ => false

structure ForeignValid (bytes : Bytes) (p : Package) (arch : Bytes) : Prop where
  lead : LeadValid p.md.lead
  sig : HeaderValid 62 p.md.signature
  siglim : SigLimits p.md.signature
  hdr : HeaderValid 63 p.md.header
  tagtypes : TagTypesOk p.md.header
  pad : SigPadding bytes p.md.signature
  magic : CompressorMagic p.md.header p.content
  flags : PayloadFlagsOk p.md.header
  rpmlib : RpmlibDeclared p.md.header (archivePrefixed arch)
  cpio : cpioViolationForeign p.md.header arch = none

instance (bytes : Bytes) (p : Package) (arch : Bytes) : Decidable (ForeignValid bytes p arch) :=
  decidable_of_iff (LeadValid p.md.lead ∧ HeaderValid 62 p.md.signature ∧ SigLimits p.md.signature ∧ HeaderValid 63 p.md.header ∧
     TagTypesOk p.md.header ∧ SigPadding bytes p.md.signature ∧ CompressorMagic p.md.header p.content ∧
     PayloadFlagsOk p.md.header ∧ RpmlibDeclared p.md.header (archivePrefixed arch) ∧ cpioViolationForeign p.md.header arch = none)
  ⟨fun ⟨a, b, c, d, e, f, g, h, i, j⟩ => ⟨a, b, c, d, e, f, g, h, i, j⟩,
   fun v => ⟨v.lead, v.sig, v.siglim, v.hdr, v.tagtypes, v.pad, v.magic, v.flags, v.rpmlib, v.cpio⟩⟩

def firstViolationForeign (bytes : Bytes) (p : Package) (arch : Bytes) : Option String :=
  match commonViolation bytes p with
  | some r => some r
  | none =>
    if !allDeclared p.md.header (structFeatures p.md.header (archivePrefixed arch)) then some "rpmlib"
    else match cpioViolationForeign p.md.header arch with
    | some e => some e.name
    | none => contentViolation p.md.header

end RpmVerif.RpmValid
