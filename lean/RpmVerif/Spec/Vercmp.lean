import RpmVerif.Model.Vercmp
/-!
# Spec for C13: rpm's `rpmvercmp` (transcribed from rpm's `rpmio/rpmvercmp.c`, DESIGN App. C)
and the token-key view used to get the order laws.

`cLoop` follows the C `while (*one || *two)` loop over bytes (byte values as `Nat`, not bounded by 256); `key` maps a
string to its token list (`tilde < end < caret < alpha _ < num _`), every list ending in `end`.

The transcription is NOT independent of the model: it imports `Model/Vercmp.lean`, uses its character classes `isDigit`,
`isAlpha`, `isSep` and the same `takeWhile` / `dropWhile` expressions for a digit or letter segment. What differs from
`rustLoop` is the order of the end / `~` / `^` tests, so `rust_eq_c` compares the control flow of the two loops; a wrong
letter range would cancel on both sides. What ties `cLoop` (and through it the model) to rpm is the vendored vector
tables checked in `Props/C13.lean` (`vectors_ok`, `libsolv_vectors_ok`, `libsolv_evr_vectors_ok`).
The C line `if (one == str1) return -1;` ("cannot happen") has no counterpart: the segment of `one` starts with the
character that chose the branch, so it is never empty.
-/
set_option linter.unusedVariables false
namespace RpmVerif.Vercmp
open Std

theorem dw_sep_head {a : List Nat} {x r} (h : a.dropWhile isSep = x :: r) : isSep x = false := by
  have := List.head?_dropWhile_not isSep a
  rw [h] at this
  simpa using this

/-- result of C `strcmp` on two runs, as a sign -/
def strcmp (a b : List Nat) : Ordering := compare a b

/-- rpmvercmp's main loop. `one`/`two` are the remaining bytes. -/
def cLoop (one two : List Nat) : Ordering :=
  -- while (*one && !risalnum(*one) && *one != '~' && *one != '^') one++;   (same for two)
  match h5 : one.dropWhile isSep, h6 : two.dropWhile isSep with
  | [], [] => .eq                         -- loop ends; both exhausted
  | [], y :: rb =>
      if y = 126 then .gt                 -- *two == '~', *one != '~' → 1
      else if y = 94 then .lt             -- caret: !*one → -1
      else .lt                            -- break; return *one ? 1 : -1
  | x :: ra, [] =>
      if x = 126 then .lt
      else if x = 94 then .gt             -- !*two → 1
      else .gt
  | x :: ra, y :: rb =>
    if x = 126 ∨ y = 126 then
      if x ≠ 126 then .gt
      else if y ≠ 126 then .lt
      else cLoop ra rb
    else if x = 94 ∨ y = 94 then
      if x ≠ 94 then .gt
      else if y ≠ 94 then .lt
      else cLoop ra rb
    else if hd : isDigit x then
      -- seg1 is the digit run of one (non-empty), seg2 the digit run of two
      if hy : isDigit y then
        let n1 := ((x :: ra).takeWhile isDigit).dropWhile (· == 48)
        let n2 := ((y :: rb).takeWhile isDigit).dropWhile (· == 48)
        if n1.length > n2.length then .gt
        else if n2.length > n1.length then .lt
        else match strcmp n1 n2 with
          | .eq => cLoop ((x :: ra).dropWhile isDigit) ((y :: rb).dropWhile isDigit)
          | o => o
      else .gt                            -- seg2 empty, isnum → 1
    else
      if hy : isAlpha y then
        match strcmp ((x :: ra).takeWhile isAlpha) ((y :: rb).takeWhile isAlpha) with
        | .eq => cLoop ((x :: ra).dropWhile isAlpha) ((y :: rb).dropWhile isAlpha)
        | o => o
      else .lt                            -- seg2 empty, !isnum → -1
termination_by one.length + two.length
decreasing_by
  · have h := dw_le isSep one; have h' := dw_le isSep two; rw [h5] at h; rw [h6] at h'
    simp at h h'; omega
  · have h := dw_le isSep one; have h' := dw_le isSep two; rw [h5] at h; rw [h6] at h'
    simp at h h'; omega
  · have := dw_lt (r := ra) hd; have := dw_le isDigit (y :: rb)
    have h := dw_le isSep one; have h' := dw_le isSep two; rw [h5] at h; rw [h6] at h'; omega
  · have := dw_lt (r := rb) hy; have := dw_le isAlpha (x :: ra)
    have h := dw_le isSep one; have h' := dw_le isSep two; rw [h5] at h; rw [h6] at h'; omega

/-- `rpmvercmp(a, b)` : `if (rstreq(a, b)) return 0;` then the loop. -/
def cVercmp (a b : List Nat) : Ordering := if a = b then .eq else cLoop a b

abbrev K := Nat × Nat × List Nat
def cmpK : K → K → Ordering :=
  compareLex (compareOn (·.1)) (compareLex (compareOn (·.2.1)) (compareOn (·.2.2)))

instance : TransCmp cmpK := by unfold cmpK; infer_instance

/-- rank 0 tilde, 1 end, 2 caret, 3 alpha run, 4 numeric run (length first, then digits) -/
def key (a : List Nat) : List K :=
  match h : a.dropWhile isSep with
  | [] => [(1, 0, [])]
  | x :: r =>
    if x = 126 then (0, 0, []) :: key r
    else if x = 94 then (2, 0, []) :: key r
    else if hd : isDigit x then
      (4, (((x :: r).takeWhile isDigit).dropWhile (· == 48)).length,
          ((x :: r).takeWhile isDigit).dropWhile (· == 48)) :: key ((x :: r).dropWhile isDigit)
    else
      (3, 0, (x :: r).takeWhile isAlpha) :: key ((x :: r).dropWhile isAlpha)
termination_by a.length
decreasing_by
  · have h' := dw_le isSep a; rw [h] at h'; simp at h'; omega
  · have h' := dw_le isSep a; rw [h] at h'; simp at h'; omega
  · have := dw_lt (r := r) hd; have h' := dw_le isSep a; rw [h] at h'; omega
  · have hs := dw_sep_head h
    have ha : isAlpha x = true := by
      simp only [isSep] at hs
      simp_all
    have := dw_lt (r := r) ha; have h' := dw_le isSep a; rw [h] at h'; omega

/-- lexicographic comparison of token lists: the reference order -/
def keyCmp (a b : List Nat) : Ordering := List.compareLex cmpK (key a) (key b)

end RpmVerif.Vercmp
