import RpmVerif.Model.Header
/-!
# L2: the typed getters of `Header<T>` — model of `src/rpm/headers/header.rs`
`find_entry_or_err`, `get_entry_data_as_{binary,string,i18n_string,u16_array,u32,u32_array,u64,u64_array,
string_array}` and the `IndexData::as_*` projections they call.

* the FIRST index entry whose tag equals the requested one decides (`iter().find(..)`); later
  duplicates are never looked at;
* no entry → `Error::TagNotFound` (class `notfound`);
* entry of another data type → `Error::UnexpectedTagDataType` (class `wrongtype`); `as_u32`, `as_u64`
  and `as_i18n_str` take the first element, so an EMPTY array of the right type is `wrongtype` too;
* `as_string_array` accepts both STRING_ARRAY and I18NSTRING data.

None of them can panic. Strings are the bytes of the Rust `String` (as in `Model/Header.lean`).
-/
namespace RpmVerif.Hdr

/-- `find_entry_or_err` -/
def findEntry (h : Header) (tag : Nat) : Out Entry :=
  match h.entries.find? (fun e => e.tag == tag) with
  | some e => .ok e
  | none => .err "notfound"

/-- `entry_is_present` -/
def entryIsPresent (h : Header) (tag : Nat) : Bool := h.entries.any (fun e => e.tag == tag)

/-! ### `IndexData::as_*` -/
def IndexData.asBinary : IndexData → Option Bytes | .bin d => some d | _ => none
def IndexData.asStr : IndexData → Option Bytes | .str s => some s | _ => none
def IndexData.asI18nStr : IndexData → Option Bytes | .i18n l => l.head? | _ => none
def IndexData.asU16Array : IndexData → Option (List Nat) | .int16 d => some d | _ => none
def IndexData.asU32 : IndexData → Option Nat | .int32 d => d.head? | _ => none
def IndexData.asU32Array : IndexData → Option (List Nat) | .int32 d => some d | _ => none
def IndexData.asU64 : IndexData → Option Nat | .int64 d => d.head? | _ => none
def IndexData.asU64Array : IndexData → Option (List Nat) | .int64 d => some d | _ => none
def IndexData.asStringArray : IndexData → Option (List Bytes)
  | .strArray l => some l | .i18n l => some l | _ => none

/-- the common shape of every getter: find, project, `ok_or_else(UnexpectedTagDataType)` -/
def getWith {α} (proj : IndexData → Option α) (h : Header) (tag : Nat) : Out α := do
  let e ← findEntry h tag
  match proj e.data with
  | some a => pure a
  | none => .err "wrongtype"

def getBinary : Header → Nat → Out Bytes := getWith IndexData.asBinary
def getString : Header → Nat → Out Bytes := getWith IndexData.asStr
def getI18nString : Header → Nat → Out Bytes := getWith IndexData.asI18nStr
def getU16Array : Header → Nat → Out (List Nat) := getWith IndexData.asU16Array
def getU32 : Header → Nat → Out Nat := getWith IndexData.asU32
def getU32Array : Header → Nat → Out (List Nat) := getWith IndexData.asU32Array
def getU64 : Header → Nat → Out Nat := getWith IndexData.asU64
def getU64Array : Header → Nat → Out (List Nat) := getWith IndexData.asU64Array
def getStringArray : Header → Nat → Out (List Bytes) := getWith IndexData.asStringArray

theorem findEntry_not_panic (h : Header) (tag : Nat) : (findEntry h tag).isPanic = false := by
  unfold findEntry; split <;> rfl

theorem getWith_find {α} (proj : IndexData → Option α) (h : Header) (tag : Nat) :
    getWith proj h tag =
      match h.entries.find? (fun e => e.tag == tag) with
      | none => .err "notfound"
      | some e => match proj e.data with
        | some a => .ok a
        | none => .err "wrongtype" := by
  unfold getWith findEntry
  cases h.entries.find? (fun e => e.tag == tag) with
  | none => rfl
  | some e => cases proj e.data <;> rfl

theorem getWith_not_panic {α} (proj : IndexData → Option α) (h : Header) (tag : Nat) :
    (getWith proj h tag).isPanic = false := by
  rw [getWith_find]
  split
  · rfl
  · split <;> rfl

theorem getWith_eq_ok {α} {proj : IndexData → Option α} {h : Header} {tag : Nat} {a : α} :
    getWith proj h tag = .ok a ↔
      ∃ e, h.entries.find? (fun e => e.tag == tag) = some e ∧ proj e.data = some a := by
  rw [getWith_find]
  cases h.entries.find? (fun e => e.tag == tag) with
  | none => simp
  | some e =>
    simp only [Option.some.injEq, exists_eq_left']
    cases proj e.data <;> simp

theorem getWith_ok_or_err {α} (proj : IndexData → Option α) (h : Header) (tag : Nat) :
    (∃ a, getWith proj h tag = .ok a) ∨ getWith proj h tag = .err "notfound" ∨ getWith proj h tag = .err "wrongtype" := by
  rw [getWith_find]
  split
  · exact .inr (.inl rfl)
  · split
    · exact .inl ⟨_, rfl⟩
    · exact .inr (.inr rfl)

end RpmVerif.Hdr
