/-!
# Basic layer (L0): bytes, the `Out` outcome monad, big-endian codecs.

Import-free (core only) so the driver links as a `lean_exe`.
`Out` makes Rust's three observable endings explicit: a value, an `Err(..)`, or a panic
(slice out of range, `unwrap` on `None`, arithmetic overflow under `overflow-checks`).
In file order: `Out` and its rules for `do` blocks, `if`s and `map`; `be16/32/64`, the readers `rd8 … rd64`, `takeN`, and the
lemmas that each reader and its writer undo each other; two list facts used across the development; the hex text helpers
of the driver.
-/
namespace RpmVerif

abbrev Bytes := List UInt8

/-- error classes kept coarse on purpose: only what a property distinguishes -/
inductive Out (α : Type) where
  | ok (a : α)
  | err (cls : String)
  | panic (site : String)
  deriving Repr, DecidableEq

namespace Out
def isOk {α} : Out α → Bool | .ok _ => true | _ => false
def isErr {α} : Out α → Bool | .err _ => true | _ => false
def isPanic {α} : Out α → Bool | .panic _ => true | _ => false
def toOption {α} : Out α → Option α | .ok a => some a | _ => none
/-- canonical class text used on the wire -/
def cls {α} : Out α → String
  | .ok _ => "ok" | .err c => "err:" ++ c | .panic s => "panic:" ++ s
def map {α β} (f : α → β) : Out α → Out β
  | .ok a => .ok (f a) | .err c => .err c | .panic s => .panic s
end Out

instance : Monad Out where
  pure := .ok
  bind x f := match x with | .ok a => f a | .err c => .err c | .panic s => .panic s

@[simp] theorem Out.bind_ok {α β} (a : α) (f : α → Out β) : (Out.ok a >>= f) = f a := rfl
@[simp] theorem Out.bind_err {α β} (c : String) (f : α → Out β) : (Out.err c >>= f) = .err c := rfl
@[simp] theorem Out.bind_panic {α β} (c : String) (f : α → Out β) : (Out.panic c >>= f) = .panic c := rfl
@[simp] theorem Out.pure_eq {α} (a : α) : (pure a : Out α) = .ok a := rfl

theorem Out.bind_eq_ok {α β} {x : Out α} {f : α → Out β} {b : β} :
    (x >>= f) = .ok b ↔ ∃ a, x = .ok a ∧ f a = .ok b := by
  cases x <;> simp [bind]

theorem Out.bind_isPanic {α β} {x : Out α} {f : α → Out β} :
    (x >>= f).isPanic = true ↔ x.isPanic = true ∨ ∃ a, x = .ok a ∧ (f a).isPanic = true := by
  cases x <;> simp [bind, Out.isPanic]

theorem Out.bind_not_panic {α β} {x : Out α} {f : α → Out β}
    (hx : x.isPanic = false) (hf : ∀ a, x = .ok a → (f a).isPanic = false) : (x >>= f).isPanic = false := by
  cases x with
  | ok a => exact hf a rfl
  | err c => rfl
  | panic s => simp [Out.isPanic] at hx

theorem Out.bind_eq_of_ok {α β} {x : Out α} {a : α} {f : α → Out β} {y : Out β} (hx : x = .ok a)
    (hf : f a = y) : (x >>= f) = y := by
  rw [hx]; exact hf

theorem Out.ite_eq_ok {α} {c : Prop} [Decidable c] {a b : Out α} {y : α} (h : (if c then a else b) = .ok y) :
    (c ∧ a = .ok y) ∨ (¬c ∧ b = .ok y) := by
  by_cases hc : c
  · exact .inl ⟨hc, (if_pos hc).symm.trans h⟩
  · exact .inr ⟨hc, (if_neg hc).symm.trans h⟩

theorem Out.ite_err_eq_ok {α} {c : Prop} [Decidable c] {s : String} {b : Out α} {y : α}
    (h : (if c then .err s else b) = .ok y) : ¬c ∧ b = .ok y :=
  (Out.ite_eq_ok h).resolve_left fun h => nomatch h.2

theorem Out.map_isPanic {α β : Type} (f : α → β) (x : Out α) : (x.map f).isPanic = x.isPanic := by
  cases x <;> rfl

theorem Out.map_eq_ok {α β} {f : α → β} {x : Out α} {b : β} : x.map f = .ok b ↔ ∃ a, x = .ok a ∧ f a = b := by
  cases x <;> simp [Out.map]

theorem Out.ite_not_panic {α} {c : Prop} [Decidable c] {x y : Out α} (hx : c → x.isPanic = false) (hy : ¬ c → y.isPanic = false) :
    (if c then x else y).isPanic = false := by
  split
  · exact hx ‹_›
  · exact hy ‹_›

theorem Out.map_not_panic {α β} {f : α → β} {x : Out α} (h : x.isPanic = false) : (x.map f).isPanic = false :=
  (Out.map_isPanic f x).trans h

theorem Out.bind_pair_not_panic {α β γ} {x : Out (α × β)} {f : α × β → Out γ} (hx : x.isPanic = false)
    (hf : ∀ a b, x = .ok (a, b) → (f (a, b)).isPanic = false) : (x >>= f).isPanic = false :=
  Out.bind_not_panic hx fun ⟨a, b⟩ h => hf a b h

/-! ## big-endian integers -/

def be16 (n : Nat) : Bytes := [(n / 256 % 256).toUInt8, (n % 256).toUInt8]
def be32 (n : Nat) : Bytes :=
  [(n / 16777216 % 256).toUInt8, (n / 65536 % 256).toUInt8, (n / 256 % 256).toUInt8, (n % 256).toUInt8]
def be64 (n : Nat) : Bytes := be32 (n / 4294967296 % 4294967296) ++ be32 (n % 4294967296)

/-- nom `be_u8` : `Error(Eof)` on short input -/
def rd8 : Bytes → Out (Nat × Bytes)
  | a :: r => .ok (a.toNat, r)
  | _ => .err "eof"
def rd16 : Bytes → Out (Nat × Bytes)
  | a :: b :: r => .ok (a.toNat * 256 + b.toNat, r)
  | _ => .err "eof"
def rd32 : Bytes → Out (Nat × Bytes)
  | a :: b :: c :: d :: r => .ok (a.toNat * 16777216 + b.toNat * 65536 + c.toNat * 256 + d.toNat, r)
  | _ => .err "eof"
def rd64 (bs : Bytes) : Out (Nat × Bytes) := do
  let (hi, bs) ← rd32 bs
  let (lo, bs) ← rd32 bs
  pure (hi * 4294967296 + lo, bs)

/-- nom `take(n)` -/
def takeN (n : Nat) (bs : Bytes) : Out (Bytes × Bytes) :=
  if n ≤ bs.length then .ok (bs.take n, bs.drop n) else .err "eof"

theorem toUInt8_toNat (a : UInt8) : a.toNat.toUInt8 = a :=
  UInt8.toNat_inj.mp (by rw [Nat.toUInt8, UInt8.toNat_ofNat']; exact Nat.mod_eq_of_lt a.toNat_lt)

theorem toNat_toUInt8 {n : Nat} (h : n < 256) : n.toUInt8.toNat = n := by
  rw [Nat.toUInt8, UInt8.toNat_ofNat', Nat.mod_eq_of_lt h]

theorem toNat_toUInt8_mod (m : Nat) : (m % 256).toUInt8.toNat = m % 256 :=
  toNat_toUInt8 (Nat.mod_lt _ (by decide))

theorem divMod_unique {B q r x : Nat} (hr : r < B) (h : q * B + r = x) : x / B = q ∧ x % B = r := by
  subst h
  rw [Nat.mul_comm, Nat.mul_add_div (by omega), Nat.mul_add_mod, Nat.div_eq_of_lt hr, Nat.mod_eq_of_lt hr]
  exact ⟨rfl, rfl⟩

theorem div_65536 (n : Nat) : n / 256 / 256 = n / 65536 := Nat.div_div_eq_div_mul ..
theorem div_16777216 (n : Nat) : n / 65536 / 256 = n / 16777216 := Nat.div_div_eq_div_mul ..

/-- the value `rd32` computes, in Horner form -/
theorem horner4 (a b c d : Nat) :
    a * 16777216 + b * 65536 + c * 256 + d = ((a * 256 + b) * 256 + c) * 256 + d := by omega

theorem be32_digits {a b c d n : Nat} (ha : a < 256) (hb : b < 256) (hc : c < 256) (hd : d < 256)
    (h : ((a * 256 + b) * 256 + c) * 256 + d = n) :
    n / 16777216 % 256 = a ∧ n / 65536 % 256 = b ∧ n / 256 % 256 = c ∧ n % 256 = d ∧ n < 4294967296 := by
  obtain ⟨e1, m0⟩ := divMod_unique hd h
  obtain ⟨e2, m1⟩ := divMod_unique hc e1.symm
  obtain ⟨e3, m2⟩ := divMod_unique hb e2.symm
  rw [div_65536 n] at e3 m2
  rw [div_16777216] at e3
  exact ⟨by rw [e3]; exact Nat.mod_eq_of_lt ha, m2, m1, m0, (Nat.div_lt_iff_lt_mul (by decide)).mp (e3 ▸ ha)⟩

theorem be32_value {n : Nat} (h : n < 4294967296) :
    ((n / 16777216 % 256 * 256 + n / 65536 % 256) * 256 + n / 256 % 256) * 256 + n % 256 = n := by
  rw [Nat.mod_eq_of_lt (a := n / 16777216) (Nat.div_lt_of_lt_mul h), ← div_16777216, Nat.div_add_mod',
    ← div_65536, Nat.div_add_mod', Nat.div_add_mod']

theorem rd32_ok {bs n r} (h : rd32 bs = .ok (n, r)) : bs = be32 n ++ r ∧ n < 4294967296 := by
  match bs, h with
  | a :: b :: c :: d :: r', h =>
    simp only [rd32, Out.ok.injEq, Prod.mk.injEq, horner4] at h
    obtain ⟨hn, rfl⟩ := h
    obtain ⟨e0, e1, e2, e3, lt⟩ := be32_digits a.toNat_lt b.toNat_lt c.toNat_lt d.toNat_lt hn
    refine ⟨?_, lt⟩
    simp only [be32, e0, e1, e2, e3, toUInt8_toNat, List.cons_append, List.nil_append]

theorem rd32_be32 {n} (h : n < 4294967296) (r : Bytes) : rd32 (be32 n ++ r) = .ok (n, r) := by
  simp only [be32, rd32, List.cons_append, List.nil_append, toNat_toUInt8_mod, horner4, be32_value h]

theorem be32_length (n : Nat) : (be32 n).length = 4 := rfl

theorem rd32_length {bs n r} (h : rd32 bs = .ok (n, r)) : bs.length = r.length + 4 := by
  obtain ⟨rfl, _⟩ := rd32_ok h
  simp [be32_length]; omega

theorem rd32_not_panic (bs : Bytes) : (rd32 bs).isPanic = false := by
  unfold rd32; split <;> rfl

theorem rd8_ok {bs n r} (h : rd8 bs = .ok (n, r)) : bs = [n.toUInt8] ++ r ∧ n < 256 := by
  match bs, h with
  | a :: r', h =>
    simp only [rd8, Out.ok.injEq, Prod.mk.injEq] at h
    obtain ⟨rfl, rfl⟩ := h
    exact ⟨by rw [toUInt8_toNat]; rfl, a.toNat_lt⟩

theorem rd8_write {n} (h : n < 256) (r : Bytes) : rd8 ([n.toUInt8] ++ r) = .ok (n, r) := by
  simp only [rd8, List.cons_append, List.nil_append, toNat_toUInt8 h]

theorem rd16_ok {bs n r} (h : rd16 bs = .ok (n, r)) : bs = be16 n ++ r ∧ n < 65536 := by
  match bs, h with
  | a :: b :: r', h =>
    simp only [rd16, Out.ok.injEq, Prod.mk.injEq] at h
    obtain ⟨hn, rfl⟩ := h
    obtain ⟨e1, e0⟩ := divMod_unique b.toNat_lt hn
    refine ⟨?_, (Nat.div_lt_iff_lt_mul (by decide)).mp (e1 ▸ a.toNat_lt)⟩
    simp only [be16, e0, e1, Nat.mod_eq_of_lt a.toNat_lt, toUInt8_toNat, List.cons_append, List.nil_append]

theorem rd16_be16 {n} (h : n < 65536) (r : Bytes) : rd16 (be16 n ++ r) = .ok (n, r) := by
  simp only [be16, rd16, List.cons_append, List.nil_append, toNat_toUInt8_mod]
  rw [Nat.mod_eq_of_lt (a := n / 256) (Nat.div_lt_of_lt_mul h), Nat.div_add_mod']

theorem rd64_ok {bs n r} (h : rd64 bs = .ok (n, r)) : bs = be64 n ++ r ∧ n < 18446744073709551616 := by
  simp only [rd64, Out.bind_eq_ok] at h
  obtain ⟨⟨hi, b1⟩, h1, ⟨lo, b2⟩, h2, h⟩ := h
  dsimp only at h2 h
  simp only [Out.pure_eq, Out.ok.injEq, Prod.mk.injEq] at h
  obtain ⟨hn, rfl⟩ := h
  obtain ⟨rfl, t1⟩ := rd32_ok h1
  obtain ⟨rfl, t2⟩ := rd32_ok h2
  obtain ⟨e1, e0⟩ := divMod_unique t2 hn
  refine ⟨?_, (Nat.div_lt_iff_lt_mul (by decide)).mp (e1 ▸ t1)⟩
  simp only [be64, e0, e1, Nat.mod_eq_of_lt t1, List.append_assoc]

theorem rd64_be64 {n} (h : n < 18446744073709551616) (r : Bytes) : rd64 (be64 n ++ r) = .ok (n, r) := by
  have hn : n / 4294967296 % 4294967296 * 4294967296 + n % 4294967296 = n := by
    rw [Nat.mod_eq_of_lt (a := n / 4294967296) (Nat.div_lt_of_lt_mul h), Nat.div_add_mod']
  simp only [be64, rd64, List.append_assoc, rd32_be32 (Nat.mod_lt _ (by decide : 0 < 4294967296)), Out.bind_ok,
    Out.pure_eq, hn]

theorem takeN_ok {n bs a r} (h : takeN n bs = .ok (a, r)) : bs = a ++ r ∧ a.length = n := by
  unfold takeN at h
  split at h
  · simp only [Out.ok.injEq, Prod.mk.injEq] at h
    obtain ⟨rfl, rfl⟩ := h
    exact ⟨(List.take_append_drop n bs).symm, by simp; omega⟩
  · cases h

theorem takeN_append (a r : Bytes) : takeN a.length (a ++ r) = .ok (a, r) := by
  simp [takeN]

theorem takeN_length {n bs a r} (h : takeN n bs = .ok (a, r)) : bs.length = n + r.length := by
  obtain ⟨rfl, rfl⟩ := takeN_ok h
  exact List.length_append

theorem rd8_length {bs n r} (h : rd8 bs = .ok (n, r)) : bs.length = 1 + r.length := by
  obtain ⟨rfl, _⟩ := rd8_ok h
  exact List.length_append

theorem rd16_length {bs n r} (h : rd16 bs = .ok (n, r)) : bs.length = 2 + r.length := by
  obtain ⟨rfl, _⟩ := rd16_ok h
  exact List.length_append

/-! ## list facts -/

theorem le_sum_of_mem {l : List Nat} {n : Nat} (h : n ∈ l) : n ≤ l.sum := by
  induction l with
  | nil => cases h
  | cons a l ih =>
    rw [List.sum_cons]
    rcases List.mem_cons.mp h with rfl | h'
    · omega
    · have := ih h'; omega

theorem mem_of_lookup_eq_some {α β} [BEq α] [LawfulBEq α] {l : List (α × β)} {k : α} {v : β} (h : l.lookup k = some v) :
    (k, v) ∈ l := by
  obtain ⟨l₁, l₂, rfl, _⟩ := List.lookup_eq_some_iff.mp h
  exact List.mem_append_right _ List.mem_cons_self

/-! ## text helpers for the driver (not used in theorems) -/

def hexDigit (n : Nat) : Char := if n < 10 then Char.ofNat (48 + n) else Char.ofNat (87 + n)
def hexOfBytes (bs : Bytes) : String :=
  String.ofList (bs.flatMap fun b => [hexDigit (b.toNat / 16), hexDigit (b.toNat % 16)])
def hexVal (c : Char) : Option Nat :=
  if '0' ≤ c ∧ c ≤ '9' then some (c.toNat - 48)
  else if 'a' ≤ c ∧ c ≤ 'f' then some (c.toNat - 87)
  else if 'A' ≤ c ∧ c ≤ 'F' then some (c.toNat - 55) else none
def bytesOfHexAux : List Char → List UInt8 → Option (List UInt8)
  | [], acc => some acc.reverse
  | [_], _ => none
  | a :: b :: r, acc => match hexVal a, hexVal b with
    | some x, some y => bytesOfHexAux r ((x * 16 + y).toUInt8 :: acc)
    | _, _ => none
/-- "-" encodes the empty byte string on the wire -/
def bytesOfHex (s : String) : Option Bytes :=
  if s = "-" then some [] else bytesOfHexAux s.toList []
def hexOrDash (bs : Bytes) : String := if bs.isEmpty then "-" else hexOfBytes bs

end RpmVerif
