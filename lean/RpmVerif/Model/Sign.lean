import RpmVerif.Model.Builder
import RpmVerif.Model.Getters
import RpmVerif.Model.Digest
import RpmVerif.Model.PgpFraming
import RpmVerif.Gen.SigLegacyTags
/-!
# L4: signing histories — model of `Package::{sign_with_timestamp, clear_signatures, verify_signature,
signature_key_ids}` (`src/rpm/package.rs`) over an ABSTRACT signature scheme

The OpenPGP implementation (`pgp` crate: `Signer::sign`, `Verifier::verify`, `parse_signature` / `issuer`,
base64 armour of the `OPENPGP` entries) is a PARAMETER (`SigScheme`); what is assumed about it is stated as
named propositions (`Correct`, `Binds`, `IssuerOk`, `B64`, …) and appears as hypotheses of the theorems in
`Props/C10.lean`. SHA-256 (and MD5 / SHA-1 for `verify_digests`) are parameters as well.

Mirrored code, branch by branch:

* `sign_with_timestamp`: serialise the MAIN header only; `hex(sha256(header))`; `signer.sign(header, t)`;
  `SignatureHeaderBuilder::new().set_sha256_digest(..).add_openpgp_signature(sig).build()` — one OPENPGP
  string-array entry holding the base64 text, the legacy tag chosen by the key algorithm (RSA → 268,
  ECDSA / EdDSA → 267) holding the raw signature, the SHA256 entry; the WHOLE signature header is replaced.
* `clear_signatures`: the same builder with the digest only.
* `verify_signature`: `verify_digests()?` first; then, if the OPENPGP string array can be read: empty → error,
  every entry must decode and verify (over the main header bytes); otherwise the legacy tags: none of
  RSA / DSA / PGP readable → `NoSignatureFound`; DSA, then RSA (header only), then PGP (header ++ content)
  must each verify when readable.
* `signature_key_ids` (after fix 1e6a530): OPENPGP branch: per entry decode, parse, the issuer list of THAT
  signature must have exactly one element; legacy branch: RSA, then DSA, then PGP — the last readable tag
  wins, even over an earlier one that parsed — exactly one issuer. Another count is reported as
  `UnexpectedIssuerCount(n as u32)` through `try_into().unwrap()` (`issuerCountErr`: a panic from 2^32 issuers on).
  The OPENPGP loop decodes base64 with an inline `Base64Decoder` of its own (`package.rs:297`), not `decode_sig`: the
  model has ONE `b64dec`; the two sites are tied by the `vsig` / `sigpkts` runs of C02, which predict `verify_signature`
  and `signature_key_ids` of the same package from the same decoding table.
* `verifyWith` and C02's `Verify.verifySignatureS` mirror the same function: `Lemmas/Sign.lean:
  verifyWith_eq_verifySignatureS` (same result, same error class).
-/
namespace RpmVerif.Sign
open RpmVerif.Hdr RpmVerif.Gen RpmVerif.Digest

/-- the OpenPGP layer as a parameter -/
structure SigScheme where
  Key : Type
  decEq : DecidableEq Key
  /-- `Signer::sign(data, t)`: the serialised signature packet -/
  sign : Key → Bytes → Nat → Bytes
  /-- `Verifier::verify(data, signature).is_ok()` for the verifier loaded from the key's public half -/
  verify : Key → Bytes → Bytes → Bool
  /-- `parse_signature(sig)` then `.issuer()` as key-id bytes; `none` = no signature packet could be parsed -/
  issuer : Bytes → Option (List Bytes)
  /-- key id of the key's primary key -/
  keyId : Key → Bytes
  /-- the legacy tag `SignatureHeaderBuilder::build` picks from the signature's public-key algorithm -/
  legacyTag : Key → Nat
  /-- `encode_sig` (standard base64) and `decode_sig` (`Base64Decoder`; `none` = I/O error) on text bytes -/
  b64enc : Bytes → Bytes
  b64dec : Bytes → Option Bytes

instance (S : SigScheme) : DecidableEq S.Key := S.decEq

namespace SigScheme
variable (S : SigScheme)

/-- a signature verifies with the key that made it over the data it was made for -/
def Correct : Prop := ∀ k m t, S.verify k m (S.sign k m t) = true
/-- … and with no other key and over no other data (an idealisation: forgeries exist, they are only hard to find, and two
`Key` values may load the same certificate; it is the load-bearing hypothesis of `history_verify`) -/
def Binds : Prop := ∀ k k' m m' t, S.verify k' m' (S.sign k m t) = true → k' = k ∧ m' = m
/-- a fresh signature names exactly its signer as issuer -/
def IssuerOk : Prop := ∀ k m t, S.issuer (S.sign k m t) = some [S.keyId k]
/-- base64 text decodes to what was encoded -/
def B64 : Prop := ∀ s, S.b64dec (S.b64enc s) = some s
/-- the builder only ever picks the RSA or the DSA legacy tag -/
def LegacyOk : Prop := ∀ k, S.legacyTag k = SigTag.RPMSIGTAG_RSA ∨ S.legacyTag k = SigTag.RPMSIGTAG_DSA

end SigScheme

/-! ### `Verifier::parse_signature` inside the scheme

`SigScheme.issuer` is an opaque function of the whole signature blob. What rpm-rs's own code does there is
`Verifier::parse_signature(blob)?` (`Pgp.parseSignature`: framing by `split_packets`, then the FIRST packet the `pgp`
crate's parser returns as a signature) followed by `.issuer()` on the parsed packet — in `signature_key_ids` — or by the
`match signature.config.pub_alg` of `SignatureHeaderBuilder::build`. `PktParser` is the `pgp` crate seen one packet at a
time; `framedIssuer` / `builderTag` are the two compositions; `SigScheme.withParser` plugs the first into a scheme. -/

/-- the `pgp` crate's packet parser, one packet at a time, and what rpm-rs reads from a parsed signature -/
structure PktParser where
  σ : Type
  /-- `PacketParser::new(Cursor::new(packet)).next()` is `Some(Ok(Packet::Signature(s)))` -/
  parsePkt : Bytes → Option σ
  /-- `s.issuer()`, each key id as the text `format!("{:x}", id)` -/
  issuers : σ → List Bytes
  /-- `u8::from(s.config.pub_alg)` -/
  pubAlg : σ → Nat

/-- `Verifier::parse_signature(sig)` then `.issuer()`; `none` = `NoSignatureFound` -/
def framedIssuer (P : PktParser) (sig : Bytes) : Option (List Bytes) :=
  (Pgp.parseSignature P.parsePkt sig).map P.issuers

/-- the scheme whose `issuer` is `parse_signature` + `issuer()` over the packet parser `P` -/
def SigScheme.withParser (S : SigScheme) (P : PktParser) : SigScheme := { S with issuer := framedIssuer P }

/-- `S.issuer` IS that composition -/
def SigScheme.Framed (S : SigScheme) (P : PktParser) : Prop := ∀ b, S.issuer b = framedIssuer P b

/-- the legacy tag `SignatureHeaderBuilder::build` picks for one signature blob: `parse_signature(sig_bytes)?`, then the
arms of `match signature.config.pub_alg` (table scraped from the source, `Gen.sigLegacyTagOfAlg`); every other
algorithm is `UnsupportedPGPKeyType` -/
def builderTag (P : PktParser) (sig : Bytes) (tbl : List (Nat × Nat) := Gen.sigLegacyTagOfAlg) : Out Nat :=
  match Pgp.parseSignature P.parsePkt sig with
  | none => .err "nosig"
  | some s =>
    match tbl.lookup (P.pubAlg s) with
    | some tag => .ok tag
    | none => .err "keytype"

/-! ### the operations -/

/-- `hex::encode(Sha256::digest(header_bytes))` -/
def shaHex (sha256 : Bytes → Bytes) (hb : Bytes) : Bytes := hexLower (sha256 hb)

/-- the records `SignatureHeaderBuilder::build` pushes for one signature plus digest -/
def signRecs (S : SigScheme) (sha256 : Bytes → Bytes) (k : S.Key) (t : Nat) (hb : Bytes) : List (Nat × IndexData) :=
  [(SigTag.RPMSIGTAG_OPENPGP, .strArray [S.b64enc (S.sign k hb t)]),
   (S.legacyTag k, .bin (S.sign k hb t)),
   (SigTag.RPMSIGTAG_SHA256, .str (shaHex sha256 hb))]

/-- … and for the digest alone -/
def clearRecs (sha256 : Bytes → Bytes) (hb : Bytes) : List (Nat × IndexData) :=
  [(SigTag.RPMSIGTAG_SHA256, .str (shaHex sha256 hb))]

/-- the signature header `sign_with_timestamp(signer k, t)` installs, given the serialised main header -/
def signedSig (S : SigScheme) (sha256 : Bytes → Bytes) (k : S.Key) (t : Nat) (hb : Bytes) : Header :=
  Bld.signatureHeader [(S.legacyTag k, S.sign k hb t, S.b64enc (S.sign k hb t))] (some (shaHex sha256 hb))

/-- the signature header `clear_signatures` installs -/
def clearedSig (sha256 : Bytes → Bytes) (hb : Bytes) : Header :=
  Bld.signatureHeader [] (some (shaHex sha256 hb))

theorem signedSig_eq (S : SigScheme) (sha256 : Bytes → Bytes) (k : S.Key) (t : Nat) (hb : Bytes) :
    signedSig S sha256 k t hb = fromEntries (signRecs S sha256 k t hb) SigTag.HEADER_SIGNATURES := rfl

theorem clearedSig_eq (sha256 : Bytes → Bytes) (hb : Bytes) :
    clearedSig sha256 hb = fromEntries (clearRecs sha256 hb) SigTag.HEADER_SIGNATURES := rfl

/-- `Package::sign_with_timestamp` on its success path; the function with its four ways out is `signOpE` (Model/SignE.lean),
and `signOpE_key` says when it is this one -/
def signOp (S : SigScheme) (sha256 : Bytes → Bytes) (k : S.Key) (t : Nat) (p : Package) : Package :=
  ⟨⟨p.md.lead, signedSig S sha256 k t (writeHeader p.md.header), p.md.header⟩, p.content⟩

/-- `Package::clear_signatures` -/
def clearOp (sha256 : Bytes → Bytes) (p : Package) : Package :=
  ⟨⟨p.md.lead, clearedSig sha256 (writeHeader p.md.header), p.md.header⟩, p.content⟩

/-- `Package::write` into a buffer, then `Package::parse` of that buffer -/
def writeParse (p : Package) : Out Package := parsePackage (writePackage p)

inductive Op (K : Type) where
  | sign (k : K) (t : Nat)
  | clear
  | writeParse
  deriving Repr

def step (S : SigScheme) (sha256 : Bytes → Bytes) : Op S.Key → Package → Out Package
  | .sign k t, p => .ok (signOp S sha256 k t p)
  | .clear, p => .ok (clearOp sha256 p)
  | .writeParse, p => writeParse p

/-- a history, applied left to right; the first failing step ends it -/
def run (S : SigScheme) (sha256 : Bytes → Bytes) : List (Op S.Key) → Package → Out Package
  | [], p => .ok p
  | o :: os, p => step S sha256 o p >>= run S sha256 os

/-- what a history leaves behind, as far as signatures go -/
inductive SigState (K : Type) where
  | initial                    -- no sign / clear yet: the start package's own signature header
  | cleared
  | signed (k : K) (t : Nat)
  deriving Repr

def SigState.after {K : Type} : SigState K → Op K → SigState K
  | _, .sign k t => .signed k t
  | _, .clear => .cleared
  | s, .writeParse => s

def stateAfter {K : Type} (s : SigState K) (ops : List (Op K)) : SigState K := ops.foldl SigState.after s

/-- the key that signed most recently with no clear since -/
def SigState.signer {K : Type} : SigState K → Option K
  | .signed k _ => some k
  | _ => none

def lastSigner {K : Type} (ops : List (Op K)) : Option K := (stateAfter .initial ops).signer

/-! ### `verify_signature` -/

/-- the `for base64_sig in openpgp_signatures` loop -/
def verifyAll (S : SigScheme) (k : S.Key) (hb : Bytes) : List Bytes → Out Unit
  | [] => .ok ()
  | b64 :: rest =>
    match S.b64dec b64 with
    | none => .err "base64"
    | some sig => if S.verify k hb sig then verifyAll S k hb rest else .err "verify"

/-- `if let Ok(sig) = tag { verifier.verify(data, sig)? }` -/
def verifyLegacy (S : SigScheme) (k : S.Key) (data : Bytes) (sig : Out Bytes) : Out Unit :=
  match sig with
  | .ok s => if S.verify k data s then .ok () else .err "verify"
  | _ => .ok ()

/-- `Package::verify_signature(verifier of k)` -/
def verifyWith (S : SigScheme) (md5 sha1 sha256 : Bytes → Bytes) (k : S.Key) (p : Package) : Out Unit := do
  let hb := writeHeader p.md.header
  verifyDigests md5 sha1 sha256 p
  match getStringArray p.md.signature SigTag.RPMSIGTAG_OPENPGP with
  | .ok sigs => if sigs.isEmpty then .err "nosig" else verifyAll S k hb sigs
  | _ =>
    let rsa := getBinary p.md.signature SigTag.RPMSIGTAG_RSA
    let dsa := getBinary p.md.signature SigTag.RPMSIGTAG_DSA
    let pgp := getBinary p.md.signature SigTag.RPMSIGTAG_PGP
    if !rsa.isOk && !dsa.isOk && !pgp.isOk then .err "nosig" else do
      verifyLegacy S k hb dsa
      verifyLegacy S k hb rsa
      verifyLegacy S k (hb ++ p.content) pgp

/-! ### `signature_key_ids` -/

/-- `Error::UnexpectedIssuerCount(n.try_into().unwrap())` (`package.rs:308-310, 351-353`): the count is narrowed from
`usize` to the `u32` the variant carries; the `unwrap` panics for a list of 2^32 or more issuers. The error class
carries the count (the harness prints the variant's field). -/
def issuerCountErr (n : Nat) : Out (List Bytes) :=
  if n < 4294967296 then .err ("issuer-count:" ++ toString n) else .panic "issuer-count-u32"

/-- `parse_signature(sig)?.issuer()` with the "exactly one issuer" test -/
def oneIssuer (S : SigScheme) (sig : Bytes) : Out (List Bytes) :=
  match S.issuer sig with
  | none => .err "nosig"
  | some ids => if ids.length ≠ 1 then issuerCountErr ids.length else .ok ids

/-- every issuer list the OpenPGP layer returns has fewer than 2^32 entries (a v4 signature's two sub-packet areas hold
at most 65535 bytes each; a v6 one's at most 2^32 - 1 bytes, ten per Issuer sub-packet): under it the `unwrap` of
`issuerCountErr` is unreachable -/
def SigScheme.IssuerSmall (S : SigScheme) : Prop := ∀ b ids, S.issuer b = some ids → ids.length < 4294967296

/-- the loop over the OPENPGP entries -/
def idsAll (S : SigScheme) : List Bytes → Out (List Bytes)
  | [] => .ok []
  | b64 :: rest =>
    match S.b64dec b64 with
    | none => .err "b64"
    | some sig => do
      let ids ← oneIssuer S sig
      let more ← idsAll S rest
      pure (ids ++ more)

/-- `if let Ok(sig) = tag { signature = parse_signature(sig) }`: a readable tag overrides what was there -/
def pickLegacy (cur : Option Bytes) (tag : Out Bytes) : Option Bytes :=
  match tag with
  | .ok s => some s
  | _ => cur

/-- `Package::signature_key_ids` -/
def keyIds (S : SigScheme) (p : Package) : Out (List Bytes) :=
  match getStringArray p.md.signature SigTag.RPMSIGTAG_OPENPGP with
  | .ok sigs => idsAll S sigs
  | _ =>
    let s := pickLegacy none (getBinary p.md.signature SigTag.RPMSIGTAG_RSA)
    let s := pickLegacy s (getBinary p.md.signature SigTag.RPMSIGTAG_DSA)
    let s := pickLegacy s (getBinary p.md.signature SigTag.RPMSIGTAG_PGP)
    match s with
    | none => .err "nosig"
    | some sig => oneIssuer S sig

end RpmVerif.Sign

/-! ### a symbolic scheme (driver + non-vacuity)

Keys are bytes; a signature is an opaque token naming its key, time and data; it verifies with exactly that
key over exactly that data. The armour maps every byte to two letters `A`..`P`. -/
namespace RpmVerif.Sign.Sym
open RpmVerif.Gen

def sign (k : UInt8) (m : Bytes) (t : Nat) : Bytes := 0x53 :: k :: (be32 t ++ m)

/-- key and data of a token -/
def parts : Bytes → Option (UInt8 × Bytes)
  | m :: k :: _ :: _ :: _ :: _ :: d => if m = 0x53 then some (k, d) else none
  | _ => none

def verify (k : UInt8) (m : Bytes) (s : Bytes) : Bool :=
  match parts s with
  | some (k', m') => k' == k && m' == m
  | none => false

/-- the key byte of a token -/
def signerOf (s : Bytes) : Option UInt8 := (parts s).map (·.1)

def encByte (b : UInt8) : Bytes := [(65 + b.toNat / 16).toUInt8, (65 + b.toNat % 16).toUInt8]
def enc (s : Bytes) : Bytes := s.flatMap encByte

def dec : Bytes → Option Bytes
  | [] => some []
  | [_] => none
  | x :: y :: r =>
    if 65 ≤ x.toNat ∧ x.toNat < 81 ∧ 65 ≤ y.toNat ∧ y.toNat < 81 then
      (dec r).map (((x.toNat - 65) * 16 + (y.toNat - 65)).toUInt8 :: ·)
    else none

/-- the scheme, for a table of key ids; keys 0 and 1 are RSA keys, all others use the DSA tag -/
def scheme (ids : UInt8 → Bytes) : SigScheme where
  Key := UInt8
  decEq := inferInstance
  sign := sign
  verify := verify
  issuer := fun s => (signerOf s).map fun k => [ids k]
  keyId := ids
  legacyTag := fun k => if k < 2 then SigTag.RPMSIGTAG_RSA else SigTag.RPMSIGTAG_DSA
  b64enc := enc
  b64dec := dec

end RpmVerif.Sign.Sym
