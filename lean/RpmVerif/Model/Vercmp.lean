import RpmVerif.Model.Basic
/-!
# Model of `src/version.rs`: `compare_version_string`, `Evr`/`Nevra` ordering and equality, and the comparison operators,
`max` and `min` that `core::cmp` provides over them.

Strings are lists of Unicode scalar values (`List Nat`), as Rust iterates `char`s.
`rustLoop` follows the `loop { … }` of `compare_version_string` return site by return site.
-/
set_option linter.unusedVariables false
namespace RpmVerif.Vercmp

/-- a Rust `&str` as its sequence of `char` code points -/
abbrev Str := List Nat

def isDigit (n : Nat) : Bool := 48 ≤ n && n ≤ 57          -- char::is_ascii_digit
def isAlpha (n : Nat) : Bool := (65 ≤ n && n ≤ 90) || (97 ≤ n && n ≤ 122)   -- is_ascii_alphabetic
/-- `not_alphanumeric_tilde_or_caret` -/
def isSep (n : Nat) : Bool := !(isDigit n) && !(isAlpha n) && n != 126 && n != 94

/-- `str::strip_prefix(c)` -/
def stripPfx (c : Nat) : Str → Option Str
  | [] => none
  | x :: r => if x = c then some r else none

theorem stripPfx_some {c l r} : stripPfx c l = some r ↔ l = c :: r := by
  cases l with
  | nil => simp [stripPfx]
  | cons x xs =>
    simp only [stripPfx]
    split <;> simp_all

theorem dw_le (p : Nat → Bool) (l : List Nat) : (l.dropWhile p).length ≤ l.length :=
  (List.dropWhile_sublist p).length_le

theorem dw_lt {p : Nat → Bool} {x : Nat} {r : List Nat} (h : p x = true) :
    ((x :: r).dropWhile p).length < (x :: r).length := by
  simp only [List.dropWhile_cons, h, if_true, List.length_cons]
  have := dw_le p r
  omega

/-- The `loop` of `compare_version_string` (everything after the `==` shortcut).
Return sites, in source order: tilde (lt, gt, continue), caret (4 returns, continue), `break`
(folded with the final length compare: after trimming, a non-empty side is longer than an empty
one), digit run (len, lexical, `(Some,None) => Greater`), alpha run (lexical, `(Some,None) => Less`).
The two `_ => unreachable!()` arms of the source are not modelled, so no panic outcome exists here: at that point the head
of `a` is no separator, `~` or `^`, hence a digit or a letter (`alpha_of_not_digit` in `Lemmas/Vercmp.lean`), and its run
is not empty. -/
def rustLoop (a b : Str) : Ordering :=
  match h1 : stripPfx 126 (a.dropWhile isSep), h2 : stripPfx 126 (b.dropWhile isSep) with
  | some _, none => .lt
  | none, some _ => .gt
  | some a2, some b2 => rustLoop a2 b2
  | none, none =>
  match h3 : stripPfx 94 (a.dropWhile isSep), h4 : stripPfx 94 (b.dropWhile isSep) with
  | some _, none => if (b.dropWhile isSep).isEmpty then .gt else .lt
  | none, some _ => if (a.dropWhile isSep).isEmpty then .lt else .gt
  | some a2, some b2 => rustLoop a2 b2
  | none, none =>
  match h5 : a.dropWhile isSep, h6 : b.dropWhile isSep with
  | [], [] => .eq
  | [], _ :: _ => .lt
  | _ :: _, [] => .gt
  | x :: ra, y :: rb =>
    if hd : isDigit x then
      if hy : isDigit y then
        let n1 := ((x :: ra).takeWhile isDigit).dropWhile (· == 48)
        let n2 := ((y :: rb).takeWhile isDigit).dropWhile (· == 48)
        match (compare n1.length n2.length).then (compare n1 n2) with
        | .eq => rustLoop ((x :: ra).dropWhile isDigit) ((y :: rb).dropWhile isDigit)
        | o => o
      else .gt
    else
      if hy : isAlpha y then
        match compare ((x :: ra).takeWhile isAlpha) ((y :: rb).takeWhile isAlpha) with
        | .eq => rustLoop ((x :: ra).dropWhile isAlpha) ((y :: rb).dropWhile isAlpha)
        | o => o
      else .lt
termination_by a.length + b.length
decreasing_by
  · have := stripPfx_some.mp h1; have := stripPfx_some.mp h2
    have h := dw_le isSep a; have h' := dw_le isSep b; simp_all; omega
  · have := stripPfx_some.mp h3; have := stripPfx_some.mp h4
    have h := dw_le isSep a; have h' := dw_le isSep b; simp_all; omega
  · have := dw_lt (r := ra) hd; have := dw_le isDigit (y :: rb)
    have h := dw_le isSep a; have h' := dw_le isSep b; rw [h5] at h; rw [h6] at h'; omega
  · have := dw_lt (r := rb) hy; have := dw_le isAlpha (x :: ra)
    have h := dw_le isSep a; have h' := dw_le isSep b; rw [h5] at h; rw [h6] at h'; omega

/-- `compare_version_string` -/
def rustCmp (a b : Str) : Ordering := if a = b then .eq else rustLoop a b

structure Evr where
  epoch : Str
  version : Str
  release : Str
  deriving DecidableEq, Repr

structure Nevra where
  name : Str
  evr : Evr
  arch : Str
  deriving DecidableEq, Repr

/-- `if self.epoch.is_empty() { "0" } else { &self.epoch }` -/
def epochOr0 (e : Str) : Str := if e.isEmpty then [48] else e

/-- `impl Ord for Evr` -/
def Evr.cmp (x y : Evr) : Ordering :=
  let c := rustCmp (epochOr0 x.epoch) (epochOr0 y.epoch)
  if c != .eq then c else
  let c := rustCmp x.version y.version
  if c != .eq then c else
  rustCmp x.release y.release

/-- `impl PartialEq for Evr` -/
def Evr.eq (x y : Evr) : Bool :=
  (x.epoch == y.epoch || (x.epoch == [] && y.epoch == [48]) || (x.epoch == [48] && y.epoch == []))
    && x.version == y.version && x.release == y.release

/-- `impl Ord for Nevra` -/
def Nevra.cmp (x y : Nevra) : Ordering :=
  let c := rustCmp x.name y.name
  if c != .eq then c else
  let c := x.evr.cmp y.evr
  if c != .eq then c else
  rustCmp x.arch y.arch

/-- derived `PartialEq for Nevra` (uses `Evr`'s hand-written `eq`) -/
def Nevra.eq (x y : Nevra) : Bool := x.name == y.name && x.evr.eq y.evr && x.arch == y.arch

theorem epochOr0_ne_nil (E : Str) : epochOr0 E ≠ [] := by
  unfold epochOr0; cases E <;> simp

theorem epochOr0_not_mem {c : Nat} {E : Str} (hc : c ≠ 48) : c ∉ epochOr0 E ↔ c ∉ E := by
  unfold epochOr0; cases E <;> simp [hc]

theorem evr_eq_refl (e : Evr) : e.eq e = true := by simp [Evr.eq]

theorem nevra_eq_refl (n : Nevra) : n.eq n = true := by simp [Nevra.eq, evr_eq_refl]

/-! ## `PartialOrd` and the comparison operators

`impl PartialOrd for Evr` / `for Nevra` are written by hand in src/version.rs (`Some(self.cmp(other))`); every `<`, `<=`,
`>`, `>=` on these types goes through `partial_cmp` (the provided methods of `core::cmp::PartialOrd`), `max` / `min` are the
provided methods of `core::cmp::Ord`. -/

/-- `impl PartialOrd for Evr`: `fn partial_cmp(&self, other) -> Option<Ordering> { Some(self.cmp(other)) }` -/
def Evr.partialCmp (x y : Evr) : Option Ordering := some (x.cmp y)

/-- `impl PartialOrd for Nevra`: the same body -/
def Nevra.partialCmp (x y : Nevra) : Option Ordering := some (x.cmp y)

/-- `PartialOrd::lt`: `matches!(self.partial_cmp(other), Some(Less))` -/
def optLt : Option Ordering → Bool | some .lt => true | _ => false
/-- `PartialOrd::le`: `matches!(self.partial_cmp(other), Some(Less | Equal))` -/
def optLe : Option Ordering → Bool | some .lt | some .eq => true | _ => false
/-- `PartialOrd::gt`: `matches!(self.partial_cmp(other), Some(Greater))` -/
def optGt : Option Ordering → Bool | some .gt => true | _ => false
/-- `PartialOrd::ge`: `matches!(self.partial_cmp(other), Some(Greater | Equal))` -/
def optGe : Option Ordering → Bool | some .gt | some .eq => true | _ => false

def Evr.lt (x y : Evr) : Bool := optLt (x.partialCmp y)
def Evr.le (x y : Evr) : Bool := optLe (x.partialCmp y)
def Evr.gt (x y : Evr) : Bool := optGt (x.partialCmp y)
def Evr.ge (x y : Evr) : Bool := optGe (x.partialCmp y)
/-- `Ord::max(self, other)`: `if other < self { self } else { other }` (the second argument on a tie) -/
def Evr.max (x y : Evr) : Evr := if y.lt x then x else y
/-- `Ord::min(self, other)`: `if other < self { other } else { self }` (the first argument on a tie) -/
def Evr.min (x y : Evr) : Evr := if y.lt x then y else x

def Nevra.lt (x y : Nevra) : Bool := optLt (x.partialCmp y)
def Nevra.le (x y : Nevra) : Bool := optLe (x.partialCmp y)
def Nevra.gt (x y : Nevra) : Bool := optGt (x.partialCmp y)
def Nevra.ge (x y : Nevra) : Bool := optGe (x.partialCmp y)
def Nevra.max (x y : Nevra) : Nevra := if y.lt x then x else y
def Nevra.min (x y : Nevra) : Nevra := if y.lt x then y else x

end RpmVerif.Vercmp
