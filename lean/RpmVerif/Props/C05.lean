import RpmVerif.Lemmas.Decode
import RpmVerif.Lemmas.Accessors
import RpmVerif.Gen.FileEntriesShape
import RpmVerif.Spec.ScriptletTags
import RpmVerif.Spec.RpmTagNames
import RpmVerif.Lemmas.PkgFiles  -- `getFileEntries_ok`; also shares the auxiliary `buildEntries` match lemmas (two modules realising them independently cannot be imported together)
/-!
# C05 — metadata accessors return exactly what the header stores

`Stores store off cnt d` (Lemmas/Decode.lean) is the parser-independent reading of the header format:
the bytes at `off` are `cnt` big-endian integers / a NUL-terminated string / `cnt` NUL-separated
strings … and `d` is that value. The theorems: every entry of every parsed header holds exactly what
is stored at its offset; a typed getter returns the projection of the FIRST entry with the tag or an
error — never a made-up value; the list accessors zip / join in order; nothing panics.  Two groups pin tables scraped
from the source instead: the digest lengths `FileDigest::new` accepts (`file_digest_lengths_standard` …) and, at the end,
the scriptlet tag triples and the tag numbers of the `IndexTag` enum.
-/
namespace RpmVerif.C05
open RpmVerif.Hdr RpmVerif.Acc RpmVerif.Gen

theorem parsed_entries_stored {bs h rest} (hp : parseHeader bs = .ok (h, rest)) :
    (∃ res : Bytes, res.length = 4 ∧ bs = hdrBytes res h ++ rest) ∧
    ∀ e ∈ h.entries, Stores h.store e.off e.cnt e.data := by
  obtain ⟨res, hr, hb, wf⟩ := parseHeader_ok hp
  exact ⟨⟨res, hr, hb⟩, fun e he => decode_stores (wf.dec e he)⟩

/-- a getter returns a value only if it is the projection of the first entry carrying the tag, and that
entry's data is what the store holds ("never a made-up value") -/
theorem getter_value_is_stored {α} {proj : IndexData → Option α} {bs h rest tag a}
    (hp : parseHeader bs = .ok (h, rest)) (hg : getWith proj h tag = .ok a) :
    ∃ e, h.entries.find? (fun e => e.tag == tag) = some e ∧ e.tag = tag ∧ proj e.data = some a ∧
      Stores h.store e.off e.cnt e.data := by
  obtain ⟨e, hf, hpj⟩ := getWith_eq_ok.mp hg
  have hm := List.mem_of_find?_eq_some hf
  have ht : e.tag = tag := by simpa using List.find?_some hf
  exact ⟨e, hf, ht, hpj, (parsed_entries_stored hp).2 e hm⟩

/-- absent tag → `TagNotFound` -/
theorem getter_absent {α} (proj : IndexData → Option α) {h : Header} {tag : Nat}
    (hn : ∀ e ∈ h.entries, e.tag ≠ tag) : getWith proj h tag = .err "notfound" := by
  have : h.entries.find? (fun e => e.tag == tag) = none := by
    rw [List.find?_eq_none]; intro e he; simpa using hn e he
  rw [getWith_find, this]

/-- first entry of another data type → `UnexpectedTagDataType` (later duplicates are never consulted) -/
theorem getter_wrong_type {α} (proj : IndexData → Option α) {h : Header} {tag : Nat} {e : Entry}
    (hf : h.entries.find? (fun e => e.tag == tag) = some e) (hp : proj e.data = none) :
    getWith proj h tag = .err "wrongtype" := by
  rw [getWith_find, hf]; simp only [hp]

theorem getter_total {α} (proj : IndexData → Option α) (h : Header) (tag : Nat) :
    (getWith proj h tag).isPanic = false := getWith_not_panic proj h tag

/-- `get_file_paths`: item k is `dirs[dirindex[k]]` joined with `basenames[k]`; as many items as the
shorter of the two arrays -/
theorem filePaths_spec {bns : List Bytes} {idx : List Nat} {dirs : List Bytes} {ps : List Bytes}
    (h : filePathsFrom bns idx dirs = .ok ps) :
    ps.length = min bns.length idx.length ∧
    ∀ k (hk : k < ps.length), ∃ d, dirs[idx[k]!]? = some d ∧ ps[k] = pathJoin d bns[k]! := by
  rw [filePathsFrom_eq] at h
  split at h
  · rename_i hall
    cases h
    refine ⟨by rw [List.length_map, List.length_zip], fun k hk => ?_⟩
    rw [List.length_map] at hk
    have hk' := hk
    rw [List.length_zip, Nat.lt_min] at hk'
    have hd := hall _ (List.getElem_mem hk)
    rw [List.getElem_zip] at hd
    refine ⟨dirs[idx[k]], ?_, ?_⟩
    · rw [getElem!_pos idx k hk'.2, List.getElem?_eq_getElem hd]
    · rw [List.getElem_map, List.getElem_zip, getElem!_pos bns k hk'.1, getElem!_pos dirs _ hd]
  · cases h

/-- an out-of-range directory index is an error (`InvalidTagIndex`), never a guessed path -/
theorem filePaths_bad_index {bns : List Bytes} {idx : List Nat} {dirs : List Bytes}
    (hbad : ∃ k, k < min bns.length idx.length ∧ dirs.length ≤ idx[k]!) :
    filePathsFrom bns idx dirs = .err "index" := by
  obtain ⟨k, hk, hb⟩ := hbad
  rw [filePathsFrom_eq, if_neg]
  intro hall
  have hd := hall _ (List.getElem_mem (by rwa [List.length_zip] : k < (bns.zip idx).length))
  rw [List.getElem_zip, ← getElem!_pos idx k (Nat.lt_min.mp hk).2] at hd
  exact Nat.lt_irrefl _ (Nat.lt_of_lt_of_le hd hb)

/-- for directory names ending in '/' and relative base names the join is plain concatenation
("directory[dirindex] + basename") -/
theorem pathJoin_concat {d b : Bytes} (hd : d.getLast? = some 47) (hb : b.head? ≠ some 47) :
    pathJoin d b = d ++ b := by
  simp [pathJoin, hb, hd]

theorem deps_zip {h : Header} {a b c : Nat} {ns vs : List Bytes} {fs : List Nat}
    (h1 : getStringArray h a = .ok ns) (h2 : getU32Array h b = .ok fs) (h3 : getStringArray h c = .ok vs) :
    getDependencies h a b c = .ok ((zip3 ns fs vs).map fun (n, f, v) => ⟨n, f, v⟩) :=
  triple_eq_ok.mpr (.inr ⟨ns, fs, vs, h1, h2, h3, rfl⟩)

theorem deps_absent {h : Header} {a b c : Nat}
    (h1 : getStringArray h a = .err "notfound") (h2 : getU32Array h b = .err "notfound")
    (h3 : getStringArray h c = .err "notfound") : getDependencies h a b c = .ok [] :=
  triple_eq_ok.mpr (.inl ⟨h1, h2, h3, rfl⟩)

theorem triple_err_of_member {α β γ δ} {a : Out α} {b : Out β} {c : Out γ} {f : α → β → γ → Out δ} {e : δ}
    (hnot : ¬ (isNotFound a && isNotFound b && isNotFound c) = true)
    (hbad : a.isErr = true ∨ b.isErr = true ∨ c.isErr = true)
    (hp : a.isPanic = false ∧ b.isPanic = false ∧ c.isPanic = false) :
    (triple a b c f e).isErr = true := by
  rw [triple_eq, if_neg hnot]
  obtain ⟨pa, pb, pc⟩ := hp
  cases a with
  | panic => cases pa
  | err => rfl
  | ok x => cases b with
    | panic => cases pb
    | err => rfl
    | ok y => cases c with
      | panic => cases pc
      | err => rfl
      | ok z => simp [Out.isErr] at hbad

theorem getFilePaths_total (h : Header) : (getFilePaths h).isPanic = false :=
  triple_total ⟨getWith_not_panic _ _ _, getWith_not_panic _ _ _, getWith_not_panic _ _ _⟩
    (fun b i d => filePathsFrom_total b i d)

theorem getDependencies_total (h : Header) (a b c : Nat) : (getDependencies h a b c).isPanic = false :=
  triple_total ⟨getWith_not_panic _ _ _, getWith_not_panic _ _ _, getWith_not_panic _ _ _⟩ (fun _ _ _ => rfl)

theorem getChangelog_total (h : Header) : (getChangelog h).isPanic = false :=
  triple_total ⟨getWith_not_panic _ _ _, getWith_not_panic _ _ _, getWith_not_panic _ _ _⟩ (fun _ _ _ => rfl)

/-! ### file digests: the lengths `FileDigest::new` accepts are the digests' real sizes

`Gen.fileDigestHexLen` is scraped from `impl FileDigest { fn new }` on every run (tools/gen/file_digest_len.py).
The specification side is the size of each algorithm's output, which is not the library's to choose. -/

/-- output size in bytes, by rpm's (= RFC 4880's) algorithm number: MD5, SHA-1, SHA-256, SHA-384, SHA-512, SHA-224 -/
def digestBytes : Nat → Option Nat
  | 1 => some 16 | 2 => some 20 | 8 => some 32 | 9 => some 48 | 10 => some 64 | 11 => some 28 | _ => none

/-- the table the specification uses: the same algorithms the code supports, each with its real hex length -/
def standardHexLen : List (Nat × Nat) := fileDigestHexLen.map fun p => (p.1, 2 * (digestBytes p.1).getD 0)

/-- **every length the code pairs with an algorithm is that algorithm's digest size in hex** (re-checked against the
source table on every run; with the pre-fix source `(11, 60)` this is false — `old_sha224_length_witness`) -/
theorem file_digest_lengths_standard : ∀ p ∈ fileDigestHexLen, digestBytes p.1 = some (p.2 / 2) ∧ p.2 % 2 = 0 := by
  decide +kernel

theorem code_table_is_standard : fileDigestHexLen = standardHexLen := by decide +kernel

theorem fileDigestNew_ok_iff (a : Nat) (hex : Bytes) (tbl : List (Nat × Nat)) :
    fileDigestNew a hex tbl = .ok (a, hex) ↔ (a, hex.length) ∈ tbl := by
  unfold fileDigestNew
  constructor
  · intro h
    split at h
    · rename_i hany
      obtain ⟨p, hp, hq⟩ := List.any_eq_true.mp hany
      simp only [Bool.and_eq_true, beq_iff_eq] at hq
      obtain ⟨h1, h2⟩ := hq
      have : p = (a, hex.length) := Prod.ext h1 h2
      rw [← this]; exact hp
    · cases h
  · intro h
    rw [if_pos]
    exact List.any_eq_true.mpr ⟨_, h, by simp⟩

theorem fileDigestNew_accepts_real_digests (a : Nat) (hex : Bytes) (h : fileDigestNew a hex = .ok (a, hex)) :
    digestBytes a = some (hex.length / 2) ∧ hex.length % 2 = 0 :=
  file_digest_lengths_standard _ ((fileDigestNew_ok_iff a hex _).mp h)

theorem fileDigestNew_never_invents (a : Nat) (hex : Bytes) (tbl : List (Nat × Nat)) (v : Nat × Bytes)
    (h : fileDigestNew a hex tbl = .ok v) : v = (a, hex) := by
  unfold fileDigestNew at h
  split at h
  · cases h; rfl
  · cases h

/-- **Documented negative (the source before the fix).** SHA-224 was paired with 60 hex characters: a real SHA-224
digest (28 bytes = 56 characters) made `get_file_entries` fail with `UnsupportedDigestAlgorithm`, while 60 characters of
anything were accepted. -/
theorem old_sha224_length_witness :
    let old : List (Nat × Nat) := [(1, 32), (8, 64), (11, 60), (9, 96), (10, 128)]
    fileDigestNew 11 (List.replicate 56 48) old = .err "unsupported"
      ∧ fileDigestNew 11 (List.replicate 60 48) old = .ok (11, List.replicate 60 48)
      ∧ digestBytes 11 = some 28
      ∧ fileDigestNew 11 (List.replicate 56 48) = .ok (11, List.replicate 56 48) := by
  decide +kernel

/-- `get_installed_size`: when the first RPMTAG_LONGSIZE entry is a non-empty INT64 array the result is its first element;
in EVERY other case (tag absent, other type, empty array) the result is exactly what the 32-bit RPMTAG_SIZE getter gives,
value or error -/
theorem installed_size_spec (h : Header) :
    (∀ v, getU64 h IndexTag.RPMTAG_LONGSIZE = .ok v → getInstalledSize h = .ok v)
    ∧ ((∀ v, getU64 h IndexTag.RPMTAG_LONGSIZE ≠ .ok v) → getInstalledSize h = getU32 h IndexTag.RPMTAG_SIZE) := by
  constructor
  · intro v hv; simp only [getInstalledSize, hv]
  · intro hn
    unfold getInstalledSize
    split
    · rename_i v hv; exact absurd hv (hn v)
    · rfl

/-- … and the value it returns for a parsed header is stored under one of the two tags: the first LONGSIZE entry's first
64-bit integer, or (only if that getter fails) the first SIZE entry's first 32-bit integer -/
theorem installed_size_is_stored {bs h rest v} (hp : parseHeader bs = .ok (h, rest)) (hg : getInstalledSize h = .ok v) :
    ∃ e, Stores h.store e.off e.cnt e.data ∧
      ((h.entries.find? (fun e => e.tag == IndexTag.RPMTAG_LONGSIZE) = some e ∧ e.data.asU64 = some v) ∨
       ((∀ w, getU64 h IndexTag.RPMTAG_LONGSIZE ≠ .ok w) ∧
        h.entries.find? (fun e => e.tag == IndexTag.RPMTAG_SIZE) = some e ∧ e.data.asU32 = some v)) := by
  by_cases hex : ∃ w, getU64 h IndexTag.RPMTAG_LONGSIZE = .ok w
  · obtain ⟨w, h64⟩ := hex
    have := (installed_size_spec h).1 w h64
    rw [hg] at this
    cases this
    obtain ⟨e, hf, _, hpj, hs⟩ := getter_value_is_stored hp h64
    exact ⟨e, hs, .inl ⟨hf, hpj⟩⟩
  · have hn : ∀ w, getU64 h IndexTag.RPMTAG_LONGSIZE ≠ .ok w := fun w hw => hex ⟨w, hw⟩
    have h32 := (installed_size_spec h).2 hn
    rw [hg] at h32
    obtain ⟨e, hf, _, hpj, hs⟩ := getter_value_is_stored hp h32.symm
    exact ⟨e, hs, .inr ⟨hn, hf, hpj⟩⟩

/-- the names `impl FromStr for CompressionType` accepts are ASCII, so comparing the UTF-8 bytes of the stored text with
the table's code points is comparing the strings (the assumption under `getPayloadCompressorVariant`; re-checked on every run) -/
theorem compression_names_ascii : ∀ p ∈ compressionFromStr, ∀ c ∈ p.1, c < 128 := by decide +kernel

/-- no RPMTAG_PAYLOADCOMPRESSOR entry at all → `CompressionType::None` (whose name is "none"), not an error -/
theorem compressor_absent_is_none {h : Header} (hn : ∀ e ∈ h.entries, e.tag ≠ IndexTag.RPMTAG_PAYLOADCOMPRESSOR) :
    getPayloadCompressorVariant h = .ok payloadCompressorDefault
    ∧ Compression.toStr payloadCompressorDefault = [110, 111, 110, 101]
    ∧ compressionVariants[payloadCompressorDefault]? = some "None" := by
  refine ⟨?_, by decide, by decide⟩
  unfold getPayloadCompressorVariant
  have := getter_absent IndexData.asStr hn
  unfold getString
  rw [this]
  rfl

/-- a stored compressor text `s` gives a compression type exactly when `s` is one of the names in the source's
`from_str` table, and then it is the variant that table pairs with the FIRST arm matching `s` (whose printed name is `s`
again by C15's `compression_roundtrip`); every other text is `UnknownCompressorType` — never a default -/
theorem compressor_known_iff {h : Header} {s : Bytes} (hs : getString h IndexTag.RPMTAG_PAYLOADCOMPRESSOR = .ok s) :
    getPayloadCompressorVariant h = Compression.fromStr (s.map UInt8.toNat)
    ∧ (∀ v, getPayloadCompressorVariant h = .ok v ↔ compressionFromStr.lookup (s.map UInt8.toNat) = some v)
    ∧ (∀ v, getPayloadCompressorVariant h = .ok v → (s.map UInt8.toNat, v) ∈ compressionFromStr)
    ∧ ((∃ v, getPayloadCompressorVariant h = .ok v) ↔ s.map UInt8.toNat ∈ compressionFromStr.map (·.1))
    ∧ (s.map UInt8.toNat ∉ compressionFromStr.map (·.1) → getPayloadCompressorVariant h = .err "unknown-compressor") := by
  have e : getPayloadCompressorVariant h = Compression.fromStr (s.map UInt8.toNat) := by
    unfold getPayloadCompressorVariant; rw [hs]
  rw [e]
  unfold Compression.fromStr
  cases hl : compressionFromStr.lookup (s.map UInt8.toNat) with
  | none =>
    have hnm : s.map UInt8.toNat ∉ compressionFromStr.map (·.1) := fun hm => by
      obtain ⟨q, hq, e⟩ := List.mem_map.mp hm
      simpa [e] using List.lookup_eq_none_iff.mp hl q hq
    dsimp only
    exact ⟨rfl, fun v => ⟨nofun, nofun⟩, fun v => nofun, ⟨fun ⟨v, hv⟩ => (nomatch hv), fun hm => absurd hm hnm⟩, fun _ => rfl⟩
  | some w =>
    have hm : (s.map UInt8.toNat, w) ∈ compressionFromStr := by
      obtain ⟨l₁, l₂, e, -⟩ := List.lookup_eq_some_iff.mp hl
      rw [e]; simp
    have hk : s.map UInt8.toNat ∈ compressionFromStr.map (·.1) := List.mem_map.mpr ⟨_, hm, rfl⟩
    dsimp only
    exact ⟨rfl, fun v => ⟨fun hv => by cases hv; rfl, fun hv => by cases hv; rfl⟩, fun v hv => by cases hv; exact hm,
      ⟨fun _ => hk, fun _ => ⟨w, rfl⟩⟩, fun hnm => absurd hk hnm⟩

/-- `is_source_package` is true exactly when SOME entry carries RPMTAG_SOURCEPACKAGE — whatever its type, count or data -/
theorem source_iff_tag_present (h : Header) :
    entryIsPresent h IndexTag.RPMTAG_SOURCEPACKAGE = true ↔ ∃ e ∈ h.entries, e.tag = IndexTag.RPMTAG_SOURCEPACKAGE := by
  simp [entryIsPresent, List.any_eq_true]

/-! ### clause theorems for the composed accessors (AUDIT2 c13 - c15)

What "zipped in order", "assembled … with their per-file attributes" and "the documented empty list" mean, stated on
the arrays the getters return: lengths, k-th items, which tag wins, which fallback is taken. -/

theorem zip3_getElem? {α β γ} (as : List α) (bs : List β) (cs : List γ) (k : Nat) :
    (zip3 as bs cs)[k]? = (as[k]?).bind fun a => (bs[k]?).bind fun b => (cs[k]?).map fun c => (a, b, c) := by
  simp only [zip3_eq_zip, List.zip, List.getElem?_zipWith]
  cases as[k]? <;> cases bs[k]? <;> cases cs[k]? <;> rfl

theorem zip3_spec {α β γ} (as : List α) (bs : List β) (cs : List γ) :
    (zip3 as bs cs).length = min as.length (min bs.length cs.length) ∧
    ∀ k (hk : k < (zip3 as bs cs).length),
      ∃ (ha : k < as.length) (hb : k < bs.length) (hc : k < cs.length), (zip3 as bs cs)[k] = (as[k], bs[k], cs[k]) := by
  refine ⟨zip3_length as bs cs, fun k hk => ?_⟩
  have hk' := hk
  rw [zip3_length, Nat.lt_min, Nat.lt_min] at hk'
  refine ⟨hk'.1, hk'.2.1, hk'.2.2, ?_⟩
  simp only [zip3_eq_zip, List.getElem_zip]

theorem zip3_map_spec {α β γ δ} (g : α × β × γ → δ) (as : List α) (bs : List β) (cs : List γ) :
    ((zip3 as bs cs).map g).length = min as.length (min bs.length cs.length) ∧
    ∀ k (hk : k < ((zip3 as bs cs).map g).length),
      ∃ (ha : k < as.length) (hb : k < bs.length) (hc : k < cs.length),
        ((zip3 as bs cs).map g)[k] = g (as[k], bs[k], cs[k]) := by
  obtain ⟨hl, hk⟩ := zip3_spec as bs cs
  refine ⟨by rw [List.length_map, hl], fun k hk' => ?_⟩
  obtain ⟨ha, hb, hc, e⟩ := hk k (by simpa using hk')
  exact ⟨ha, hb, hc, by rw [List.getElem_map, e]⟩

theorem deps_kth {h : Header} {a b c : Nat} {ns vs : List Bytes} {fs : List Nat} {r : List Dependency}
    (h1 : getStringArray h a = .ok ns) (h2 : getU32Array h b = .ok fs) (h3 : getStringArray h c = .ok vs)
    (hr : getDependencies h a b c = .ok r) :
    r.length = min ns.length (min fs.length vs.length) ∧
    ∀ k (hk : k < r.length), ∃ (ha : k < ns.length) (hb : k < fs.length) (hc : k < vs.length),
      r[k] = ⟨ns[k], fs[k], vs[k]⟩ := by
  rw [deps_zip h1 h2 h3] at hr
  cases hr
  exact zip3_map_spec _ ns fs vs

theorem changelog_zip {h : Header} {ns ds : List Bytes} {ts : List Nat}
    (h1 : getStringArray h IndexTag.RPMTAG_CHANGELOGNAME = .ok ns) (h2 : getU32Array h IndexTag.RPMTAG_CHANGELOGTIME = .ok ts)
    (h3 : getStringArray h IndexTag.RPMTAG_CHANGELOGTEXT = .ok ds) :
    getChangelog h = .ok ((zip3 ns ts ds).map fun (n, t, d) => ⟨n, t, d⟩) :=
  triple_eq_ok.mpr (.inr ⟨ns, ts, ds, h1, h2, h3, rfl⟩)

theorem changelog_kth {h : Header} {ns ds : List Bytes} {ts : List Nat} {r : List Changelog}
    (h1 : getStringArray h IndexTag.RPMTAG_CHANGELOGNAME = .ok ns) (h2 : getU32Array h IndexTag.RPMTAG_CHANGELOGTIME = .ok ts)
    (h3 : getStringArray h IndexTag.RPMTAG_CHANGELOGTEXT = .ok ds) (hr : getChangelog h = .ok r) :
    r.length = min ns.length (min ts.length ds.length) ∧
    ∀ k (hk : k < r.length), ∃ (ha : k < ns.length) (hb : k < ts.length) (hc : k < ds.length),
      r[k] = ⟨ns[k], ts[k], ds[k]⟩ := by
  rw [changelog_zip h1 h2 h3] at hr
  cases hr
  exact zip3_map_spec _ ns ts ds

theorem changelog_absent {h : Header}
    (h1 : getStringArray h IndexTag.RPMTAG_CHANGELOGNAME = .err "notfound")
    (h2 : getU32Array h IndexTag.RPMTAG_CHANGELOGTIME = .err "notfound")
    (h3 : getStringArray h IndexTag.RPMTAG_CHANGELOGTEXT = .err "notfound") : getChangelog h = .ok [] :=
  triple_eq_ok.mpr (.inl ⟨h1, h2, h3, rfl⟩)

/-- a result of `get_changelog_entries` is either the documented empty list (all three tags absent) or the zip of
three successfully read arrays - there is no third way to obtain `Ok` -/
theorem changelog_ok_cases {h : Header} {r : List Changelog} (hr : getChangelog h = .ok r) :
    (r = [] ∧ getStringArray h IndexTag.RPMTAG_CHANGELOGNAME = .err "notfound"
        ∧ getU32Array h IndexTag.RPMTAG_CHANGELOGTIME = .err "notfound"
        ∧ getStringArray h IndexTag.RPMTAG_CHANGELOGTEXT = .err "notfound") ∨
    ∃ ns ts ds, getStringArray h IndexTag.RPMTAG_CHANGELOGNAME = .ok ns ∧ getU32Array h IndexTag.RPMTAG_CHANGELOGTIME = .ok ts ∧
      getStringArray h IndexTag.RPMTAG_CHANGELOGTEXT = .ok ds ∧ r = (zip3 ns ts ds).map fun (n, t, d) => ⟨n, t, d⟩ := by
  rcases triple_eq_ok.mp hr with ⟨h1, h2, h3, rfl⟩ | ⟨ns, ts, ds, h1, h2, h3, e⟩
  · exact .inl ⟨rfl, h1, h2, h3⟩
  · cases e
    exact .inr ⟨ns, ts, ds, h1, h2, h3, rfl⟩

/-- `get_scriptlet`: the script text decides between value and error (its getter's error is the result); the flags are
`Some(v)` exactly when the 32-bit getter succeeds on the flags tag and `None` in EVERY other case (tag absent, other
type, empty array: `.ok()` swallows the error); the interpreter likewise for the string-array getter -/
theorem scriptlet_spec (h : Header) (a b c : Nat) :
    (∀ s, getString h a = .ok s →
        getScriptlet h (a, b, c) = .ok ⟨s, (getU32 h b).toOption, (getStringArray h c).toOption⟩) ∧
    (∀ cls, getString h a = .err cls → getScriptlet h (a, b, c) = .err cls) ∧
    (∀ sc, getScriptlet h (a, b, c) = .ok sc →
        getString h a = .ok sc.script ∧
        (∀ f, sc.flags = some f ↔ getU32 h b = .ok f) ∧
        (∀ p, sc.prog = some p ↔ getStringArray h c = .ok p)) := by
  refine ⟨fun s hs => by simp [getScriptlet, hs], fun cls hc => by simp [getScriptlet, hc], ?_⟩
  intro sc hsc
  simp only [getScriptlet, Out.bind_eq_ok, Out.pure_eq, Out.ok.injEq] at hsc
  obtain ⟨s, hs, rfl⟩ := hsc
  refine ⟨hs, fun f => ?_, fun p => ?_⟩
  · cases getU32 h b <;> simp [Out.toOption]
  · cases getStringArray h c <;> simp [Out.toOption]

/-- `if digest.is_empty() { None } else { Some(FileDigest { algorithm, digest }) }` without the length check: what the
entry's digest field must be IF the entry is produced -/
def digestField (algo : Nat) (d : Bytes) : Option (Nat × Bytes) := if d.isEmpty then none else some (algo, d)

/-- **specification of one file entry**: item `k` of the result is assembled from item `k` of EVERY per-file array
(paths, users, groups, modes, digests, mtimes, sizes, flags, link targets) and exists only if all nine have an item `k`;
capabilities and IMA signatures are optional arrays looked up BY INDEX (`off + k`; a short array gives `None`). -/
def entryAt (algo : Nat) (caps ima : Option (List Bytes)) (off : Nat) (ps us gs : List Bytes) (ms : List Nat)
    (ds : List Bytes) (ts ss fs : List Nat) (ls : List Bytes) (k : Nat) : Option FileEntry := do
  let p ← ps[k]?; let u ← us[k]?; let g ← gs[k]?; let m ← ms[k]?; let d ← ds[k]?
  let t ← ts[k]?; let s ← ss[k]?; let f ← fs[k]?; let l ← ls[k]?
  pure ⟨p, m, u, g, t, s, f, digestField algo d, caps.bind (·[off + k]?), l, ima.bind (·[off + k]?)⟩

theorem digestOf_eq_digestField {algo : Nat} {d : Bytes} {tbl : List (Nat × Nat)} {o : Option (Nat × Bytes)}
    (h : digestOf algo d tbl = .ok o) : o = digestField algo d := by
  unfold digestOf at h
  unfold digestField
  split at h
  · rename_i he
    cases h
    simp [he]
  · rename_i he
    obtain ⟨v, hn, rfl⟩ := Out.map_eq_ok.mp h
    cases fileDigestNew_never_invents algo d tbl v hn
    simp [he]

theorem entryAt_fields {algo : Nat} {caps ima : Option (List Bytes)} {off : Nat} {ps us gs : List Bytes} {ms : List Nat}
    {ds : List Bytes} {ts ss fs : List Nat} {ls : List Bytes} {k : Nat} {e : FileEntry}
    (h : entryAt algo caps ima off ps us gs ms ds ts ss fs ls k = some e) :
    ps[k]? = some e.path ∧ ms[k]? = some e.mode ∧ us[k]? = some e.user ∧ gs[k]? = some e.group ∧
    ts[k]? = some e.mtime ∧ ss[k]? = some e.size ∧ fs[k]? = some e.flags ∧ ls[k]? = some e.linkto ∧
    (∃ d, ds[k]? = some d ∧ e.digest = digestField algo d) ∧
    e.caps = caps.bind (·[off + k]?) ∧ e.ima = ima.bind (·[off + k]?) := by
  simp only [entryAt, Option.bind_eq_bind, Option.bind_eq_some_iff] at h
  obtain ⟨p, hp, u, hu, g, hg, m, hm, d, hd, t, ht, s, hs, f, hf, l, hl, he⟩ := h
  simp only [Option.pure_def, Option.some.injEq] at he
  subst he
  exact ⟨hp, hm, hu, hg, ht, hs, hf, hl, ⟨d, hd, rfl⟩, rfl, rfl⟩

theorem buildEntries_spec {algo : Nat} {caps ima : Option (List Bytes)} {tbl : List (Nat × Nat)} {idx : Nat}
    {ps us gs : List Bytes} {ms : List Nat} {ds : List Bytes} {ts ss fs : List Nat} {ls : List Bytes} {r : List FileEntry}
    (h : buildEntries algo caps ima tbl idx ps us gs ms ds ts ss fs ls = .ok r) :
    (∀ k, r[k]? = entryAt algo caps ima idx ps us gs ms ds ts ss fs ls k) ∧
    r.length = min ps.length (min us.length (min gs.length (min ms.length (min ds.length (min ts.length
      (min ss.length (min fs.length ls.length))))))) := by
  fun_induction buildEntries algo caps ima tbl idx ps us gs ms ds ts ss fs ls generalizing r with
  | case1 idx p ps u us g gs m ms d ds t ts s ss f fs l ls ih =>
    simp only [Out.bind_eq_ok, Out.pure_eq, Out.ok.injEq] at h
    obtain ⟨dg, hdg, r', hr', rfl⟩ := h
    obtain ⟨ih1, ihl⟩ := ih hr'
    cases digestOf_eq_digestField hdg
    refine ⟨fun k => ?_, by simp only [List.length_cons, ihl, Nat.add_min_add_right]⟩
    cases k with
    | zero => simp [entryAt]
    | succ k =>
      rw [List.getElem?_cons_succ, ih1 k]
      simp only [entryAt, List.getElem?_cons_succ]
      have : idx + 1 + k = idx + (k + 1) := by omega
      rw [this]
  | case2 ps idx us gs ms ds ts ss fs ls hno =>
    cases h
    -- one of the nine arrays is empty
    have h0 : min ps.length (min us.length (min gs.length (min ms.length (min ds.length (min ts.length
        (min ss.length (min fs.length ls.length))))))) = 0 := by
      refine Nat.eq_zero_of_not_pos fun hpos => ?_
      simp only [Nat.lt_min] at hpos
      obtain ⟨h1, h2, h3, h4, h5, h6, h7, h8, h9⟩ := hpos
      have c {α} {l : List α} (h : 0 < l.length) : l = l.head (List.ne_nil_of_length_pos h) :: l.tail :=
        (List.cons_head_tail _).symm
      exact hno _ _ _ _ _ _ _ _ _ _ _ _ _ _ _ _ _ _ (c h1) (c h2) (c h3) (c h4) (c h5) (c h6) (c h7) (c h8) (c h9)
    refine ⟨fun k => ?_, h0.symm⟩
    cases hk : entryAt algo caps ima idx ps us gs ms ds ts ss fs ls k with
    | none => rfl
    | some e =>
      obtain ⟨q1, q4, q2, q3, q6, q7, q8, q9, ⟨d, q5, -⟩, -, -⟩ := entryAt_fields hk
      have lt {α} {l : List α} {a : α} (h : l[k]? = some a) : k < l.length := (List.getElem?_eq_some_iff.mp h).1
      have hlt : k < 0 := by
        rw [← h0]
        simp only [Nat.lt_min]
        exact ⟨lt q1, lt q2, lt q3, lt q4, lt q5, lt q6, lt q7, lt q8, lt q9⟩
      exact absurd hlt (Nat.not_lt_zero k)

/-- the algorithm `get_file_entries` labels every digest with: `get_file_digest_algorithm().unwrap_or(Md5)` -/
def digestAlgoOrMd5 (h : Header) : Nat := match getFileDigestAlgorithm h with | .ok a => a | _ => 1

/-- where the sizes come from: the 64-bit array RPMTAG_LONGFILESIZES whenever its getter succeeds; the 32-bit
RPMTAG_FILESIZES only when that getter fails (tag absent or of another type) -/
def SizesFrom (h : Header) (ss : List Nat) : Prop :=
  getU64Array h IndexTag.RPMTAG_LONGFILESIZES = .ok ss ∨
  ((∀ v, getU64Array h IndexTag.RPMTAG_LONGFILESIZES ≠ .ok v) ∧ getU32Array h IndexTag.RPMTAG_FILESIZES = .ok ss)

/-- **`get_file_entries`, value clause.** Whenever it answers `Ok(r)`: either RPMTAG_FILEMODES is absent and `r` is the
documented empty list, or all eight mandatory arrays and `get_file_paths` were read successfully and

* `r` has as many entries as the SHORTEST of the nine arrays (longer arrays are silently cut - stated, not hidden);
* entry `k` consists of item `k` of each array (`entryAt`, `entryAt_fields`): path `k` (= `dirs[dirindex[k]]` joined
  with `basenames[k]`, `filePaths_spec`), mode, user, group, mtime, size, flags, link target;
* the size array is LONGFILESIZES when that getter succeeds, FILESIZES otherwise (`SizesFrom`);
* capabilities / IMA signatures: `None` when the tag is absent (`optStrings_ok_iff`), else item `k` of the array BY INDEX,
  `None` beyond its end;
* digest `k` is `None` for an empty text, otherwise (algorithm, text) where the algorithm is FILEDIGESTALGO or - when that
  accessor fails for ANY reason (absent, other type, unknown number) - MD5 (`digest_algo_fallback`), and the pair
  (algorithm, length of the text) is in the table of `FileDigest::new` (`file_digest_lengths_standard`: the real sizes). -/
theorem fileEntries_spec {sig h : Header} {tbl : List (Nat × Nat)} {r : List FileEntry}
    (hr : getFileEntries sig h tbl = .ok r) :
    (getU16Array h IndexTag.RPMTAG_FILEMODES = .err "notfound" ∧ r = []) ∨
    ∃ ms us gs ds ts ss fs ls ps caps ima,
      getU16Array h IndexTag.RPMTAG_FILEMODES = .ok ms ∧
      getStringArray h IndexTag.RPMTAG_FILEUSERNAME = .ok us ∧
      getStringArray h IndexTag.RPMTAG_FILEGROUPNAME = .ok gs ∧
      getStringArray h IndexTag.RPMTAG_FILEDIGESTS = .ok ds ∧
      getU32Array h IndexTag.RPMTAG_FILEMTIMES = .ok ts ∧
      SizesFrom h ss ∧
      getU32Array h IndexTag.RPMTAG_FILEFLAGS = .ok fs ∧
      getStringArray h IndexTag.RPMTAG_FILELINKTOS = .ok ls ∧
      getFilePaths h = .ok ps ∧
      optStrings (getStringArray h IndexTag.RPMTAG_FILECAPS) = .ok caps ∧
      optStrings (getStringArray sig SigTag.RPMSIGTAG_FILESIGNATURES) = .ok ima ∧
      (∀ k, r[k]? = entryAt (digestAlgoOrMd5 h) caps ima 0 ps us gs ms ds ts ss fs ls k) ∧
      r.length = min ps.length (min us.length (min gs.length (min ms.length (min ds.length (min ts.length
        (min ss.length (min fs.length ls.length))))))) ∧
      (∀ k d, k < r.length → ds[k]? = some d → d ≠ [] → (digestAlgoOrMd5 h, d.length) ∈ tbl) := by
  rcases PkgFiles.getFileEntries_ok hr with hnf | ⟨ms, us, gs, ds, ts, ss, fs, ls, ps, caps, ima, hms, hus, hgs, hds, hts, hss, hfs, hls,
    hps, hcaps, hima, hb⟩
  · exact .inl hnf
  · obtain ⟨b1, bl⟩ := buildEntries_spec hb
    refine .inr ⟨ms, us, gs, ds, ts, ss, fs, ls, ps, caps, ima, hms, hus, hgs, hds, hts, ?_, hfs, hls, hps, hcaps, hima, b1, bl,
      fun k d hk hd hne => ?_⟩
    · unfold SizesFrom
      cases h64 : getU64Array h IndexTag.RPMTAG_LONGFILESIZES with
      | ok v => rw [h64] at hss; cases hss; exact .inl rfl
      | err c => rw [h64] at hss; exact .inr ⟨(fun v hv => nomatch hv), hss⟩
      | panic c => rw [h64] at hss; exact .inr ⟨(fun v hv => nomatch hv), hss⟩
    · -- entry `k` carries the digest `(algorithm, d)`, and every digest an entry carries has a length of the table
      have he := b1 k
      rw [List.getElem?_eq_getElem hk] at he
      obtain ⟨-, -, -, -, -, -, -, -, ⟨d', q, hdg⟩, -, -⟩ := entryAt_fields he.symm
      cases hd.symm.trans q
      exact PkgFiles.getFileEntries_digests sig h tbl r hr r[k] (List.getElem_mem hk) _
        (hdg.trans (if_neg (mt List.isEmpty_iff.mp hne)))

theorem optStrings_ok_iff (g : Out (List Bytes)) (o : Option (List Bytes)) :
    optStrings g = .ok o ↔ (∃ l, g = .ok l ∧ o = some l) ∨ (g = .err "notfound" ∧ o = none) := by
  unfold optStrings
  split <;> simp_all [eq_comm]

/-- `get_file_digest_algorithm` succeeds exactly when the first FILEDIGESTALGO entry is a non-empty INT32 array whose
first number is a discriminant of `DigestAlgorithm` (table scraped from src/constants.rs) -/
theorem fileDigestAlgorithm_ok_iff (h : Header) (a : Nat) :
    getFileDigestAlgorithm h = .ok a ↔
      getU32 h IndexTag.RPMTAG_FILEDIGESTALGO = .ok a ∧ a ∈ digestAlgoTable.map (·.2) := by
  have hmem : a ∈ digestAlgoTable.map (·.2) ↔ digestAlgoTable.any (·.2 == a) = true := by
    simp only [List.any_eq_true, List.mem_map, beq_iff_eq]
  unfold getFileDigestAlgorithm
  rw [hmem]
  cases getU32 h IndexTag.RPMTAG_FILEDIGESTALGO with
  | ok x =>
    simp only [Out.bind_ok, Out.ok.injEq, Out.pure_eq]
    constructor
    · intro hx
      split at hx
      · cases hx; exact ⟨rfl, ‹_›⟩
      · cases hx
    · rintro ⟨rfl, ha⟩
      rw [if_pos ha]
  | err c => exact ⟨nofun, fun h => nomatch h.1⟩
  | panic c => exact ⟨nofun, fun h => nomatch h.1⟩

/-- **the algorithm fallback, stated**: the digests of `get_file_entries` carry FILEDIGESTALGO when that accessor
succeeds; when it fails for ANY reason - tag absent, entry of another type, empty array, a number that is no
`DigestAlgorithm` - they are labelled with the variant written in `unwrap_or(..)`, which the source says is `Md5`
(scraped: `Gen.fileDigestAlgoFallback`, tools/gen/file_entries_shape.py); the model's literal is that number. -/
theorem digest_algo_fallback (h : Header) :
    (∀ a, getFileDigestAlgorithm h = .ok a → digestAlgoOrMd5 h = a) ∧
    ((∀ a, getFileDigestAlgorithm h ≠ .ok a) → digestAlgoOrMd5 h = fileDigestAlgoFallback) ∧
    ("Md5", fileDigestAlgoFallback) ∈ digestAlgoTable := by
  refine ⟨fun a ha => by simp only [digestAlgoOrMd5, ha], fun hn => ?_, by simp [digestAlgoTable, fileDigestAlgoFallback]⟩
  unfold digestAlgoOrMd5
  split
  · rename_i a ha; exact absurd ha (hn a)
  · rfl

/-- the two "64-bit first" accessors read the tags the source names, in the source's order -/
theorem size_tags_scraped :
    fileSizeTags = (IndexTag.RPMTAG_LONGFILESIZES, IndexTag.RPMTAG_FILESIZES) ∧
    installedSizeTags = (IndexTag.RPMTAG_LONGSIZE, IndexTag.RPMTAG_SIZE) := by decide +kernel

-- a 2-entry header (STRING "abc" at 0, INT32 [7] at 4): the getters return what is stored
def sampleHdr : Bytes := [142, 173, 232, 1, 1, 2, 3, 4, 0, 0, 0, 2, 0, 0, 0, 8, 0, 0, 3, 232, 0, 0, 0, 6, 0, 0, 0, 0,
  0, 0, 0, 1, 0, 0, 3, 233, 0, 0, 0, 4, 0, 0, 0, 4, 0, 0, 0, 1, 97, 98, 99, 0, 0, 0, 0, 7]
example : (parseHeader sampleHdr).isOk = true := by decide +kernel
example : (parseHeader sampleHdr >>= fun p => getString p.1 1000) = .ok [97, 98, 99] := by decide +kernel
example : (parseHeader sampleHdr >>= fun p => getU32 p.1 1001) = .ok 7 := by decide +kernel
example : (parseHeader sampleHdr >>= fun p => getU32 p.1 1000) = .err "wrongtype" := by decide +kernel
example : (parseHeader sampleHdr >>= fun p => getString p.1 1002) = .err "notfound" := by decide +kernel
example : filePathsFrom [[97], [98]] [1, 0] [[47], [47, 117, 47]] = .ok [[47, 117, 47, 97], [47, 98]] := by decide +kernel
example : filePathsFrom [[97]] [2] [[47]] = .err "index" := by decide +kernel

-- installed size: LONGSIZE wins; SIZE is used when LONGSIZE is absent or is not a non-empty INT64 array; neither → error
def hSize (es : List Entry) : Header := ⟨es.length, 0, es, []⟩
example : getInstalledSize (hSize [⟨IndexTag.RPMTAG_SIZE, .int32 [7], 0, 1⟩, ⟨IndexTag.RPMTAG_LONGSIZE, .int64 [5000000000], 0, 1⟩]) = .ok 5000000000 := by decide +kernel
example : getInstalledSize (hSize [⟨IndexTag.RPMTAG_SIZE, .int32 [7], 0, 1⟩]) = .ok 7 := by decide +kernel
example : getInstalledSize (hSize [⟨IndexTag.RPMTAG_LONGSIZE, .int32 [9], 0, 1⟩, ⟨IndexTag.RPMTAG_SIZE, .int32 [7], 0, 1⟩]) = .ok 7 := by decide +kernel
example : getInstalledSize (hSize [⟨IndexTag.RPMTAG_LONGSIZE, .int64 [], 0, 0⟩]) = .err "notfound" := by decide +kernel
-- compressor: "xz" is variant 3, "lzma" is no compressor name, no entry is `None`, an INT32 entry is a type error
example : getPayloadCompressorVariant (hSize [⟨IndexTag.RPMTAG_PAYLOADCOMPRESSOR, .str [120, 122], 0, 1⟩]) = .ok 3 := by decide +kernel
example : getPayloadCompressorVariant (hSize [⟨IndexTag.RPMTAG_PAYLOADCOMPRESSOR, .str [108, 122, 109, 97], 0, 1⟩]) = .err "unknown-compressor" := by decide +kernel
example : getPayloadCompressorVariant (hSize []) = .ok 0 := by decide +kernel
example : getPayloadCompressorVariant (hSize [⟨IndexTag.RPMTAG_PAYLOADCOMPRESSOR, .int32 [1], 0, 1⟩]) = .err "wrongtype" := by decide +kernel
-- source package: presence of the tag alone decides
example : entryIsPresent (hSize [⟨IndexTag.RPMTAG_SOURCEPACKAGE, .null, 0, 0⟩]) IndexTag.RPMTAG_SOURCEPACKAGE = true := by decide +kernel
example : entryIsPresent (hSize [⟨IndexTag.RPMTAG_SIZE, .int32 [1], 0, 1⟩]) IndexTag.RPMTAG_SOURCEPACKAGE = false := by decide +kernel

-- multizip stops at the shortest array
example : zip3 [1, 2, 3] [4, 5] [6, 7, 8] = [(1, 4, 6), (2, 5, 7)] := by decide +kernel
-- a two-file header: MTIMES has a third item (cut), CAPS has only one (second file: None), both size tags (64-bit wins),
-- no FILEDIGESTALGO (MD5 label on the 32-character digest), an empty digest text (None)
def hFiles (extra : List Entry) : Header := hSize (extra ++ [
  ⟨IndexTag.RPMTAG_BASENAMES, .strArray [[97], [98]], 0, 2⟩,
  ⟨IndexTag.RPMTAG_DIRINDEXES, .int32 [0, 0], 0, 2⟩,
  ⟨IndexTag.RPMTAG_DIRNAMES, .strArray [[47]], 0, 1⟩,
  ⟨IndexTag.RPMTAG_FILEMODES, .int16 [33188, 33188], 0, 2⟩,
  ⟨IndexTag.RPMTAG_FILEUSERNAME, .strArray [[114], [114]], 0, 2⟩,
  ⟨IndexTag.RPMTAG_FILEGROUPNAME, .strArray [[114], [114]], 0, 2⟩,
  ⟨IndexTag.RPMTAG_FILEDIGESTS, .strArray [List.replicate 32 48, []], 0, 2⟩,
  ⟨IndexTag.RPMTAG_FILEMTIMES, .int32 [5, 6, 7], 0, 3⟩,
  ⟨IndexTag.RPMTAG_FILESIZES, .int32 [1, 2], 0, 2⟩,
  ⟨IndexTag.RPMTAG_LONGFILESIZES, .int64 [5000000000, 9], 0, 2⟩,
  ⟨IndexTag.RPMTAG_FILEFLAGS, .int32 [0, 1], 0, 2⟩,
  ⟨IndexTag.RPMTAG_FILECAPS, .strArray [[61]], 0, 1⟩,
  ⟨IndexTag.RPMTAG_FILELINKTOS, .strArray [[], []], 0, 2⟩])
example : getFileEntries (hSize []) (hFiles []) =
    .ok [⟨[47, 97], 33188, [114], [114], 5, 5000000000, 0, some (1, List.replicate 32 48), some [61], [], none⟩,
         ⟨[47, 98], 33188, [114], [114], 6, 9, 1, none, none, [], none⟩] := by decide +kernel
-- FILEDIGESTALGO of another type, or a number that is no DigestAlgorithm: the MD5 label again (same result) …
example : getFileEntries (hSize []) (hFiles [⟨IndexTag.RPMTAG_FILEDIGESTALGO, .strArray [[56]], 0, 1⟩]) =
    getFileEntries (hSize []) (hFiles []) := by decide +kernel
example : getFileEntries (hSize []) (hFiles [⟨IndexTag.RPMTAG_FILEDIGESTALGO, .int32 [99], 0, 1⟩]) =
    getFileEntries (hSize []) (hFiles []) := by decide +kernel
-- … while SHA-256 (8) refuses the 32-character text: an error, not a relabelled digest
example : getFileEntries (hSize []) (hFiles [⟨IndexTag.RPMTAG_FILEDIGESTALGO, .int32 [8], 0, 1⟩]) = .err "unsupported" := by decide +kernel
-- LONGFILESIZES of another type: the 32-bit sizes are used
example : (getFileEntries (hSize []) (hFiles [⟨IndexTag.RPMTAG_LONGFILESIZES, .int32 [3, 4], 0, 2⟩])).map (·.map (·.size)) = .ok [1, 2] := by decide +kernel
-- IMA signatures come from the SIGNATURE header, by index
example : (getFileEntries (hSize [⟨SigTag.RPMSIGTAG_FILESIGNATURES, .strArray [[48]], 0, 1⟩]) (hFiles [])).map (·.map (·.ima)) =
    .ok [some [48], none] := by decide +kernel
-- no FILEMODES: the documented empty list; a missing mandatory array: an error
example : getFileEntries (hSize []) (hSize []) = .ok [] := by decide +kernel
example : getFileEntries (hSize []) (hSize [⟨IndexTag.RPMTAG_FILEMODES, .int16 [1], 0, 1⟩]) = .err "notfound" := by decide +kernel
-- changelog: three arrays of lengths 2, 1, 2 give one entry; all absent: empty; one absent: error
example : getChangelog (hSize [⟨IndexTag.RPMTAG_CHANGELOGNAME, .strArray [[97], [98]], 0, 2⟩,
    ⟨IndexTag.RPMTAG_CHANGELOGTIME, .int32 [7], 0, 1⟩, ⟨IndexTag.RPMTAG_CHANGELOGTEXT, .strArray [[99], [100]], 0, 2⟩]) =
    .ok [⟨[97], 7, [99]⟩] := by decide +kernel
example : getChangelog (hSize []) = .ok [] := by decide +kernel
example : getChangelog (hSize [⟨IndexTag.RPMTAG_CHANGELOGNAME, .strArray [[97]], 0, 1⟩]) = .err "notfound" := by decide +kernel
-- scriptlet: flags of another type and an absent interpreter are `None`; a missing script is the error
example : getScriptlet (hSize [⟨1023, .str [120], 0, 1⟩, ⟨5020, .str [49], 0, 1⟩]) (1023, 5020, 1085) = .ok ⟨[120], none, none⟩ := by decide +kernel
example : getScriptlet (hSize [⟨1023, .str [120], 0, 1⟩, ⟨5020, .int32 [3], 0, 1⟩, ⟨1085, .strArray [[47]], 0, 1⟩]) (1023, 5020, 1085) =
    .ok ⟨[120], some 3, some [[47]]⟩ := by decide +kernel
example : getScriptlet (hSize [⟨5020, .int32 [3], 0, 1⟩]) (1023, 5020, 1085) = .err "notfound" := by decide +kernel

/-! ### the scriptlet tag triples of the CODE are rpm's (seed C05-13) -/

/-- the nine `*_TAGS` triples scraped from src/constants.rs are the (script, flags, program) tags of rpm's `rpmtag.h`:
every scriptlet accessor reads ITS OWN flags and interpreter entries, not a neighbour's -/
theorem scriptlet_tags_standard : Gen.scriptletTags = RpmVerif.Spec.stdScriptletTags := by decide +kernel

/-- no tag serves two purposes: the 27 tags of the nine triples are pairwise distinct -/
theorem scriptlet_tags_distinct :
    (Gen.scriptletTags.flatMap fun t => [t.2.1, t.2.2.1, t.2.2.2]).Nodup := by decide +kernel

/-- **the tag numbers of the code are rpm's**: each of the 173 tag names of the independent transcription of rpm's tag table
has, in the `IndexTag` enum scraped from src/constants.rs, the number rpm gives it — an accessor reading `RPMTAG_X` reads the
entry rpm (and every rpm-built package) stores under X -/
theorem index_tag_numbers_standard :
    ([(IndexTag.RPMTAG_HEADERI18NTABLE, 100), (IndexTag.RPMTAG_NAME, 1000), (IndexTag.RPMTAG_VERSION, 1001), (IndexTag.RPMTAG_RELEASE, 1002), (IndexTag.RPMTAG_EPOCH, 1003), (IndexTag.RPMTAG_SUMMARY, 1004), (IndexTag.RPMTAG_DESCRIPTION, 1005), (IndexTag.RPMTAG_BUILDTIME, 1006), (IndexTag.RPMTAG_BUILDHOST, 1007), (IndexTag.RPMTAG_INSTALLTIME, 1008), (IndexTag.RPMTAG_SIZE, 1009), (IndexTag.RPMTAG_DISTRIBUTION, 1010), (IndexTag.RPMTAG_VENDOR, 1011), (IndexTag.RPMTAG_GIF, 1012), (IndexTag.RPMTAG_XPM, 1013), (IndexTag.RPMTAG_LICENSE, 1014), (IndexTag.RPMTAG_PACKAGER, 1015), (IndexTag.RPMTAG_GROUP, 1016), (IndexTag.RPMTAG_SOURCE, 1018), (IndexTag.RPMTAG_PATCH, 1019), (IndexTag.RPMTAG_URL, 1020), (IndexTag.RPMTAG_OS, 1021), (IndexTag.RPMTAG_ARCH, 1022), (IndexTag.RPMTAG_PREIN, 1023), (IndexTag.RPMTAG_POSTIN, 1024), (IndexTag.RPMTAG_PREUN, 1025), (IndexTag.RPMTAG_POSTUN, 1026), (IndexTag.RPMTAG_OLDFILENAMES, 1027), (IndexTag.RPMTAG_FILESIZES, 1028), (IndexTag.RPMTAG_FILESTATES, 1029), (IndexTag.RPMTAG_FILEMODES, 1030), (IndexTag.RPMTAG_FILERDEVS, 1033), (IndexTag.RPMTAG_FILEMTIMES, 1034), (IndexTag.RPMTAG_FILEDIGESTS, 1035), (IndexTag.RPMTAG_FILELINKTOS, 1036), (IndexTag.RPMTAG_FILEFLAGS, 1037), (IndexTag.RPMTAG_FILEUSERNAME, 1039), (IndexTag.RPMTAG_FILEGROUPNAME, 1040), (IndexTag.RPMTAG_ICON, 1043), (IndexTag.RPMTAG_SOURCERPM, 1044), (IndexTag.RPMTAG_FILEVERIFYFLAGS, 1045), (IndexTag.RPMTAG_ARCHIVESIZE, 1046), (IndexTag.RPMTAG_PROVIDENAME, 1047), (IndexTag.RPMTAG_REQUIREFLAGS, 1048), (IndexTag.RPMTAG_REQUIRENAME, 1049), (IndexTag.RPMTAG_REQUIREVERSION, 1050), (IndexTag.RPMTAG_NOSOURCE, 1051), (IndexTag.RPMTAG_NOPATCH, 1052), (IndexTag.RPMTAG_CONFLICTFLAGS, 1053), (IndexTag.RPMTAG_CONFLICTNAME, 1054), (IndexTag.RPMTAG_CONFLICTVERSION, 1055), (IndexTag.RPMTAG_EXCLUDEARCH, 1059), (IndexTag.RPMTAG_EXCLUDEOS, 1060), (IndexTag.RPMTAG_EXCLUSIVEARCH, 1061), (IndexTag.RPMTAG_EXCLUSIVEOS, 1062), (IndexTag.RPMTAG_RPMVERSION, 1064), (IndexTag.RPMTAG_TRIGGERSCRIPTS, 1065), (IndexTag.RPMTAG_TRIGGERNAME, 1066), (IndexTag.RPMTAG_TRIGGERVERSION, 1067), (IndexTag.RPMTAG_TRIGGERFLAGS, 1068), (IndexTag.RPMTAG_TRIGGERINDEX, 1069), (IndexTag.RPMTAG_VERIFYSCRIPT, 1079), (IndexTag.RPMTAG_CHANGELOGTIME, 1080), (IndexTag.RPMTAG_CHANGELOGNAME, 1081), (IndexTag.RPMTAG_CHANGELOGTEXT, 1082), (IndexTag.RPMTAG_PREINPROG, 1085), (IndexTag.RPMTAG_POSTINPROG, 1086), (IndexTag.RPMTAG_PREUNPROG, 1087), (IndexTag.RPMTAG_POSTUNPROG, 1088), (IndexTag.RPMTAG_BUILDARCHS, 1089), (IndexTag.RPMTAG_OBSOLETENAME, 1090), (IndexTag.RPMTAG_VERIFYSCRIPTPROG, 1091), (IndexTag.RPMTAG_TRIGGERSCRIPTPROG, 1092), (IndexTag.RPMTAG_COOKIE, 1094), (IndexTag.RPMTAG_FILEDEVICES, 1095), (IndexTag.RPMTAG_FILEINODES, 1096), (IndexTag.RPMTAG_FILELANGS, 1097), (IndexTag.RPMTAG_PREFIXES, 1098), (IndexTag.RPMTAG_INSTPREFIXES, 1099), (IndexTag.RPMTAG_SOURCEPACKAGE, 1106), (IndexTag.RPMTAG_PROVIDEFLAGS, 1112), (IndexTag.RPMTAG_PROVIDEVERSION, 1113), (IndexTag.RPMTAG_OBSOLETEFLAGS, 1114), (IndexTag.RPMTAG_OBSOLETEVERSION, 1115), (IndexTag.RPMTAG_DIRINDEXES, 1116), (IndexTag.RPMTAG_BASENAMES, 1117), (IndexTag.RPMTAG_DIRNAMES, 1118), (IndexTag.RPMTAG_ORIGDIRINDEXES, 1119), (IndexTag.RPMTAG_ORIGBASENAMES, 1120), (IndexTag.RPMTAG_ORIGDIRNAMES, 1121), (IndexTag.RPMTAG_OPTFLAGS, 1122), (IndexTag.RPMTAG_DISTURL, 1123), (IndexTag.RPMTAG_PAYLOADFORMAT, 1124), (IndexTag.RPMTAG_PAYLOADCOMPRESSOR, 1125), (IndexTag.RPMTAG_PAYLOADFLAGS, 1126), (IndexTag.RPMTAG_INSTALLCOLOR, 1127), (IndexTag.RPMTAG_INSTALLTID, 1128), (IndexTag.RPMTAG_REMOVETID, 1129), (IndexTag.RPMTAG_PLATFORM, 1132), (IndexTag.RPMTAG_FILECOLORS, 1140), (IndexTag.RPMTAG_FILECLASS, 1141), (IndexTag.RPMTAG_CLASSDICT, 1142), (IndexTag.RPMTAG_FILEDEPENDSX, 1143), (IndexTag.RPMTAG_FILEDEPENDSN, 1144), (IndexTag.RPMTAG_DEPENDSDICT, 1145), (IndexTag.RPMTAG_SOURCEPKGID, 1146), (IndexTag.RPMTAG_POLICIES, 1150), (IndexTag.RPMTAG_PRETRANS, 1151), (IndexTag.RPMTAG_POSTTRANS, 1152), (IndexTag.RPMTAG_PRETRANSPROG, 1153), (IndexTag.RPMTAG_POSTTRANSPROG, 1154), (IndexTag.RPMTAG_DISTTAG, 1155), (IndexTag.RPMTAG_LONGFILESIZES, 5008), (IndexTag.RPMTAG_LONGSIZE, 5009), (IndexTag.RPMTAG_FILECAPS, 5010), (IndexTag.RPMTAG_FILEDIGESTALGO, 5011), (IndexTag.RPMTAG_BUGURL, 5012), (IndexTag.RPMTAG_PREINFLAGS, 5020), (IndexTag.RPMTAG_POSTINFLAGS, 5021), (IndexTag.RPMTAG_PREUNFLAGS, 5022), (IndexTag.RPMTAG_POSTUNFLAGS, 5023), (IndexTag.RPMTAG_PRETRANSFLAGS, 5024), (IndexTag.RPMTAG_POSTTRANSFLAGS, 5025), (IndexTag.RPMTAG_VERIFYSCRIPTFLAGS, 5026), (IndexTag.RPMTAG_TRIGGERSCRIPTFLAGS, 5027), (IndexTag.RPMTAG_VCS, 5034), (IndexTag.RPMTAG_ORDERNAME, 5035), (IndexTag.RPMTAG_ORDERVERSION, 5036), (IndexTag.RPMTAG_ORDERFLAGS, 5037), (IndexTag.RPMTAG_RECOMMENDNAME, 5046), (IndexTag.RPMTAG_RECOMMENDVERSION, 5047), (IndexTag.RPMTAG_RECOMMENDFLAGS, 5048), (IndexTag.RPMTAG_SUGGESTNAME, 5049), (IndexTag.RPMTAG_SUGGESTVERSION, 5050), (IndexTag.RPMTAG_SUGGESTFLAGS, 5051), (IndexTag.RPMTAG_SUPPLEMENTNAME, 5052), (IndexTag.RPMTAG_SUPPLEMENTVERSION, 5053), (IndexTag.RPMTAG_SUPPLEMENTFLAGS, 5054), (IndexTag.RPMTAG_ENHANCENAME, 5055), (IndexTag.RPMTAG_ENHANCEVERSION, 5056), (IndexTag.RPMTAG_ENHANCEFLAGS, 5057), (IndexTag.RPMTAG_ENCODING, 5062), (IndexTag.RPMTAG_FILETRIGGERSCRIPTS, 5066), (IndexTag.RPMTAG_FILETRIGGERSCRIPTPROG, 5067), (IndexTag.RPMTAG_FILETRIGGERSCRIPTFLAGS, 5068), (IndexTag.RPMTAG_FILETRIGGERNAME, 5069), (IndexTag.RPMTAG_FILETRIGGERINDEX, 5070), (IndexTag.RPMTAG_FILETRIGGERVERSION, 5071), (IndexTag.RPMTAG_FILETRIGGERFLAGS, 5072), (IndexTag.RPMTAG_TRANSFILETRIGGERSCRIPTS, 5076), (IndexTag.RPMTAG_TRANSFILETRIGGERSCRIPTPROG, 5077), (IndexTag.RPMTAG_TRANSFILETRIGGERSCRIPTFLAGS, 5078), (IndexTag.RPMTAG_TRANSFILETRIGGERNAME, 5079), (IndexTag.RPMTAG_TRANSFILETRIGGERINDEX, 5080), (IndexTag.RPMTAG_TRANSFILETRIGGERVERSION, 5081), (IndexTag.RPMTAG_TRANSFILETRIGGERFLAGS, 5082), (IndexTag.RPMTAG_FILETRIGGERPRIORITIES, 5084), (IndexTag.RPMTAG_TRANSFILETRIGGERPRIORITIES, 5085), (IndexTag.RPMTAG_FILESIGNATURES, 5090), (IndexTag.RPMTAG_FILESIGNATURELENGTH, 5091), (IndexTag.RPMTAG_PAYLOADDIGEST, 5092), (IndexTag.RPMTAG_PAYLOADDIGESTALGO, 5093), (IndexTag.RPMTAG_MODULARITYLABEL, 5096), (IndexTag.RPMTAG_PAYLOADDIGESTALT, 5097), (IndexTag.RPMTAG_SPEC, 5099), (IndexTag.RPMTAG_TRANSLATIONURL, 5100), (IndexTag.RPMTAG_UPSTREAMRELEASES, 5101), (IndexTag.RPMTAG_PREUNTRANS, 5103), (IndexTag.RPMTAG_POSTUNTRANS, 5104), (IndexTag.RPMTAG_PREUNTRANSPROG, 5105), (IndexTag.RPMTAG_POSTUNTRANSPROG, 5106), (IndexTag.RPMTAG_PREUNTRANSFLAGS, 5107), (IndexTag.RPMTAG_POSTUNTRANSFLAGS, 5108)] : List (Nat × Nat)).all (fun p => p.1 == p.2) = true
    ∧ RpmVerif.Spec.stdTagNames.length = 173 := by decide +kernel

/-- and no two names of the code's enum share a number (a discriminant collision would not even compile in Rust; stated for
the table): the scraped table lists the numbers in increasing order, which the kernel checks in one pass -/
theorem index_tag_numbers_distinct : (Gen.indexTagTable.map (·.2)).Nodup :=
  (ascending_pairwise (by decide +kernel)).imp Nat.ne_of_lt

end RpmVerif.C05
