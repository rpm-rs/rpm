import RpmVerif.Lemmas.RpmValid
import RpmVerif.Lemmas.BuilderSlots
import RpmVerif.Lemmas.Cpio
import RpmVerif.Lemmas.RpmCpio
import RpmVerif.Gen.AssetTagTypes
import RpmVerif.Props.C06
import RpmVerif.Lemmas.SignE
/-!
# C09 — emitted packages satisfy rpm's structural rules

The rules are those of `Spec/RpmValid.lean` (a transcription of rpm's loader) and `Spec/RpmTagTypes.lean` (rpm's tag table), the
packages those of `Model/FromEntries.lean`, `Model/Builder.lean`, `Model/Cpio.lean`. Every theorem is for ALL inputs of the stated
shape, without a bound on sizes, counts or lengths: `fromEntries_valid` (any record list), `slots_good` (the 102 rows of
`prepare_data`), `build_valid` (the whole statement for a built package), `history_valid` / `history_foreign_valid` (sign / clear
histories on built and on rpm-built packages). Assumed, not proved: `CodecMagic` (the codec crates), `SigsOk` (the pgp crate; its
condition on the legacy tags is discharged in `sigsOk_of_build`), `FileOk` (what `add_data` guarantees, C17).
-/
namespace RpmVerif.C09
open RpmVerif RpmVerif.Hdr RpmVerif.RpmValid RpmVerif.Bld RpmVerif.Gen RpmVerif.Cpio

/-- what `from_entries` needs from its input to emit a header rpm accepts -/
structure RecsValid (recs : List (Nat × IndexData)) (rt : Nat) : Prop where
  nodup : (recs.map (·.1)).Nodup
  tags : ∀ r ∈ recs, 100 ≤ r.1 ∧ r.1 ≠ rt
  canon : ∀ r ∈ recs, r.2.Canon
  nonempty : ∀ r ∈ recs, r.2.NonEmpty
  count : recs.length + 1 ≤ 65535
  size : (fromEntries recs rt).store.length < 268435456

/-- `Header::from_entries` over ANY record list with pairwise distinct legal tags, canonical non-empty data and sizes within rpm's
limits yields a header that satisfies every rule of `HeaderValid` -/
theorem fromEntries_valid {recs : List (Nat × IndexData)} {rt : Nat} (ok : RecsValid recs rt) :
    HeaderValid rt (fromEntries recs rt) := by
  have hsize := ok.size
  have hstrict := sorted_strict ok.nodup
  have hcount : (recs.mergeSort fun a b => decide (a.1 ≤ b.1)).length + 1 ≤ 65535 := by
    rw [List.length_mergeSort]; exact ok.count
  have hrec : ∀ e ∈ (layout (recs.mergeSort fun a b => decide (a.1 ≤ b.1)) []).1, (e.tag, e.data) ∈ recs :=
    fun e he => List.mem_mergeSort.mp (mem_of_mem_layout he)
  simp only [fromEntries, List.length_append, regionTrailer_length] at hsize ⊢
  generalize recs.mergeSort (fun a b => decide (a.1 ≤ b.1)) = sorted at *
  have hlay := layout_inv sorted []
  have hal := layout_aligned sorted []
  have hlen := layout_length sorted []
  have hlenE : ∀ e ∈ (layout sorted []).1,
      entryLen ((layout sorted []).2 ++ regionTrailer rt sorted.length) e = some e.data.enc.length := fun e he =>
    entryLen_layout he (ok.canon _ (hrec e he)) (fun h => by have := ok.nonempty _ (hrec e he); rwa [h] at this) _
  have hseq := layout_seqFrom _ sorted [] hlenE
  have hasc : (layout sorted []).1.Pairwise (fun a b => a.tag < b.tag) :=
    (List.pairwise_map (f := fun e : Entry => (e.tag, e.data)) (R := fun a b => a.1 < b.1)).mp
      ((layout_tags sorted []).symm ▸ hstrict)
  generalize layout sorted [] = L at *
  refine {
    intro := ⟨by rw [List.length_cons, hlen], Nat.le_add_left 1 _, hcount,
      by simp only [List.length_append, regionTrailer_length], hsize⟩
    region := ⟨rfl, rfl, rfl, rfl, ?_⟩
    tags := ⟨fun e he => ok.tags _ (hrec e he), hasc⟩
    types := fun e he => ⟨typeCode_pos (ok.nonempty _ (hrec e he)), typeCode_le9 _⟩
    counts := ?_
    aligned := fun e he => typeAlign_typeCode e.data ▸ hal e he
    strings := fun e he => by rw [hlenE e he]; rfl
    range := ?_
    seq := hseq }
  · show ((L.2 ++ regionTrailer rt sorted.length).drop L.2.length).take 16 = trailerBytes rt (sorted.length + 1)
    rw [List.drop_left, List.take_of_length_le (Nat.le_of_eq (regionTrailer_length _ _)), regionTrailer, trailerBytes,
      i32Raw_region sorted.length hcount]
  · intro e he
    obtain ⟨_, _, _, _, hcnt, _⟩ := hlay e he
    rw [hcnt]
    exact ⟨numItems_pos (ok.nonempty _ (hrec e he)), numItems_of_str⟩
  · intro e he
    obtain ⟨_, _, _, _, _, hend⟩ := hlay e he
    have hlim : limit ⟨sorted.length + 1, L.2.length + 16, ⟨rt, .bin (regionTrailer rt sorted.length), L.2.length, 16⟩ :: L.1,
        L.2 ++ regionTrailer rt sorted.length⟩ = L.2.length := Nat.add_sub_cancel ..
    rw [hlim]
    refine ⟨by omega, fun len hl => ?_⟩
    change len ∈ entryLen (L.2 ++ regionTrailer rt sorted.length) e at hl
    rw [hlenE e he] at hl
    cases hl
    exact ⟨enc_pos (ok.nonempty _ (hrec e he)), hend⟩

/-- **every one of the 102 slots emits data of the type rpm's tag table gives its tag** (`hdrchkTagType`): STRING for the
scalar texts, I18NSTRING for summary / description / group, STRING_ARRAY for the name / version / file-name arrays and the
interpreter lists, INT16 for modes and rdevs, INT32 for flags / times / sizes / indexes, INT64 for the large-file sizes —
**and never an empty record**: the file, dependency and changelog arrays are omitted when there is nothing to put in them -/
theorem slots_good : ∀ s ∈ slots, SlotGood s := by
  unfold slots
  simp only [List.forall_mem_append, List.forall_mem_cons, List.not_mem_nil, false_imp_iff, implies_true, and_true]
  repeat' apply And.intro
  -- row by row: the way the slot decides to emit, why what it emits is not empty; its type is read off by `rfl`, then looked up
  · exact .intro (emits_always fun _ => ⟨rfl, fun _ => trivial⟩) (by decide +kernel)            -- SOURCERPM
  · exact .intro (emits_always fun _ => ⟨rfl, fun _ => List.cons_ne_nil _ _⟩) (by decide +kernel)  -- HEADERI18NTABLE
  · exact .intro (emits_always fun _ => ⟨rfl, fun _ => trivial⟩) (by decide +kernel)            -- NAME
  · exact .intro (emits_always fun _ => ⟨rfl, fun _ => List.cons_ne_nil _ _⟩) (by decide +kernel)  -- EPOCH
  · exact .intro (emits_always fun _ => ⟨rfl, fun _ => trivial⟩) (by decide +kernel)            -- RPMVERSION
  · exact .intro (emits_always fun _ => ⟨rfl, fun _ => trivial⟩) (by decide +kernel)            -- VERSION
  · exact .intro (emits_always fun _ => ⟨rfl, fun _ => trivial⟩) (by decide +kernel)            -- RELEASE
  · exact .intro (emits_always fun _ => ⟨rfl, fun _ => List.cons_ne_nil _ _⟩) (by decide +kernel)  -- DESCRIPTION
  · exact .intro (emits_always fun _ => ⟨rfl, fun _ => List.cons_ne_nil _ _⟩) (by decide +kernel)  -- SUMMARY
  · exact .intro (emits_when fun _ _ => ⟨rfl, fun _ => List.cons_ne_nil _ _⟩) (by decide +kernel)  -- LONGSIZE
  · exact .intro (emits_unless fun _ _ => ⟨rfl, fun _ => List.cons_ne_nil _ _⟩) (by decide +kernel)  -- SIZE
  · exact .intro (emits_always fun _ => ⟨rfl, fun _ => trivial⟩) (by decide +kernel)            -- LICENSE
  · exact .intro (emits_always fun _ => ⟨rfl, fun _ => trivial⟩) (by decide +kernel)            -- OS
  · exact .intro (emits_always fun _ => ⟨rfl, fun _ => List.cons_ne_nil _ _⟩) (by decide +kernel)  -- GROUP
  · exact .intro (emits_always fun _ => ⟨rfl, fun _ => trivial⟩) (by decide +kernel)            -- ARCH
  · exact .intro (emits_always fun _ => ⟨rfl, fun _ => trivial⟩) (by decide +kernel)            -- ENCODING
  · exact .intro (emits_always fun _ => ⟨rfl, fun _ => trivial⟩) (by decide +kernel)            -- PAYLOADFORMAT
  · exact .intro (emits_always fun _ => ⟨rfl, fun _ => List.cons_ne_nil _ _⟩) (by decide +kernel)  -- BUILDTIME
  · exact .intro (emits_optS _) (by decide +kernel)                                             -- BUILDHOST
  · exact .intro (emits_unless fun _ hc => ⟨rfl, fun _ => map_ne _ (List.isEmpty_eq_false_iff.mp (Bool.or_eq_false_iff.mp hc).1)⟩) (by decide +kernel)  -- LONGFILESIZES
  · exact .intro (emits_unless fun _ hc => ⟨rfl, fun _ => map_ne _ (List.isEmpty_eq_false_iff.mp (Bool.or_eq_false_iff.mp hc).1)⟩) (by decide +kernel)  -- FILESIZES
  · exact .intro (emits_whenFiles fun _ hne => ⟨rfl, fun _ => map_ne _ hne⟩) (by decide +kernel)  -- FILEMODES
  · exact .intro (emits_whenFiles fun _ hne => ⟨rfl, fun _ => map_ne _ hne⟩) (by decide +kernel)  -- FILERDEVS
  · exact .intro (emits_whenFiles fun _ hne => ⟨rfl, fun _ => map_ne _ hne⟩) (by decide +kernel)  -- FILEMTIMES
  · exact .intro (emits_whenFiles fun _ hne => ⟨rfl, fun _ => map_ne _ hne⟩) (by decide +kernel)  -- FILEDIGESTS
  · exact .intro (emits_whenFiles fun _ hne => ⟨rfl, fun _ => map_ne _ hne⟩) (by decide +kernel)  -- FILELINKTOS
  · exact .intro (emits_whenFiles fun _ hne => ⟨rfl, fun _ => map_ne _ hne⟩) (by decide +kernel)  -- FILEFLAGS
  · exact .intro (emits_whenFiles fun _ hne => ⟨rfl, fun _ => map_ne _ hne⟩) (by decide +kernel)  -- FILEUSERNAME
  · exact .intro (emits_whenFiles fun _ hne => ⟨rfl, fun _ => map_ne _ hne⟩) (by decide +kernel)  -- FILEGROUPNAME
  · exact .intro (emits_whenFiles fun _ hne => ⟨rfl, fun _ => map_ne _ hne⟩) (by decide +kernel)  -- FILEDEVICES
  · exact .intro (emits_whenFiles fun _ hne => ⟨rfl, fun _ => map_ne _ (range_length_ne hne)⟩) (by decide +kernel)  -- FILEINODES
  · exact .intro (emits_whenFiles fun _ hne => ⟨rfl, fun _ => map_ne _ hne⟩) (by decide +kernel)  -- DIRINDEXES
  · exact .intro (emits_whenFiles fun _ hne => ⟨rfl, fun _ => map_ne _ hne⟩) (by decide +kernel)  -- FILELANGS
  · exact .intro (emits_whenFiles fun _ _ => ⟨rfl, fun _ => List.cons_ne_nil _ _⟩) (by decide +kernel)  -- FILEDIGESTALGO
  · exact .intro (emits_whenFiles fun _ hne => ⟨rfl, fun _ => map_ne _ hne⟩) (by decide +kernel)  -- FILEVERIFYFLAGS
  · exact .intro (emits_whenFiles fun _ hne => ⟨rfl, fun _ => map_ne _ hne⟩) (by decide +kernel)  -- BASENAMES
  · exact .intro (emits_whenFiles fun _ hne => ⟨rfl, dirnames_ne hne⟩) (by decide +kernel)      -- DIRNAMES
  · exact .intro (emits_unless fun _ hc => ⟨rfl, fun _ => map_ne _ (List.isEmpty_eq_false_iff.mp (Bool.or_eq_false_iff.mp hc).1)⟩) (by decide +kernel)  -- FILECAPS
  · exact depSlots_good _ true (fun _ x => allProvides_ne x.c) (by decide +kernel) (by decide +kernel) (by decide +kernel)  -- PROVIDE*
  · exact .intro (emits_always fun _ => ⟨rfl, fun _ => List.cons_ne_nil _ _⟩) (by decide +kernel)  -- PAYLOADDIGEST
  · exact .intro (emits_always fun _ => ⟨rfl, fun _ => List.cons_ne_nil _ _⟩) (by decide +kernel)  -- PAYLOADDIGESTALGO
  · exact .intro (emits_always fun _ => ⟨rfl, fun _ => List.cons_ne_nil _ _⟩) (by decide +kernel)  -- PAYLOADDIGESTALT
  · exact .intro (emits_map fun _ _ _ => ⟨rfl, fun _ => trivial⟩) (by decide +kernel)           -- PAYLOADCOMPRESSOR
  · exact .intro (emits_map fun _ _ _ => ⟨rfl, fun _ => trivial⟩) (by decide +kernel)           -- PAYLOADFLAGS
  · exact .intro (emits_unless fun _ hc => ⟨rfl, fun _ => map_ne _ (List.isEmpty_eq_false_iff.mp hc)⟩) (by decide +kernel)  -- CHANGELOGNAME
  · exact .intro (emits_unless fun _ hc => ⟨rfl, fun _ => map_ne _ (List.isEmpty_eq_false_iff.mp hc)⟩) (by decide +kernel)  -- CHANGELOGTEXT
  · exact .intro (emits_unless fun _ hc => ⟨rfl, fun _ => map_ne _ (List.isEmpty_eq_false_iff.mp hc)⟩) (by decide +kernel)  -- CHANGELOGTIME
  · exact depSlots_good _ false nofun (by decide +kernel) (by decide +kernel) (by decide +kernel)  -- OBSOLETE*
  · exact depSlots_good _ false nofun (by decide +kernel) (by decide +kernel) (by decide +kernel)  -- REQUIRE*
  · exact depSlots_good _ false nofun (by decide +kernel) (by decide +kernel) (by decide +kernel)  -- CONFLICT*
  · exact depSlots_good _ false nofun (by decide +kernel) (by decide +kernel) (by decide +kernel)  -- RECOMMEND*
  · exact depSlots_good _ false nofun (by decide +kernel) (by decide +kernel) (by decide +kernel)  -- SUGGEST*
  · exact depSlots_good _ false nofun (by decide +kernel) (by decide +kernel) (by decide +kernel)  -- ENHANCE*
  · exact depSlots_good _ false nofun (by decide +kernel) (by decide +kernel) (by decide +kernel)  -- SUPPLEMENT*
  · exact scriptSlots_good _ (by decide +kernel) (by decide +kernel) (by decide +kernel)        -- PREIN
  · exact scriptSlots_good _ (by decide +kernel) (by decide +kernel) (by decide +kernel)        -- POSTIN
  · exact scriptSlots_good _ (by decide +kernel) (by decide +kernel) (by decide +kernel)        -- PREUN
  · exact scriptSlots_good _ (by decide +kernel) (by decide +kernel) (by decide +kernel)        -- POSTUN
  · exact scriptSlots_good _ (by decide +kernel) (by decide +kernel) (by decide +kernel)        -- PRETRANS
  · exact scriptSlots_good _ (by decide +kernel) (by decide +kernel) (by decide +kernel)        -- POSTTRANS
  · exact scriptSlots_good _ (by decide +kernel) (by decide +kernel) (by decide +kernel)        -- PREUNTRANS
  · exact scriptSlots_good _ (by decide +kernel) (by decide +kernel) (by decide +kernel)        -- POSTUNTRANS
  · exact scriptSlots_good _ (by decide +kernel) (by decide +kernel) (by decide +kernel)        -- VERIFYSCRIPT
  · exact .intro (emits_optS _) (by decide +kernel)                                             -- VENDOR
  · exact .intro (emits_optS _) (by decide +kernel)                                             -- PACKAGER
  · exact .intro (emits_optS _) (by decide +kernel)                                             -- URL
  · exact .intro (emits_optS _) (by decide +kernel)                                             -- VCS
  · exact .intro (emits_optS _) (by decide +kernel)                                             -- COOKIE

theorem slots_nonempty : ∀ s ∈ slots, SlotNE s.2 := fun s hs => (slots_good s hs).ne

theorem slots_types : ∀ s ∈ slots, SlotTypeOk s := fun s hs => (slots_good s hs).typeOk

/-- **every record the builder emits is non-empty** (needs fix 024ca91 — `scrProg` — and the conditional
emission of file, dependency and changelog arrays) -/
theorem builder_records_nonempty (x : Ctx) (hd : DirsOk x.c) : ∀ r ∈ recordsOf x, r.2.NonEmpty := by
  intro r hr
  obtain ⟨s, hs, h, _⟩ := slot_of_record hr
  exact slots_nonempty s hs x _ hd h

/-- all tags the builder can emit are legal (≥ 100, `hdrchkTag`) -/
theorem builder_tags_legal (x : Ctx) : ∀ r ∈ recordsOf x, 100 ≤ r.1 := fun r hr =>
  (by decide +kernel : ∀ t ∈ slots.map (·.1), 100 ≤ t) r.1 ((C06.filterMap_tags_sublist slots x).subset (List.mem_map_of_mem hr))

theorem builder_records_ok {x : Ctx} (v : C06.Valid x) (hd : DirsOk x.c)
    (hsize : (C06.hdrOf x).store.length < 268435456) : RecsValid (recordsOf x) IndexTag.RPMTAG_HEADERIMMUTABLE :=
  ⟨C06.records_tags_nodup x, fun r hr => ⟨builder_tags_legal x r hr, C06.records_no_region x r hr⟩, v.canon,
   builder_records_nonempty x hd, Nat.le_trans (Nat.succ_le_succ (records_length_le x)) (by decide), hsize⟩

/-- **the main header of a valid configuration is a header rpm accepts**, when every file's directory is registered (`DirsOk`:
`add_data` does that) and the store stays below rpm's 256 MiB (`C06.Valid` bounds it by 2 GiB only) -/
theorem build_header_valid {x : Ctx} (v : C06.Valid x) (hd : DirsOk x.c)
    (hsize : (C06.hdrOf x).store.length < 268435456) : HeaderValid 63 (C06.hdrOf x) :=
  fromEntries_valid (builder_records_ok v hd hsize)

theorem mainHeader_valid (c : Cfg) (now : Nat) (p a : Bytes) (v : C06.Valid (mkCtx c now p a)) (hd : DirsOk c)
    (hsize : (mainHeader c now p a).store.length < 268435456) : HeaderValid 63 (mainHeader c now p a) :=
  build_header_valid v hd hsize

/-- what the signer hands to `SignatureHeaderBuilder`: per signature the legacy tag (RSA 268 / DSA 267),
the non-empty raw signature and its base64 text; the header digest as hex text -/
structure SigsOk (sigs : List (Nat × Bytes × Bytes)) (sha : Bytes) : Prop where
  tags : ∀ s ∈ sigs, s.1 = SigTag.RPMSIGTAG_RSA ∨ s.1 = SigTag.RPMSIGTAG_DSA
  raw : ∀ s ∈ sigs, s.2.1 ≠ [] ∧ s.2.1.length < 4294967296
  b64 : ∀ s ∈ sigs, StrOk s.2.2
  count : sigs.length < 4294967296
  shaOk : StrOk sha
  size : (signatureHeader sigs (some sha)).store.length ≤ 67108864   -- rpm's limit for signature headers (`hdrblobRead`: 64 MiB)

/-- the records `SignatureHeaderBuilder::build` hands to `from_entries` -/
def sigRecs (sigs : List (Nat × Bytes × Bytes)) (sha : Bytes) : List (Nat × IndexData) :=
  (match sigs.getLast? with
   | Option.none => []
   | some (tag, raw, _) => [(SigTag.RPMSIGTAG_OPENPGP, .strArray (sigs.map (·.2.2))), (tag, .bin raw)]) ++
  [(SigTag.RPMSIGTAG_SHA256, .str sha)]

theorem signatureHeader_eq (sigs : List (Nat × Bytes × Bytes)) (sha : Bytes) :
    signatureHeader sigs (some sha) = fromEntries (sigRecs sigs sha) SigTag.HEADER_SIGNATURES := rfl

/-- tags 278 / 267|268 / 273 are distinct and legal, the OPENPGP array and the legacy signature are non-empty -/
theorem sigRecs_valid {sigs : List (Nat × Bytes × Bytes)} {sha : Bytes} (ok : SigsOk sigs sha) :
    RecsValid (sigRecs sigs sha) 62 ∧ ∀ r ∈ sigRecs sigs sha, r.1 < 4294967296 := by
  have hsize : (fromEntries (sigRecs sigs sha) 62).store.length < 268435456 := Nat.lt_of_le_of_lt ok.size (by decide)
  unfold sigRecs at hsize ⊢
  cases hl : sigs.getLast? with
  | none =>
    simp only [hl, List.nil_append] at hsize ⊢
    refine ⟨⟨List.nodup_cons.mpr ⟨List.not_mem_nil, List.nodup_nil⟩, ?_, ?_, ?_, (by decide : 1 + 1 ≤ 65535), hsize⟩, ?_⟩
    all_goals simp only [List.forall_mem_cons, List.not_mem_nil, false_imp_iff, implies_true, and_true]
    · decide
    · exact ok.shaOk
    · trivial
    · decide
  | some last =>
    obtain ⟨tag, raw, b64⟩ := last
    have hmem : (tag, raw, b64) ∈ sigs := List.mem_of_getLast? hl
    have htags : ([278, tag, 273] : List Nat).Nodup ∧ ∀ t ∈ [278, tag, 273], (100 ≤ t ∧ t ≠ 62) ∧ t < 4294967296 := by
      rcases ok.tags _ hmem with h | h <;> (change tag = _ at h; subst h; decide)
    simp only [List.forall_mem_cons, List.not_mem_nil, false_imp_iff, implies_true, and_true] at htags
    obtain ⟨hnodup, ⟨t1, l1⟩, ⟨t2, l2⟩, ⟨t3, l3⟩⟩ := htags
    simp only [hl, List.cons_append, List.nil_append] at hsize ⊢
    refine ⟨⟨hnodup, ?_, ?_, ?_, (by decide : 3 + 1 ≤ 65535), hsize⟩, ?_⟩
    all_goals simp only [List.forall_mem_cons, List.not_mem_nil, false_imp_iff, implies_true, and_true]
    · exact ⟨t1, t2, t3⟩
    · exact ⟨⟨by rw [List.length_map]; exact ok.count, fun s hs => by obtain ⟨t, ht, rfl⟩ := List.mem_map.mp hs; exact ok.b64 t ht⟩,
        (ok.raw _ hmem).2, ok.shaOk⟩
    · exact ⟨map_ne _ (List.ne_nil_of_mem hmem), (ok.raw _ hmem).1, trivial⟩
    · exact ⟨l1, l2, l3⟩

theorem sigRecs_ok {sigs : List (Nat × Bytes × Bytes)} {sha : Bytes} (ok : SigsOk sigs sha) :
    RecsOk (sigRecs sigs sha) SigTag.HEADER_SIGNATURES :=
  have ⟨v, ht⟩ := sigRecs_valid ok
  ⟨v.canon, ht, by decide, Nat.lt_of_le_of_lt v.count (by decide), Nat.lt_trans v.size (by decide)⟩

theorem signatureHeader_wf {sigs : List (Nat × Bytes × Bytes)} {sha : Bytes} (ok : SigsOk sigs sha) :
    HeaderWF (signatureHeader sigs (some sha)) :=
  fromEntries_wf (sigRecs_ok ok)

/-- **sign / clear**: every signature header `SignatureHeaderBuilder::build` produces — the unsigned one
of `build` and `clear_signatures` (`sigs = []`) and the signed one of `sign` / `build_and_sign` — is valid.
Whatever the history, the package's signature header is the result of the last such call. -/
theorem sign_clear_valid {sigs : List (Nat × Bytes × Bytes)} {sha : Bytes} (ok : SigsOk sigs sha) :
    HeaderValid 62 (signatureHeader sigs (some sha)) :=
  fromEntries_valid (sigRecs_valid ok).1

/-- **sig-limits**: a signature header built by `SignatureHeaderBuilder::build` has at most four index entries (region, OPENPGP,
RSA | DSA, SHA256) — rpm allows 32 — and its store is within the 64 MiB rpm allows -/
theorem sig_limits_valid {sigs : List (Nat × Bytes × Bytes)} {sha : Bytes} (ok : SigsOk sigs sha) :
    SigLimits (signatureHeader sigs (some sha)) := by
  refine ⟨?_, ok.size⟩
  show ((sigRecs sigs sha).mergeSort _).length + 1 ≤ 32
  rw [List.length_mergeSort]
  unfold sigRecs
  cases sigs.getLast? <;> simp

theorem find_slot {x : Ctx} {s : Slot} (hs : s ∈ slots) : find (C06.hdrOf x) s.1 = s.2 x := by
  cases hd : s.2 x with
  | none =>
    have hrt : IndexTag.RPMTAG_HEADERIMMUTABLE ≠ s.1 := fun e => C06.slots_no_region (e ▸ List.mem_map_of_mem hs)
    simp only [find, C06.hdrOf, fromEntries_find_none hrt (C06.no_record_of_slot hs hd), Option.map_none]
  | some d =>
    obtain ⟨e, hf, _, hdata⟩ := fromEntries_find (C06.records_tags_nodup x) (C06.records_no_region x) (C06.record_of_slot hs hd)
    simp only [find, C06.hdrOf, hf, Option.map_some, hdata]

/-! The look-ups below take a row of `slots` from its block (`C06.mem_slot_first` / `C06.mem_slots_block`): block 0 holds PROVIDE*, 1 the payload and
changelog rows, 2–8 OBSOLETE*, REQUIRE*, CONFLICT*, RECOMMEND*, SUGGEST*, ENHANCE*, SUPPLEMENT*, 9–17 the scriptlets (`verify` last) -/

theorem find_of_mem (x : Ctx) (t : Nat) (f : Ctx → Option IndexData) (hs : (t, f) ∈ slots) : find (C06.hdrOf x) t = f x :=
  find_slot hs

theorem find_no_slot {x : Ctx} {t : Nat} (ht : t ∉ slots.map (·.1)) (hrt : IndexTag.RPMTAG_HEADERIMMUTABLE ≠ t) :
    find (C06.hdrOf x) t = none := by
  have : ∀ r ∈ recordsOf x, r.1 ≠ t := fun r hr e =>
    ht (e ▸ (C06.filterMap_tags_sublist slots x).subset (List.mem_map_of_mem hr))
  simp only [find, C06.hdrOf, fromEntries_find_none hrt this, Option.map_none]

theorem strsAt_none {h : Header} {t : Nat} (hf : find h t = none) : strsAt h t = [] := by
  simp only [strsAt, strsOf, hf, Option.getD_none]

theorem strsAt_of_find {h : Header} {t : Nat} {c : Bool} {l : List Bytes}
    (hf : find h t = if c then none else some (.strArray l)) (hc : c = true → l = []) : strsAt h t = l := by
  unfold strsAt strsOf; rw [hf]
  cases c with
  | true => exact (hc rfl).symm
  | false => rfl

/-- the interpreter list of a scriptlet as it is written: nothing for no scriptlet, no `prog` call, or an empty list -/
def progOf (s : Option Scriptlet) : List Bytes := ((s.bind (·.prog)).getD [])

theorem strsAt_depSlots {x : Ctx} {n v f : Nat} {g : Ctx → List Dep} {al : Bool} (h : ∀ s ∈ depSlots n v f g al, s ∈ slots) :
    strsAt (C06.hdrOf x) n = (g x).map (·.name) ∧ strsAt (C06.hdrOf x) v = (g x).map (·.version) := by
  have hc {β} (p : Dep → β) : (!al && (g x).isEmpty) = true → (g x).map p = [] := fun hc => by
    rw [List.isEmpty_iff.mp (Bool.and_eq_true_iff.mp hc).2]; rfl
  exact ⟨strsAt_of_find (find_slot (h _ (.head _))) (hc _), strsAt_of_find (find_slot (h _ (.tail _ (.head _)))) (hc _)⟩

theorem strsAt_scriptSlots {x : Ctx} {a b c : Nat} {g : Cfg → Option Scriptlet} (h : ∀ s ∈ scriptSlots a b c g, s ∈ slots) :
    strsAt (C06.hdrOf x) c = progOf (g x.c) := by
  have hf : find (C06.hdrOf x) c = scrProg g x := find_slot (h _ (.tail _ (.tail _ (.head _))))
  unfold strsAt strsOf progOf; rw [hf]; unfold scrProg
  cases g x.c with
  | none => rfl
  | some s =>
    cases hp : s.prog with
    | none => simp [hp]
    | some p =>
      simp only [Option.bind_some, hp]
      cases h : p.isEmpty with
      | true => rw [List.isEmpty_iff.mp h]; rfl
      | false => rfl

/-- `Lead::new` writes major 3, type 0 (binary), signature type 5 -/
theorem lead_valid (name : Bytes) : LeadValid (leadNew name) := ⟨rfl, Or.inl rfl, rfl⟩

/-- **tag-type**: the main header of EVERY configuration passes rpm's `hdrchkTagType` -/
theorem build_tagtypes_valid (x : Ctx) : TagTypesOk (C06.hdrOf x) := by
  intro e he
  obtain ⟨s, hs, h, ht⟩ := slot_of_record (body_fromEntries_mem he)
  have := slots_types s hs x _ h
  rwa [ht] at this

/-- the transcribed tag table agrees with every (tag, type) pair found in the main headers of the rpm-built packages of
/repo/test_assets (scraped on every run, `Gen.assetTagTypes`): exactly — except that rpm writes a lone interpreter as STRING under
the `*PROG` tags its table lists as STRING_ARRAY -/
theorem asset_tag_types_agree : ∀ p ∈ Gen.assetTagTypes,
    tagType? p.1 = some p.2 ∨ (p.1 ∈ progTags ∧ p.2 = 6 ∧ tagType? p.1 = some 8) := by decide +kernel

/-- **payload-flags**: PAYLOADFLAGS is written as a plain STRING (the level text), next to PAYLOADCOMPRESSOR -/
theorem build_flags_valid (x : Ctx) : PayloadFlagsOk (C06.hdrOf x) := by
  have hfl := find_of_mem x tPAYLOADFLAGS _ (C06.mem_slots_block rfl (j := 1) rfl _ (List.mem_of_getElem? (i := 4) rfl))
  unfold PayloadFlagsOk
  rw [hfl]
  cases x.c.compression.name <;> trivial

/-- **rpmlib_declared**: the requirements the builder writes always contain the three base features, the
payload compressor's feature for zstd / xz / bzip2 (fix 9787c3c added xz and bzip2), `FileCaps` when a
file has capabilities and `LargeFiles` in large-file mode -/
theorem rpmlib_declared (c : Cfg) :
    rpmlibName fCompressedFileNames ∈ (allRequires c).map (·.name) ∧
    rpmlibName fFileDigests ∈ (allRequires c).map (·.name) ∧
    rpmlibName fPayloadFilesHavePrefix ∈ (allRequires c).map (·.name) ∧
    (∀ l, c.compression = .zstd l → rpmlibName fPayloadIsZstd ∈ (allRequires c).map (·.name)) ∧
    (∀ l, c.compression = .xz l → rpmlibName fPayloadIsXz ∈ (allRequires c).map (·.name)) ∧
    (∀ l, c.compression = .bzip2 l → rpmlibName fPayloadIsBzip2 ∈ (allRequires c).map (·.name)) ∧
    (usesCaps c = true → rpmlibName fFileCaps ∈ (allRequires c).map (·.name)) ∧
    (usesLargeFiles c = true → rpmlibName fLargeFiles ∈ (allRequires c).map (·.name)) := by
  refine ⟨?_, ?_, ?_, fun l h => ?_, fun l h => ?_, fun l h => ?_, fun h => ?_, fun h => ?_⟩
  -- each name stands in `baseRequires`, written out; the conditional ones once the condition `h` is put in
  all_goals
    refine ((C06.base_prefix_all c).map _).subset ?_
    simp only [baseRequires, rpmlib, rpmlibName, fCompressedFileNames, fFileDigests, fPayloadFilesHavePrefix, fPayloadIsZstd,
      fPayloadIsXz, fPayloadIsBzip2, fFileCaps, fLargeFiles, *, if_true, List.map_append, List.map_cons, List.map_nil,
      List.mem_append, List.mem_cons, true_or, or_true]

theorem allRequires_ne (c : Cfg) : allRequires c ≠ [] := by
  intro h
  have hp := C06.base_prefix_all c
  rw [h, List.prefix_nil] at hp
  revert hp; unfold baseRequires; simp

theorem requireNames_built (x : Ctx) : strsAt (C06.hdrOf x) tREQUIRENAME = (allRequires x.c).map (·.name) :=
  (strsAt_depSlots (C06.mem_slots_block rfl (j := 3) rfl)).1

theorem mem_ite_singleton {α} {c : Prop} [Decidable c] {a f : α} : f ∈ (if c then [a] else []) ↔ c ∧ f = a := by
  by_cases hc : c
  · rw [if_pos hc, List.mem_singleton, and_iff_right hc]
  · rw [if_neg hc]; exact ⟨nofun, fun h => absurd h.1 hc⟩

/-- **the built header declares every STRUCTURAL rpmlib() feature it uses** (compressor, capabilities, large files, compressed
file names, file digests, "./" prefix) — for every configuration -/
theorem build_struct_features_declared (x : Ctx) (pre : Bool) :
    ∀ f ∈ structFeatures (C06.hdrOf x) pre, rpmlibName f ∈ strsAt (C06.hdrOf x) tREQUIRENAME := by
  obtain ⟨b1, b2, b3, hz, hx, hb, hcaps, hlarge⟩ := rpmlib_declared x.c
  have hcomp := find_of_mem x tPAYLOADCOMPRESSOR _ (C06.mem_slots_block rfl (j := 1) rfl _ (List.mem_of_getElem? (i := 3) rfl))
  have hfc := find_of_mem x tFILECAPS _ (C06.mem_slot_first rfl (i := 37) rfl)
  have hlf := find_of_mem x tLONGFILESIZES _ (C06.mem_slot_first rfl (i := 19) rfl)
  intro f hf
  rw [requireNames_built]
  simp only [structFeatures, List.mem_append, mem_ite_singleton, strOf, hcomp, hfc, hlf] at hf
  rcases hf with ((((hf | ⟨hc, rfl⟩) | ⟨hc, rfl⟩) | ⟨_, rfl⟩) | ⟨_, rfl⟩) | ⟨_, rfl⟩
  · -- the compressor's feature: `hf` is decided by evaluating the name comparisons
    revert hf
    cases hc : x.c.compression with
    | none | gzip l => exact fun hf => absurd hf List.not_mem_nil
    | zstd l => exact fun hf => List.mem_singleton.mp hf ▸ hz l hc
    | xz l => exact fun hf => List.mem_singleton.mp hf ▸ hx l hc
    | bzip2 l => exact fun hf => List.mem_singleton.mp hf ▸ hb l hc
  · -- FILECAPS is written only when a file has capabilities
    cases hu : usesCaps x.c with
    | true => exact hcaps hu
    | false => simp [hu] at hc
  · cases hu : usesLargeFiles x.c with
    | true => exact hlarge hu
    | false => simp [hu] at hc
  · exact b1
  · exact b2
  · exact b3

/-! ### the four features rpmbuild derives from the content of dependencies and scriptlets

Since the fix "the builder declares the rpmlib() features a package uses through the content of its dependencies and scriptlets"
`prepare_data` looks at the versions of all dependencies (`Bld.versionHas`), the names of the six kinds that may be rich
(`Bld.usesRichDeps`) and the interpreter lists (`Bld.usesInterpArgs`) and pushes the missing requirement (`Bld.pushFeature`). -/

/-- the dependency lists whose versions `haveCharInDep` scans, as `prepare_data` writes them (PROVIDE, REQUIRE, OBSOLETE, CONFLICT,
SUGGEST, ENHANCE, RECOMMEND, SUPPLEMENT; the builder has no ORDER / TRIGGER entries) -/
def evrDeps (c : Cfg) : List Dep :=
  allProvides c ++ allRequires c ++ c.obsoletes ++ c.conflicts ++ c.suggests ++ c.enhances ++ allRecommends c ++ c.supplements

/-- the dependency lists `haveRichDep` scans -/
def richDeps (c : Cfg) : List Dep :=
  allRequires c ++ allRecommends c ++ c.suggests ++ c.supplements ++ c.enhances ++ c.conflicts

/-- `haveCharInDep` on the built header, in terms of the configuration -/
theorem evrHasChar_built (x : Ctx) (ch : UInt8) :
    evrHasChar (C06.hdrOf x) ch = (evrDeps x.c).any fun d => d.version.contains ch := by
  have h1 : strsAt (C06.hdrOf x) 1113 = _ := (strsAt_depSlots (C06.mem_slots_block rfl (j := 0) rfl)).2
  have h2 : strsAt (C06.hdrOf x) 1050 = _ := (strsAt_depSlots (C06.mem_slots_block rfl (j := 3) rfl)).2
  have h3 : strsAt (C06.hdrOf x) 1115 = _ := (strsAt_depSlots (C06.mem_slots_block rfl (j := 2) rfl)).2
  have h4 : strsAt (C06.hdrOf x) 1055 = _ := (strsAt_depSlots (C06.mem_slots_block rfl (j := 4) rfl)).2
  have hno : ∀ t ∈ [5036, 1067], t ∉ slots.map (·.1) := by decide +kernel
  have h5 : strsAt (C06.hdrOf x) 5036 = [] := strsAt_none (find_no_slot (hno _ (.head _)) (by decide))
  have h6 : strsAt (C06.hdrOf x) 1067 = [] := strsAt_none (find_no_slot (hno _ (.tail _ (.head _))) (by decide))
  have h7 : strsAt (C06.hdrOf x) 5050 = _ := (strsAt_depSlots (C06.mem_slots_block rfl (j := 6) rfl)).2
  have h8 : strsAt (C06.hdrOf x) 5056 = _ := (strsAt_depSlots (C06.mem_slots_block rfl (j := 7) rfl)).2
  have h9 : strsAt (C06.hdrOf x) 5047 = _ := (strsAt_depSlots (C06.mem_slots_block rfl (j := 5) rfl)).2
  have h10 : strsAt (C06.hdrOf x) 5053 = _ := (strsAt_depSlots (C06.mem_slots_block rfl (j := 8) rfl)).2
  simp only [evrHasChar, depEvrTags, List.any_cons, List.any_nil, Bool.or_false, h1, h2, h3, h4, h5, h6, h7, h8, h9, h10,
    List.any_map, evrDeps, List.any_append, Bool.or_assoc, Function.comp_def, Bool.false_or]

/-- `haveRichDep` on the built header -/
theorem hasRichDep_built (x : Ctx) : hasRichDep (C06.hdrOf x) = (richDeps x.c).any fun d => d.name.head? == some 40 := by
  have h1 : strsAt (C06.hdrOf x) 1049 = _ := (strsAt_depSlots (C06.mem_slots_block rfl (j := 3) rfl)).1
  have h2 : strsAt (C06.hdrOf x) 5046 = _ := (strsAt_depSlots (C06.mem_slots_block rfl (j := 5) rfl)).1
  have h3 : strsAt (C06.hdrOf x) 5049 = _ := (strsAt_depSlots (C06.mem_slots_block rfl (j := 6) rfl)).1
  have h4 : strsAt (C06.hdrOf x) 5052 = _ := (strsAt_depSlots (C06.mem_slots_block rfl (j := 8) rfl)).1
  have h5 : strsAt (C06.hdrOf x) 5055 = _ := (strsAt_depSlots (C06.mem_slots_block rfl (j := 7) rfl)).1
  have h6 : strsAt (C06.hdrOf x) 1054 = _ := (strsAt_depSlots (C06.mem_slots_block rfl (j := 4) rfl)).1
  simp only [hasRichDep, richNameTags, List.any_cons, List.any_nil, Bool.or_false, h1, h2, h3, h4, h5, h6,
    List.any_map, richDeps, List.any_append, Bool.or_assoc, Function.comp_def]

/-- the interpreter-with-arguments test on the built header is the builder's own test (which looks at `verify` last) -/
theorem hasInterpArgs_built (x : Ctx) : hasInterpArgs (C06.hdrOf x) = usesInterpArgs x.c := by
  have h1 : strsAt (C06.hdrOf x) 1085 = _ := strsAt_scriptSlots (C06.mem_slots_block rfl (j := 9) rfl)
  have h2 : strsAt (C06.hdrOf x) 1086 = _ := strsAt_scriptSlots (C06.mem_slots_block rfl (j := 10) rfl)
  have h3 : strsAt (C06.hdrOf x) 1087 = _ := strsAt_scriptSlots (C06.mem_slots_block rfl (j := 11) rfl)
  have h4 : strsAt (C06.hdrOf x) 1088 = _ := strsAt_scriptSlots (C06.mem_slots_block rfl (j := 12) rfl)
  have h5 : strsAt (C06.hdrOf x) 1091 = _ := strsAt_scriptSlots (C06.mem_slots_block rfl (j := 17) rfl)
  have h6 : strsAt (C06.hdrOf x) 1153 = _ := strsAt_scriptSlots (C06.mem_slots_block rfl (j := 13) rfl)
  have h7 : strsAt (C06.hdrOf x) 1154 = _ := strsAt_scriptSlots (C06.mem_slots_block rfl (j := 14) rfl)
  have h8 : strsAt (C06.hdrOf x) 5105 = _ := strsAt_scriptSlots (C06.mem_slots_block rfl (j := 15) rfl)
  have h9 : strsAt (C06.hdrOf x) 5106 = _ := strsAt_scriptSlots (C06.mem_slots_block rfl (j := 16) rfl)
  have e : usesInterpArgs x.c = [x.c.preIn, x.c.postIn, x.c.preUn, x.c.postUn, x.c.preTrans, x.c.postTrans, x.c.preUntrans,
      x.c.postUntrans, x.c.verify].any fun s => decide (1 < (progOf s).length) := by
    unfold usesInterpArgs progOf
    refine congrArg _ (funext fun s => ?_)
    cases s.bind (·.prog) <;> rfl
  simp only [hasInterpArgs, progTags, e, List.any_cons, List.any_nil, Bool.or_false, h1, h2, h3, h4, h5, h6, h7, h8, h9]
  ac_rfl

theorem pushFeature_cases (reqs : List Dep) (u : Bool) (f v : Bytes) :
    pushFeature reqs u f v = reqs ∨ pushFeature reqs u f v = reqs ++ [rpmlib f v] := by
  unfold pushFeature; split
  · exact Or.inr rfl
  · exact Or.inl rfl

/-- after its turn a used feature is required by name — pushed now, or already there -/
theorem name_mem_pushFeature (reqs : List Dep) (f v : Bytes) :
    rpmlibName f ∈ (pushFeature reqs true f v).map (·.name) := by
  unfold pushFeature
  cases h : reqs.any fun d => d.name == (rpmlib f v).name with
  | true =>
    obtain ⟨d, hd, he⟩ := List.any_eq_true.mp h
    exact List.mem_map.mpr ⟨d, hd, eq_of_beq he⟩
  | false => exact List.mem_map.mpr ⟨_, List.mem_append_right _ (List.mem_singleton_self _), rfl⟩

theorem mem_pushFeature {reqs : List Dep} {u : Bool} {f v : Bytes} {d : Dep} (h : d ∈ pushFeature reqs u f v) :
    d ∈ reqs ∨ d = rpmlib f v := by
  rcases pushFeature_cases reqs u f v with e | e <;> rw [e] at h
  · exact Or.inl h
  · exact (List.mem_append.mp h).imp_right List.mem_singleton.mp

theorem names_mono_pushFeature {reqs : List Dep} {n : Bytes} (h : n ∈ reqs.map (·.name)) (u : Bool) (f v : Bytes) :
    n ∈ (pushFeature reqs u f v).map (·.name) := by
  rcases pushFeature_cases reqs u f v with e | e <;> rw [e]
  · exact h
  · rw [List.map_append]; exact List.mem_append_left _ h

/-- the four requirements the content loop can push -/
def contentDeps : List Dep :=
  [rpmlib fTildeInVersions [52, 46, 49, 48, 46, 48, 45, 49], rpmlib fCaretInVersions [52, 46, 49, 53, 46, 48, 45, 49],
   rpmlib fRichDependencies [52, 46, 49, 50, 46, 48, 45, 49], rpmlib fScriptletInterpreterArgs [52, 46, 48, 46, 51, 45, 49]]

/-- every requirement is the caller's, a structural rpmlib() one, or one of the four content ones -/
theorem allRequires_cases {c : Cfg} {d : Dep} (h : d ∈ allRequires c) : d ∈ baseRequires c ∨ d ∈ contentDeps := by
  unfold allRequires at h
  rcases mem_pushFeature h with h | rfl
  · rcases mem_pushFeature h with h | rfl
    · rcases mem_pushFeature h with h | rfl
      · rcases mem_pushFeature h with h | rfl
        · exact Or.inl h
        · exact Or.inr (.head _)
      · exact Or.inr (.tail _ (.head _))
    · exact Or.inr (.tail _ (.tail _ (.head _)))
  · exact Or.inr (.tail _ (.tail _ (.tail _ (.head _))))

/-- the content requirements themselves use none of the features: versions without `~` / `^`, names not starting with "(" -/
theorem contentDeps_clean : ∀ d ∈ contentDeps, 126 ∉ d.version ∧ 94 ∉ d.version ∧ d.name.head? ≠ some 40 := by decide +kernel

theorem any_pushFeature {reqs : List Dep} {u : Bool} {f v : Bytes} {p : Dep → Bool} (hp : p (rpmlib f v) = false) :
    (pushFeature reqs u f v).any p = reqs.any p := by
  rcases pushFeature_cases reqs u f v with e | e <;> rw [e]
  rw [List.any_append, List.any_cons, hp, List.any_nil, Bool.or_false, Bool.or_false]

theorem any_allRequires {c : Cfg} {p : Dep → Bool} (hp : ∀ d ∈ contentDeps, p d = false) :
    (allRequires c).any p = (baseRequires c).any p := by
  unfold allRequires
  exact (any_pushFeature (hp _ (.tail _ (.tail _ (.tail _ (.head _)))))).trans
    ((any_pushFeature (hp _ (.tail _ (.tail _ (.head _))))).trans
      ((any_pushFeature (hp _ (.tail _ (.head _)))).trans (any_pushFeature (hp _ (.head _)))))

theorem any_allRecommends {c : Cfg} {p : Dep → Bool} (hu : ∀ n, p (depUser n) = false) (hg : ∀ n, p (depGroup n) = false) :
    (allRecommends c).any p = c.recommends.any p := by
  have h : ∀ (l : List Bytes) (mk : Bytes → Dep), (∀ n, p (mk n) = false) → (l.map mk).any p = false := fun l mk hmk =>
    List.any_eq_false.mpr fun d hd => by obtain ⟨n, _, rfl⟩ := List.mem_map.mp hd; rw [hmk n]; exact Bool.false_ne_true
  rw [allRecommends, List.any_append, List.any_append, h _ _ hu, h _ _ hg, Bool.or_false, Bool.or_false]

theorem evrHasChar_eq_versionHas {x : Ctx} {ch : UInt8} (hch : ch = 126 ∨ ch = 94) :
    evrHasChar (C06.hdrOf x) ch = versionHas x.c ch := by
  have hc : ∀ d ∈ contentDeps, d.version.contains ch = false := fun d hd => by
    have := contentDeps_clean d hd
    rcases hch with rfl | rfl
    · simpa using this.1
    · simpa using this.2.1
  rw [evrHasChar_built, evrDeps, versionHas]
  simp only [List.any_append, any_allRequires hc, any_allRecommends (p := fun d => d.version.contains ch) (fun _ => rfl) (fun _ => rfl)]
  ac_rfl

theorem versionHas_of_header {x : Ctx} {ch : UInt8} (hch : ch = 126 ∨ ch = 94) (h : evrHasChar (C06.hdrOf x) ch = true) :
    versionHas x.c ch = true :=
  evrHasChar_eq_versionHas hch ▸ h

theorem hasRichDep_eq_usesRichDeps (x : Ctx) : hasRichDep (C06.hdrOf x) = usesRichDeps x.c := by
  have hc : ∀ d ∈ contentDeps, (d.name.head? == some 40) = false := fun d hd => by simpa using (contentDeps_clean d hd).2.2
  rw [hasRichDep_built, richDeps, usesRichDeps]
  simp only [List.any_append, any_allRequires hc, any_allRecommends (p := fun d => d.name.head? == some 40) (fun _ => rfl) (fun _ => rfl)]

theorem usesRichDeps_of_header {x : Ctx} (h : hasRichDep (C06.hdrOf x) = true) : usesRichDeps x.c = true :=
  hasRichDep_eq_usesRichDeps x ▸ h

theorem usesInterpArgs_of_header {x : Ctx} (h : hasInterpArgs (C06.hdrOf x) = true) : usesInterpArgs x.c = true :=
  hasInterpArgs_built x ▸ h

/-- a used content feature is required by name in `allRequires` -/
theorem content_declared (c : Cfg) :
    (versionHas c 126 = true → rpmlibName fTildeInVersions ∈ (allRequires c).map (·.name)) ∧
    (versionHas c 94 = true → rpmlibName fCaretInVersions ∈ (allRequires c).map (·.name)) ∧
    (usesRichDeps c = true → rpmlibName fRichDependencies ∈ (allRequires c).map (·.name)) ∧
    (usesInterpArgs c = true → rpmlibName fScriptletInterpreterArgs ∈ (allRequires c).map (·.name)) := by
  unfold allRequires
  refine ⟨fun h => ?_, fun h => ?_, fun h => ?_, fun h => ?_⟩ <;> rw [h]
  · exact names_mono_pushFeature (names_mono_pushFeature (names_mono_pushFeature (name_mem_pushFeature _ _ _) _ _ _) _ _ _) _ _ _
  · exact names_mono_pushFeature (names_mono_pushFeature (name_mem_pushFeature _ _ _) _ _ _) _ _ _
  · exact names_mono_pushFeature (name_mem_pushFeature _ _ _) _ _ _
  · exact name_mem_pushFeature _ _ _

/-- **the built header declares every rpmlib() feature it uses** — all thirteen, for EVERY configuration (the four content
features since the fix of builder.rs: before it this statement was false; witnesses corpus/C09/rpmlib-content-features.case) -/
theorem build_rpmlib_valid (x : Ctx) (pre : Bool) : RpmlibDeclared (C06.hdrOf x) pre := by
  intro f hf
  rcases List.mem_append.mp hf with hf | hf
  · exact build_struct_features_declared x pre f hf
  · obtain ⟨h1, h2, h3, h4⟩ := content_declared x.c
    rw [requireNames_built]
    simp only [contentFeatures, List.mem_append, mem_ite_singleton] at hf
    rcases hf with ((⟨hu, rfl⟩ | ⟨hu, rfl⟩) | ⟨hu, rfl⟩) | ⟨hu, rfl⟩
    · exact h1 (versionHas_of_header (Or.inl rfl) hu)
    · exact h2 (versionHas_of_header (Or.inr rfl) hu)
    · exact h3 (usesRichDeps_of_header hu)
    · exact h4 (usesInterpArgs_of_header hu)

theorem trailerName_eq : cpioTrailerName = trailerName := rfl

theorem cpioCheck_trailer (i : Nat) (rest : Bytes) : cpioCheck i [] (trailer ++ rest) = none := by
  have h := readEntry_writeEntry trailer_wf (c := []) (by decide) none (by decide) rest
  simp only [cpioCheck, trailer, h]
  rfl

def expOfEntry (x : EntryMeta × Bytes) : FileExp := ⟨x.1.name, x.2.length, x.1.mode⟩

/-- **standard archives**: the validator's cpio walk (the Spec's own newc reader) accepts `archiveOf es` for the file list read off `es` -/
theorem cpioCheck_archiveOf (es : List (EntryMeta × Bytes)) (hes : ∀ x ∈ es, EntryOK x) (rest : Bytes) :
    ∀ i, cpioCheck i (es.map expOfEntry) (archiveOf es ++ rest) = none := by
  induction es with
  | nil => intro i; exact cpioCheck_trailer i rest
  | cons x t ih =>
    intro i
    obtain ⟨m, c⟩ := x
    obtain ⟨hw, _, hl⟩ := hes (m, c) (by simp)
    simp only [archiveOf, List.append_assoc, List.map_cons, cpioCheck, readEntry_writeEntry hw hl none (by decide),
      expOfEntry, ne_eq, not_true_eq_false, if_false, or_self, skipData_append]
    exact ih (fun x hx => hes x (by simp [hx])) (i + 1)

/-- **large-file archives**: stripped entries carrying the indices `k, k+1, …`, data of the header's sizes -/
theorem cpioCheck_stripped (rest : Bytes) (cs : List Bytes) :
    ∀ (fs : List FileExp) (k : Nat), fs.map (·.size) = cs.map List.length → k + cs.length ≤ 4294967295 →
      cpioCheck k fs (archiveStrippedFrom k cs ++ rest) = none := by
  induction cs with
  | nil =>
    intro fs k hfs _
    have : fs = [] := by simpa using hfs
    subst this
    exact cpioCheck_trailer k rest
  | cons c t ih =>
    intro fs k hfs hk
    cases fs with
    | nil => simp at hfs
    | cons f fs' =>
      simp only [List.map_cons, List.cons.injEq] at hfs
      have hk' : k < 4294967296 := by simp at hk; omega
      have ih' := ih fs' (k + 1) hfs.2 (by simp at hk; omega)
      simp only [archiveStrippedFrom, List.append_assoc, cpioCheck, readEntry_strippedHeader hk',
        strippedDataPad_eq, ne_eq, not_true_eq_false, if_false, hfs.1, skipData_append]
      exact ih'

/-- what the archive must say about a builder file: name "." ++ dir ++ base name, recorded size and mode -/
def expOf (f : FileE) : FileExp := ⟨[46] ++ (f.dir ++ f.baseName), f.size, f.mode⟩

theorem mkFiles_files (dirs : List Bytes) (fs : List FileE) (hd : ∀ f ∈ fs, f.dir ∈ dirs) :
    mkFiles dirs (fs.map (·.baseName)) (fs.map fun f => dirIndex dirs f.dir) (fs.map (·.size)) (fs.map (·.mode)) =
      some (fs.map expOf) := by
  induction fs with
  | nil => rfl
  | cons f t ih =>
    simp only [List.map_cons, mkFiles, C06.dirs_lookup (hd f (by simp)), ih (fun g hg => hd g (by simp [hg])), expOf]

theorem headerFiles_built (x : Ctx) (hd : DirsOk x.c) : headerFiles (C06.hdrOf x) = some (x.c.files.map expOf) := by
  have hb := find_of_mem x tBASENAMES _ (C06.mem_slot_first rfl (i := 35) rfl)
  have hdn := find_of_mem x tDIRNAMES _ (C06.mem_slot_first rfl (i := 36) rfl)
  have hdi := find_of_mem x tDIRINDEXES _ (C06.mem_slot_first rfl (i := 31) rfl)
  have hm := find_of_mem x tFILEMODES _ (C06.mem_slot_first rfl (i := 21) rfl)
  have hlf := find_of_mem x tLONGFILESIZES _ (C06.mem_slot_first rfl (i := 19) rfl)
  have hsf := find_of_mem x tFILESIZES _ (C06.mem_slot_first rfl (i := 20) rfl)
  cases he : x.c.files.isEmpty with
  | true =>
    have : x.c.files = [] := List.isEmpty_iff.mp he
    simp only [whenFiles, he, if_true] at hb
    simp only [headerFiles, strsOf, hb, this, List.map_nil]
  | false =>
    simp only [whenFiles, he, Bool.false_eq_true, if_false, Bool.false_or] at hb hdn hdi hm hlf hsf
    -- sizes come from LONGFILESIZES in large-file mode, else from FILESIZES
    cases hl : usesLargeFiles x.c
    all_goals
      simp only [hl, Bool.not_true, Bool.not_false, Bool.false_eq_true, if_false, if_true] at hlf hsf
      simp only [headerFiles, strsOf, u32sOf, u16sOf, u64sOf, hb, hdn, hdi, hm, hlf, hsf]
      exact mkFiles_files _ _ hd

/-- a builder file together with its content, as the archive loop sees it (the same function as `Build.toFileIn`) -/
def toFileIn (p : FileE × Bytes) : FileIn := ⟨p.1.cpioPath, p.1.mode, p.2⟩

/-- what `add_data` guarantees for every stored file (C17 `add_data_cpio_name`, fix cbb69e5: the archive
name is "." ++ dir ++ base name; the size is the content's length) plus what the cpio format can carry.
Not `Bld.FileOk`, and `C09.CfgOk` below is not `Bld.CfgOk` (Lemmas/ValidInputs: conditions on the fields of a file / of a configuration). -/
structure FileOk (p : FileE × Bytes) : Prop where
  size : p.1.size = p.2.length
  path : p.1.cpioPath = [46] ++ (p.1.dir ++ p.1.baseName)
  ok : FileIn.OK (toFileIn p)

theorem builderEntriesFrom_exp (uid gid : Nat) (fes : List (FileE × Bytes)) (hf : ∀ p ∈ fes, FileOk p) : ∀ ino,
    (builderEntriesFrom uid gid ino (fes.map toFileIn)).map expOfEntry = (fes.map (·.1)).map expOf := by
  induction fes with
  | nil => intro _; rfl
  | cons p t ih =>
    intro ino
    have hp := hf p (by simp)
    simp only [List.map_cons, builderEntriesFrom, ih (fun q hq => hf q (by simp [hq])), expOfEntry, builderMeta, toFileIn,
      expOf, hp.path, hp.size]

/-- **payload, standard form**: the archive `prepare_data` writes (model: `Cpio.builderArchive` over the
files in BTreeMap order) passes the validator's cpio rules against the header `prepare_data` builds from
the same files — entries in header order with matching names, sizes and modes, 4-byte padding, trailer -/
theorem payload_valid_std (x : Ctx) (hd : DirsOk x.c) (fes : List (FileE × Bytes)) (hfiles : x.c.files = fes.map (·.1))
    (hf : ∀ p ∈ fes, FileOk p) (hn : fes.length < 4294967296) {uid gid : Nat} (hu : uid < 4294967296) (hg : gid < 4294967296)
    (rest : Bytes) : CpioValid (C06.hdrOf x) (builderArchive uid gid (fes.map toFileIn) ++ rest) := by
  have hes := builderEntriesFrom_ok hu hg (fes.map toFileIn)
    (fun f hfm => by obtain ⟨p, hp, rfl⟩ := List.mem_map.mp hfm; exact (hf p hp).ok) 1 (by simp; omega)
  have h := cpioCheck_archiveOf _ hes rest 0
  rw [builderEntriesFrom_exp uid gid fes hf 1, ← hfiles] at h
  simp only [CpioValid, cpioViolation, headerFiles_built x hd, builderArchive]
  exact h

/-- **payload, large-file form** (stripped entries with the file index, then the ordinary trailer) -/
theorem payload_valid_large (x : Ctx) (hd : DirsOk x.c) (fes : List (FileE × Bytes)) (hfiles : x.c.files = fes.map (·.1))
    (hf : ∀ p ∈ fes, p.1.size = p.2.length) (hn : fes.length ≤ 4294967295) (rest : Bytes) :
    CpioValid (C06.hdrOf x) (builderArchiveLarge (fes.map toFileIn) ++ rest) := by
  have hsz : (x.c.files.map expOf).map (·.size) = (fes.map (·.2)).map List.length := by
    rw [hfiles, List.map_map, List.map_map, List.map_map]
    exact List.map_congr_left hf
  have h := cpioCheck_stripped rest (fes.map (·.2)) (x.c.files.map expOf) 0 hsz (by simpa using hn)
  have e : (fes.map toFileIn).map (·.content) = fes.map (·.2) := by rw [List.map_map]; rfl
  simp only [CpioValid, cpioViolation, headerFiles_built x hd, builderArchiveLarge, archiveStripped, e]
  exact h

theorem writeEntry_magic (m : EntryMeta) (c : Bytes) : [48, 55, 48, 55] <+: Cpio.writeEntry m c :=
  ⟨[48, 49] ++ (Cpio.writeEntry m c).drop 6, by simp [Cpio.writeEntry, intoHeader, cpioMagicNewc]⟩

/-- what is assumed of the codec crates (exercised on every generated package, not proved): no compression
leaves the archive as it is; a compressed stream starts with its format's magic -/
def CodecMagic (c : Comp) (payload archive : Bytes) : Prop :=
  match c with
  | .none => payload = archive
  | .gzip _ => [0x1f, 0x8b] <+: payload
  | .zstd _ => [0x28, 0xb5, 0x2f, 0xfd] <+: payload
  | .xz _ => [0xfd, 0x37, 0x7a, 0x58, 0x5a, 0x00] <+: payload
  | .bzip2 _ => [66, 90, 104] <+: payload

/-- the header names the compressor whose stream the payload is -/
theorem compressor_magic_valid (x : Ctx) {payload archive : Bytes} (harch : [48, 55, 48, 55] <+: archive)
    (hc : CodecMagic x.c.compression payload archive) : CompressorMagic (C06.hdrOf x) payload := by
  have hcomp := find_of_mem x tPAYLOADCOMPRESSOR _ (C06.mem_slots_block rfl (j := 1) rfl _ (List.mem_of_getElem? (i := 3) rfl))
  unfold CompressorMagic
  rw [hcomp]
  revert hc
  cases x.c.compression with
  | none => rintro rfl; exact Or.inr harch
  | gzip l | zstd l | xz l | bzip2 l => exact id

theorem writeHeader_length {h : Header} (wf : HeaderWF h) : (writeHeader h).length = 16 + 16 * h.nEntries + h.dataSize := by
  rw [writeHeader_eq]
  simp only [hdrBytes, hmagic, List.length_append, List.length_cons, List.length_nil, be32_length, writeRaws_length,
    List.length_map, wf.nEq, wf.dlEq]
  omega

/-- `write_signature` pads with zero bytes to a multiple of 8 -/
theorem sigPadding_written (p : Package) (wl : LeadWF p.md.lead) (ws : HeaderWF p.md.signature) :
    SigPadding (writePackage p) p.md.signature := by
  have e : writePackage p = (writeLead p.md.lead ++ writeHeader p.md.signature) ++
      (List.replicate ((8 - p.md.signature.dataSize % 8) % 8) 0 ++ (writeHeader p.md.header ++ p.content)) := by
    simp only [writePackage, writeMetadata, writeSignature, sigPad, List.append_assoc]
  have hl : (writeLead p.md.lead ++ writeHeader p.md.signature).length =
      96 + (16 + 16 * p.md.signature.nEntries + p.md.signature.dataSize) := by
    rw [List.length_append, writeLead_length wl, writeHeader_length ws]
  unfold SigPadding
  refine ⟨?_, by omega, ?_⟩
  · rw [e, List.drop_left' hl, List.take_left' (by simp)]
  · rw [e]; simp only [List.length_append, hl, List.length_replicate]; omega

/-- the archive `prepare_data` writes for the files `fes` (standard or large-file form) -/
def archiveFor (c : Cfg) (uid gid : Nat) (fes : List (FileE × Bytes)) : Bytes :=
  if usesLargeFiles c then builderArchiveLarge (fes.map toFileIn) else builderArchive uid gid (fes.map toFileIn)

theorem archiveFor_magic (c : Cfg) (uid gid : Nat) (fes : List (FileE × Bytes)) : [48, 55, 48, 55] <+: archiveFor c uid gid fes := by
  unfold archiveFor builderArchiveLarge archiveStripped builderArchive
  -- either form begins with an entry header: the trailer's if there is no file
  split
  · cases (fes.map toFileIn).map (·.content) with
    | nil => exact writeEntry_magic _ _
    | cons x t => exact ⟨_, rfl⟩
  · cases builderEntriesFrom uid gid 1 (fes.map toFileIn) with
    | nil => exact writeEntry_magic _ _
    | cons x t => exact (writeEntry_magic _ _).trans (List.prefix_append _ _)

structure CfgOk (x : Ctx) (fes : List (FileE × Bytes)) : Prop where
  valid : C06.Valid x                              -- canonical strings / integers, header below 2 GiB
  dirs : DirsOk x.c                                -- `add_data` registers every file's directory
  size : (C06.hdrOf x).store.length < 268435456    -- rpm's header limit
  files : x.c.files = fes.map (·.1)
  fileOk : ∀ p ∈ fes, FileOk p
  count : fes.length < 4294967295

/-- **build_valid**: for every valid configuration and every sign / clear history (the signature header
is whatever `SignatureHeaderBuilder` last built), the written package re-parses to the built value and
satisfies every rule of `PackageValid` — lead, both headers, the signature header's limits, tag types, signature padding,
compressor magic, PAYLOADFLAGS, rpmlib() features (all thirteen), cpio archive. The codec enters only through `CodecMagic`. -/
theorem build_valid {x : Ctx} {fes : List (FileE × Bytes)} (ok : CfgOk x fes)
    {sigs : List (Nat × Bytes × Bytes)} {sha : Bytes} (sok : SigsOk sigs sha)
    {uid gid : Nat} (hu : uid < 4294967296) (hg : gid < 4294967296)
    (payload : Bytes) (hc : CodecMagic x.c.compression payload (archiveFor x.c uid gid fes)) :
    let p : Package := ⟨⟨leadNew x.c.name, signatureHeader sigs (some sha), C06.hdrOf x⟩, payload⟩
    parsePackage (writePackage p) = .ok p ∧ PackageValid (writePackage p) p (archiveFor x.c uid gid fes) := by
  intro p
  refine ⟨C06.build_reparse ok.valid (sigRecs_ok sok) payload, {
    lead := lead_valid _
    sig := sign_clear_valid sok
    siglim := sig_limits_valid sok
    hdr := build_header_valid ok.valid ok.dirs ok.size
    tagtypes := build_tagtypes_valid x
    pad := sigPadding_written p (C06.leadNew_wf _) (signatureHeader_wf sok)
    magic := compressor_magic_valid x (archiveFor_magic ..) hc
    flags := build_flags_valid x
    rpmlib := build_rpmlib_valid x _
    cpio := ?_ }⟩
  show CpioValid (C06.hdrOf x) (archiveFor x.c uid gid fes)
  unfold archiveFor
  split
  · have := payload_valid_large x ok.dirs fes ok.files (fun q hq => (ok.fileOk q hq).size) (Nat.le_of_lt ok.count) []
    rwa [List.append_nil] at this
  · have := payload_valid_std x ok.dirs fes ok.files ok.fileOk (Nat.lt_succ_of_lt ok.count) hu hg []
    rwa [List.append_nil] at this

/-- one `clear_signatures` (`sigs = []`) or `sign` / `sign_with_timestamp` (`sigs = [the new signature]`)
call: `sha` is the hex SHA-256 of the main header it computed -/
structure SigOp where
  sigs : List (Nat × Bytes × Bytes)
  sha : Bytes

/-- both calls replace `metadata.signature` by a freshly built signature header and touch nothing else -/
def applySig (p : Package) (o : SigOp) : Package :=
  ⟨⟨p.md.lead, signatureHeader o.sigs (some o.sha), p.md.header⟩, p.content⟩

/-- a call forgets the signature header it finds: a history comes to its last call -/
theorem foldl_applySig (p : Package) {ops : List SigOp} (hne : ops ≠ []) : ops.foldl applySig p = applySig p (ops.getLast hne) := by
  induction ops generalizing p with
  | nil => exact absurd rfl hne
  | cons o t ih =>
    cases t with
    | nil => rfl
    | cons o' t' => exact ih (applySig p o) (List.cons_ne_nil o' t')

/-- **history_valid**: a package that is valid (as loaded from any bytes — built by this library or by rpm)
stays valid under every non-empty history of `sign` / `clear_signatures` calls, when written out again -/
theorem history_valid (p : Package) (bytes0 arch : Bytes) (v : PackageValid bytes0 p arch) (wl : LeadWF p.md.lead)
    (ops : List SigOp) (hne : ops ≠ []) (hok : ∀ o ∈ ops, SigsOk o.sigs o.sha) :
    PackageValid (writePackage (ops.foldl applySig p)) (ops.foldl applySig p) arch := by
  have sok := hok _ (List.getLast_mem hne)
  rw [foldl_applySig p hne]
  exact ⟨v.lead, sign_clear_valid sok, sig_limits_valid sok, v.hdr, v.tagtypes,
    sigPadding_written _ wl (signatureHeader_wf sok), v.magic, v.flags, v.rpmlib, v.cpio⟩

/-- **history_foreign_valid**: the same for the weaker archive-vs-header rules rpm guarantees for its own packages (`ForeignValid`:
%ghost files absent from the archive, hard-link sets, source packages without the "./" prefix) — a package rpm built stays
`ForeignValid` under every non-empty history of `sign` / `clear_signatures` calls. Together with `history_valid` this covers
"all sign / clear histories on built and foreign packages". -/
theorem history_foreign_valid (p : Package) (bytes0 arch : Bytes) (v : ForeignValid bytes0 p arch) (wl : LeadWF p.md.lead)
    (ops : List SigOp) (hne : ops ≠ []) (hok : ∀ o ∈ ops, SigsOk o.sigs o.sha) :
    ForeignValid (writePackage (ops.foldl applySig p)) (ops.foldl applySig p) arch := by
  have sok := hok _ (List.getLast_mem hne)
  rw [foldl_applySig p hne]
  exact ⟨v.lead, sign_clear_valid sok, sig_limits_valid sok, v.hdr, v.tagtypes,
    sigPadding_written _ wl (signatureHeader_wf sok), v.magic, v.flags, v.rpmlib, v.cpio⟩

/-! ## the legacy-tag condition of `SigsOk`, discharged from the source table (gap G7) -/
section discharged
open RpmVerif.Sign

/-- what `SigsOk` asks of the signatures handed to `SignatureHeaderBuilder`, WITHOUT the condition on the legacy tags:
those are computed by `build` itself (`Sign.sigBuilderBuild`, table scraped from the source) -/
structure SigBytesOk (b64enc : Bytes → Bytes) (sigs : List Bytes) (sha : Bytes) : Prop where
  raw : ∀ s ∈ sigs, s ≠ [] ∧ s.length < 4294967296
  b64 : ∀ s ∈ sigs, StrOk (b64enc s)
  count : sigs.length < 4294967296
  shaOk : StrOk sha

/-- **the tag condition of `SigsOk` is discharged**: whatever `build` accepts, it files under RPMSIGTAG_RSA or
RPMSIGTAG_DSA (`Sign.legacyTagOf_mem_range`) -/
theorem sigsOk_of_build {pubAlg : Bytes → Option Nat} {b64enc : Bytes → Bytes} {sigs : List Bytes} {sha : Bytes}
    {tr : List (Nat × Bytes × Bytes)} (ok : SigBytesOk b64enc sigs sha) (ht : sigTriples pubAlg b64enc sigs = .ok tr)
    (hsize : (signatureHeader tr (some sha)).store.length ≤ 67108864) : SigsOk tr sha := by
  obtain ⟨hmap, hall⟩ := sigTriples_spec b64enc sigs tr ht
  have hmem : ∀ x ∈ tr, x.2.1 ∈ sigs := fun x hx => by rw [← hmap]; exact List.mem_map_of_mem hx
  refine ⟨?_, ?_, ?_, ?_, ok.shaOk, hsize⟩
  · intro x hx
    obtain ⟨⟨a, _, ha⟩, _⟩ := hall x hx
    exact legacyTagOf_mem_range ha
  · intro x hx; exact ok.raw _ (hmem x hx)
  · intro x hx; rw [(hall x hx).2]; exact ok.b64 _ (hmem x hx)
  · have : tr.length = sigs.length := by rw [← hmap, List.length_map]
    rw [this]; exact ok.count

/-- **sign / clear, with nothing assumed about tags**: every signature header the (fallible) model of
`SignatureHeaderBuilder::build` returns is valid -/
theorem sign_clear_valid_discharged {pubAlg : Bytes → Option Nat} {b64enc : Bytes → Bytes} {sigs : List Bytes} {sha : Bytes}
    {h : Header} (ok : SigBytesOk b64enc sigs sha) (hb : sigBuilderBuild pubAlg b64enc sigs (some sha) = .ok h)
    (hsize : h.store.length ≤ 67108864) : HeaderValid 62 h := by
  obtain ⟨tr, ht, rfl⟩ := sigBuilderBuild_ok hb
  exact sign_clear_valid (sigsOk_of_build ok ht hsize)

example : SigBytesOk id [[1, 2]] [48] ∧
    sigBuilderBuild (fun _ => some 22) id [[1, 2]] (some [48]) = .ok (signatureHeader [(267, [1, 2], [1, 2])] (some [48])) := by
  refine ⟨⟨?_, ?_, by decide, ?_⟩, Sign.sigBuild_one_ok id [48] (a := 22) rfl (by decide)⟩
  · intro s hs; simp only [List.mem_singleton] at hs; subst hs; decide
  · intro s hs; simp only [List.mem_singleton] at hs; subst hs; exact Sign.strOk_ascii _ (by decide)
  · exact Sign.strOk_ascii _ (by decide)
end discharged

/-- a header as `from_entries` laid it out before fix 024ca91 for `Scriptlet::prog(vec![])`: a PREINPROG
string array with zero strings (count 0, no data) — rejected by `count-zero` -/
def hdrCountZero : Header :=
  ⟨2, 16, [⟨63, .bin (trailerBytes 63 2), 0, 16⟩, ⟨1085, .strArray [], 0, 0⟩], trailerBytes 63 2⟩

theorem count_zero_rejected : headerViolation 63 hdrCountZero = some "count-zero" ∧ ¬ HeaderValid 63 hdrCountZero := by
  have h : headerViolation 63 hdrCountZero = some "count-zero" := by decide +kernel
  refine ⟨h, fun v => ?_⟩
  rw [(headerViolation_none 63 hdrCountZero).mpr v] at h
  cases h

/-- a header naming the xz compressor whose requirements lack `rpmlib(PayloadIsXz)` (before fix 9787c3c) -/
def hdrXzUndeclared : Header :=
  ⟨3, 0, [⟨63, .bin [], 0, 16⟩, ⟨1049, .strArray [rpmlibName fCompressedFileNames], 0, 1⟩, ⟨1125, .str sXz, 0, 1⟩], []⟩

theorem xz_undeclared_rejected : ¬ RpmlibDeclared hdrXzUndeclared false := by decide +kernel

def sampleFile : FileE := ⟨[46, 47, 97], [47], [97], 3, 33188, [114], [114], [], 0, none, 4294967295, 1700000000, [48, 48]⟩

example : C06.sampleCfg.files = [sampleFile] := rfl

/-- what `sample_valid` and `sample_size` need of the sample's records: canonical data, 32-bit tags, their number, the bound on the store -/
theorem sample_records : (∀ r ∈ recordsOf C06.sampleCtx, r.2.Canon) ∧ (∀ r ∈ recordsOf C06.sampleCtx, r.1 < 4294967296) ∧
    (recordsOf C06.sampleCtx).length + 1 < 4294967296 ∧
    ((recordsOf C06.sampleCtx).map fun r => r.2.enc.length + 7).sum + 16 < 268435456 := by decide +kernel

theorem sample_size : (C06.hdrOf C06.sampleCtx).store.length < 268435456 :=
  Nat.lt_of_le_of_lt (fromEntries_store_le _ _) sample_records.2.2.2

theorem sample_valid : C06.Valid C06.sampleCtx :=
  ⟨sample_records.1, sample_records.2.1, by decide, sample_records.2.2.1, Nat.lt_trans sample_size (by decide)⟩

theorem sample_dirs : DirsOk C06.sampleCtx.c := by
  unfold DirsOk; decide

/-- the hypotheses of `build_valid` are satisfiable: one file, a scriptlet with an interpreter, gzip -/
example : CfgOk C06.sampleCtx [(sampleFile, [1, 2, 3])] :=
  ⟨sample_valid, sample_dirs,
   sample_size, rfl,
   List.forall_mem_cons.mpr ⟨⟨rfl, by decide, by decide⟩, List.forall_mem_nil _⟩,
   by decide⟩

theorem sample_sigs_unsigned : SigsOk [] [97, 98] :=
  ⟨nofun, nofun, nofun, by decide, by decide, Nat.le_trans (fromEntries_store_le _ _) (by decide +kernel)⟩

theorem sample_sigs_signed : SigsOk [(SigTag.RPMSIGTAG_RSA, [1, 2, 3], [65, 81, 73, 68])] [97, 98] := by
  refine ⟨?_, ?_, ?_, by decide, by decide, Nat.le_trans (fromEntries_store_le _ _) (by decide +kernel)⟩
  all_goals simp only [List.forall_mem_cons, List.not_mem_nil, false_imp_iff, implies_true, and_true]
  all_goals decide

example : HeaderValid 62 (signatureHeader [(SigTag.RPMSIGTAG_RSA, [1, 2, 3], [65, 81, 73, 68])] (some [97, 98])) :=
  sign_clear_valid sample_sigs_signed
example : HeaderValid 63 (C06.hdrOf C06.sampleCtx) :=
  build_header_valid sample_valid sample_dirs sample_size
example : 40 < (recordsOf C06.sampleCtx).length := by decide +kernel
example : ∀ o ∈ [(⟨[], [97, 98]⟩ : SigOp), ⟨[(SigTag.RPMSIGTAG_RSA, [1, 2, 3], [65, 81, 73, 68])], [97, 98]⟩], SigsOk o.sigs o.sha := by
  intro o ho; simp only [List.mem_cons, List.mem_nil_iff, or_false] at ho
  rcases ho with rfl | rfl
  · exact sample_sigs_unsigned
  · exact sample_sigs_signed
example : CodecMagic (.gzip 6) [0x1f, 0x8b, 8, 0] [] := ⟨[8, 0], rfl⟩
/-- the validator accepts a concrete archive against concrete expectations, and rejects it when two entries are swapped -/
example : cpioCheck 0 [⟨[46, 47, 97], 3, 33188⟩, ⟨[46, 47, 98], 0, 33261⟩]
    (builderArchive 0 0 [⟨[46, 47, 97], 33188, [1, 2, 3]⟩, ⟨[46, 47, 98], 33261, []⟩]) = none := by decide +kernel
example : cpioCheck 0 [⟨[46, 47, 97], 3, 33188⟩, ⟨[46, 47, 98], 0, 33261⟩]
    (builderArchive 0 0 [⟨[46, 47, 98], 33261, []⟩, ⟨[46, 47, 97], 33188, [1, 2, 3]⟩]) = some CpioErr.order := by decide +kernel

/-- the trailer entry with its `namesize` field (bytes 94..101) written as "+000000b" instead of "0000000b" -/
def trailerPlus : Bytes := Cpio.trailer.take 94 ++ [43, 48, 48, 48, 48, 48, 48, 98] ++ Cpio.trailer.drop 102

/-- rpm-rs' reader (`u32::from_str_radix`, model `Cpio.readerNew`) takes the field for 11 and returns the trailer entry; the Spec's
reader (eight hexadecimal digits, as the newc format defines a field) rejects the entry, and so does the archive rule -/
theorem plus_field_rejected : (Cpio.readerNew [] trailerPlus).isOk = true ∧ readEntry trailerPlus = none ∧
    cpioCheck 0 [] trailerPlus = some CpioErr.trailer ∧ cpioCheck 0 [] Cpio.trailer = none := by decide +kernel

/-- EPOCH written as a STRING, a FILEMODES array written as INT32: rejected; a lone interpreter written as STRING under a `*PROG`
tag (what rpm itself does) and a tag rpm does not know: accepted -/
example : tagTypeOk 1003 6 = false ∧ tagTypeOk 1030 4 = false ∧ tagTypeOk 1085 6 = true ∧ tagTypeOk 1085 8 = true ∧
    tagTypeOk 7777 3 = true ∧ tagTypeOk 1004 6 = true := by decide +kernel
example : ¬ TagTypesOk ⟨2, 0, [⟨63, .bin [], 0, 16⟩, ⟨1003, .str [49], 0, 1⟩], []⟩ := by decide +kernel
/-- 33 entries / a store of 64 MiB + 1 in a signature header -/
example : ¬ SigLimits ⟨33, 0, [], []⟩ ∧ ¬ SigLimits ⟨1, 67108865, [], []⟩ ∧ SigLimits ⟨32, 67108864, [], []⟩ := by decide +kernel
example : SigLimits (signatureHeader [(SigTag.RPMSIGTAG_RSA, [1, 2, 3], [65, 81, 73, 68])] (some [97, 98])) :=
  sig_limits_valid sample_sigs_signed
example : TagTypesOk (C06.hdrOf C06.sampleCtx) ∧ PayloadFlagsOk (C06.hdrOf C06.sampleCtx) :=
  ⟨build_tagtypes_valid _, build_flags_valid _⟩
/-- PAYLOADFLAGS as a STRING_ARRAY -/
example : ¬ PayloadFlagsOk ⟨2, 0, [⟨63, .bin [], 0, 16⟩, ⟨1126, .strArray [[57]], 0, 1⟩], []⟩ := by decide +kernel

example : RpmlibDeclared (C06.hdrOf C06.sampleCtx) true := build_rpmlib_valid _ _

/-- version "1~rc" -/
def tildeCtx : Ctx := { C06.sampleCtx with c := { C06.sampleCfg with version := [49, 126, 114, 99] } }
/-- version "1^git" -/
def caretCtx : Ctx := { C06.sampleCtx with c := { C06.sampleCfg with version := [49, 94, 103, 105, 116] } }
/-- requires "(a or b)" -/
def richCtx : Ctx := { C06.sampleCtx with c := { C06.sampleCfg with requires := [⟨[40, 97, 32, 111, 114, 32, 98, 41], 0, []⟩] } }
/-- `%pre -p "/b -x"` -/
def argsCtx : Ctx := { C06.sampleCtx with c := { C06.sampleCfg with preIn := some ⟨[101], some 1, some [[47, 98], [45, 120]]⟩ } }

example : versionHas tildeCtx.c 126 = true ∧ versionHas caretCtx.c 94 = true ∧ usesRichDeps richCtx.c = true ∧
    usesInterpArgs argsCtx.c = true ∧ versionHas C06.sampleCfg 126 = false ∧ usesInterpArgs C06.sampleCfg = false := by decide +kernel
example : rpmlibName fTildeInVersions ∈ (allRequires tildeCtx.c).map (·.name) ∧
    rpmlibName fTildeInVersions ∉ (allRequires C06.sampleCfg).map (·.name) ∧
    rpmlibName fScriptletInterpreterArgs ∈ (allRequires argsCtx.c).map (·.name) := by decide +kernel
example : RpmlibDeclared (C06.hdrOf tildeCtx) true ∧ RpmlibDeclared (C06.hdrOf caretCtx) true ∧
    RpmlibDeclared (C06.hdrOf richCtx) true ∧ RpmlibDeclared (C06.hdrOf argsCtx) true :=
  ⟨build_rpmlib_valid _ _, build_rpmlib_valid _ _, build_rpmlib_valid _ _, build_rpmlib_valid _ _⟩
/-- a requirement the caller wrote himself is not pushed a second time -/
example : (allRequires { tildeCtx.c with requires := [rpmlib fTildeInVersions [52, 46, 49, 48, 46, 48, 45, 49]] }).length =
    (baseRequires { tildeCtx.c with requires := [rpmlib fTildeInVersions [52, 46, 49, 48, 46, 48, 45, 49]] }).length := by decide +kernel
/-- the rule names the driver reports -/
example : contentRuleName fTildeInVersions = "rpmlib-tilde" ∧ contentRuleName fCaretInVersions = "rpmlib-caret" ∧
    contentRuleName fRichDependencies = "rpmlib-rich" ∧ contentRuleName fScriptletInterpreterArgs = "rpmlib-interp-args" := by decide +kernel
/-- a header that uses `~` without the requirement is still a violation of the spec (what the builder emitted before the fix) -/
example : ¬ RpmlibDeclared ⟨3, 0, [⟨63, .bin [], 0, 16⟩, ⟨1049, .strArray [rpmlibName fCompressedFileNames], 0, 1⟩,
    ⟨1113, .strArray [[49, 126, 114, 99]], 0, 1⟩], []⟩ false := by decide +kernel

def fRecs : List (Nat × IndexData) := [(1000, .str [97])]
/-- a package that is `ForeignValid`: a name-only main header, no files, the bare trailer as payload -/
def fPkg : Package := ⟨⟨leadNew [97], signatureHeader [] (some [97, 98]), fromEntries fRecs 63⟩, Cpio.trailer⟩

theorem fPkg_foreign_valid : ForeignValid (writePackage fPkg) fPkg Cpio.trailer := by decide +kernel

/-- the hypotheses of `history_foreign_valid` are satisfiable: clear, then sign -/
example : ForeignValid (writePackage ([(⟨[], [97, 98]⟩ : SigOp), ⟨[(SigTag.RPMSIGTAG_RSA, [1, 2, 3], [65, 81, 73, 68])], [97, 98]⟩].foldl applySig fPkg))
    ([(⟨[], [97, 98]⟩ : SigOp), ⟨[(SigTag.RPMSIGTAG_RSA, [1, 2, 3], [65, 81, 73, 68])], [97, 98]⟩].foldl applySig fPkg) Cpio.trailer :=
  history_foreign_valid fPkg _ _ fPkg_foreign_valid (C06.leadNew_wf _) _ (by simp) (by
    intro o ho; simp only [List.mem_cons, List.mem_nil_iff, or_false] at ho
    rcases ho with rfl | rfl
    · exact sample_sigs_unsigned
    · exact sample_sigs_signed)

end RpmVerif.C09
