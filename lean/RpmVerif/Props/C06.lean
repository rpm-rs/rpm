import RpmVerif.Lemmas.Builder
import RpmVerif.Lemmas.BuilderFiles
import RpmVerif.Lemmas.RpmValid
import RpmVerif.Model.Accessors
import RpmVerif.Lemmas.WithFile
import RpmVerif.Spec.FileOptions
import RpmVerif.Lemmas.ValidCalls
import RpmVerif.Lemmas.ValidWeight
import RpmVerif.Lemmas.Sign
/-!
# C06 — everything given to the builder is read back unchanged

`mainHeader c …` is `from_entries` applied to the records `prepare_data` emits (`Bld.slots`, in source order). In file order:

* the tags of the table are distinct, so a typed getter on the built header returns a slot's data (`getter_of_slot`,
  `getter_of_empty_slot`); for a `Valid` configuration (record data canonical, header below 2 GiB) the written package
  re-parses to the built value (`header_reparse`, `build_reparse`);
* `readback_*`: name … architecture, the optional strings, the nine scriptlets, the eight dependency lists and the changelog;
  the public `Dependency` constructors against the table scraped from types.rs (`dep_ctor_*`, `standardCtors`);
* the per-file arrays, the paths, and `get_file_entries()` itself (`readback_file_entries`, `…_build`, `…_reparsed`): one record
  per builder file with its path, mode, owner, group, clamped mtime, size, flags, digest, capabilities and link target;
  sample configurations for all of these;
* the front-end (`FileOptions::new`, the `FileOptionsBuilder` setters, `PackageBuilder::with_file`; Model/WithFile.lean):
  `with_file_readback`, which mode word is stored (`with_file_inherit_mode`, `with_file_inherit_regular`, `explicit_mode_wins`,
  `mode_header_eq_cpio`), `readback_flags_of_setters`, `defaults_readback`, the scraped option tables
  (`file_option_defaults_standard`, `file_option_setters_standard`);
* `section calls`: the builder state as a function of the calls (`builder_setters_standard`, the last-call / accumulate
  theorems, `state_of_calls`), and `Valid` derived from the state, from the calls and from the arguments alone (`valid_of_cfg`,
  `valid_of_inputs`, `valid_of_args`), with a sample call sequence.
-/
namespace RpmVerif.C06
open RpmVerif.Hdr RpmVerif.Bld RpmVerif.Gen RpmVerif.Acc

/-- the tags `prepare_data` can emit are pairwise distinct and none is the region tag -/
theorem slots_tags_nodup : (slots.map (·.1)).Nodup := by decide +kernel
theorem slots_no_region : IndexTag.RPMTAG_HEADERIMMUTABLE ∉ slots.map (·.1) := by decide +kernel

theorem filterMap_tags_sublist (l : List Slot) (x : Ctx) :
    ((l.filterMap fun s => (s.2 x).map fun d => (s.1, d)).map (·.1)).Sublist (l.map (·.1)) := by
  induction l with
  | nil => simp
  | cons s ss ih =>
    simp only [List.filterMap_cons, List.map_cons]
    cases h : s.2 x with
    | none => simp only [Option.map_none]; exact List.Sublist.cons _ ih
    | some d => simp only [Option.map_some, List.map_cons]; exact List.Sublist.cons_cons _ ih

theorem records_tags_nodup (x : Ctx) : ((recordsOf x).map (·.1)).Nodup :=
  (filterMap_tags_sublist slots x).nodup slots_tags_nodup

theorem records_no_region (x : Ctx) : ∀ r ∈ recordsOf x, r.1 ≠ IndexTag.RPMTAG_HEADERIMMUTABLE := by
  intro r hr e
  have : r.1 ∈ (recordsOf x).map (·.1) := List.mem_map_of_mem hr
  exact slots_no_region (e ▸ (filterMap_tags_sublist slots x).subset this)

theorem eq_of_nodup_key {α} (key : α → Nat) {l : List α} (hn : (l.map key).Nodup) {a b : α}
    (ha : a ∈ l) (hb : b ∈ l) (e : key a = key b) : a = b := by
  have h := find_of_nodup_keys key l hn ha
  rw [e, find_of_nodup_keys key l hn hb] at h
  exact (Option.some.inj h).symm

theorem record_of_slot {x : Ctx} {s : Slot} (hs : s ∈ slots) {d : IndexData} (hd : s.2 x = some d) :
    (s.1, d) ∈ recordsOf x := by
  simp only [recordsOf, List.mem_filterMap]
  exact ⟨s, hs, by simp [hd]⟩

theorem no_record_of_slot {x : Ctx} {s : Slot} (hs : s ∈ slots) (hd : s.2 x = none) :
    ∀ r ∈ recordsOf x, r.1 ≠ s.1 := by
  intro r hr e
  obtain ⟨s', hs', hd', e'⟩ := slot_of_record hr
  -- same tag, both in `slots` whose tags are pairwise distinct → same slot
  cases eq_of_nodup_key (fun s : Slot => s.1) slots_tags_nodup hs' hs (e'.trans e)
  rw [hd] at hd'
  cases hd'

/-- the header `prepare_data` builds for a context -/
def hdrOf (x : Ctx) : Header := fromEntries (recordsOf x) IndexTag.RPMTAG_HEADERIMMUTABLE

/-- **read-back through a typed getter**: a slot that emits data `d` is read back as the projection of `d` -/
theorem getter_of_slot {α} (proj : IndexData → Option α) {x : Ctx} {s : Slot} (hs : s ∈ slots)
    {d : IndexData} (hd : s.2 x = some d) {a : α} (hp : proj d = some a) :
    getWith proj (hdrOf x) s.1 = .ok a :=
  fromEntries_get proj (records_tags_nodup x) (records_no_region x) (record_of_slot hs hd) hp

theorem getter_of_empty_slot {α} (proj : IndexData → Option α) {x : Ctx} {s : Slot} (hs : s ∈ slots)
    (hd : s.2 x = none) : getWith proj (hdrOf x) s.1 = .err "notfound" := by
  refine fromEntries_absent proj ?_ (no_record_of_slot hs hd)
  intro e
  exact slots_no_region (e ▸ List.mem_map_of_mem hs)

/-- a valid configuration: what `from_entries` needs (canonical data, sizes below the format's limits) -/
def Valid (x : Ctx) : Prop := RecsOk (recordsOf x) IndexTag.RPMTAG_HEADERIMMUTABLE

theorem hdr_wf {x : Ctx} (v : Valid x) : HeaderWF (hdrOf x) := fromEntries_wf v

/-- the main header written and parsed again is the same value (so every accessor sees the same data) -/
theorem header_reparse {x : Ctx} (v : Valid x) (rest : Bytes) :
    parseHeader (writeHeader (hdrOf x) ++ rest) = .ok (hdrOf x, rest) := by
  rw [writeHeader_eq]; exact parseHeader_write (hdr_wf v) rfl rest

theorem leadNew_wf (name : Bytes) : LeadWF (leadNew name) := by
  refine ⟨(by decide : 3 < 256), (by decide : 0 < 256), (by decide : 0 < 65536), (by decide : 0 < 65536), ?_,
    (by decide : 1 < 65536), (by decide : 5 < 65536), rfl⟩
  simp only [leadNew, List.length_append, List.length_take, List.length_replicate]
  omega

/-- **whole package**: build → write → parse gives back the built value, for any signature header that
`from_entries` can produce and any payload -/
theorem build_reparse {x : Ctx} (v : Valid x) {sigRecs : List (Nat × IndexData)}
    (vs : RecsOk sigRecs SigTag.HEADER_SIGNATURES) (payload : Bytes) :
    let p : Package := ⟨⟨leadNew x.c.name, fromEntries sigRecs SigTag.HEADER_SIGNATURES, hdrOf x⟩, payload⟩
    parsePackage (writePackage p) = .ok p := by
  intro p
  have wf : MetadataWF p.md := ⟨leadNew_wf _, fromEntries_wf vs, hdr_wf v⟩
  simp only [writePackage, parsePackage, writeMetadata_eq]
  rw [parseMetadata_write wf rfl (by simp) rfl]
  rfl

/-! ### the read-back statements (on the built header; by `build_reparse` the same on the re-parsed package) -/
section readback
variable (x : Ctx)

theorem mem_foldl_append {α} {a : α} (rs : List (List α)) {l : List α} (h : a ∈ l ∨ ∃ r ∈ rs, a ∈ r) :
    a ∈ rs.foldl (· ++ ·) l := by
  induction rs generalizing l with
  | nil => exact h.elim id fun ⟨_, hr, _⟩ => nomatch hr
  | cons r rs ih =>
    refine ih ?_
    rcases h with h | ⟨r', hr', ha⟩
    · exact .inl (List.mem_append_left r h)
    · rcases List.mem_cons.mp hr' with rfl | hm
      · exact .inl (List.mem_append_right l ha)
      · exact .inr ⟨r', hm, ha⟩

/-! `slots` is written as `b₀ ++ b₁ ++ … ++ b₁₉`: the package's own tags and the per-file arrays; provides; payload and
changelog; the other seven dependency kinds; the nine scriptlets; the five closing strings. For the equation `e` below `rfl`
matches the twenty blocks without evaluating the table, and a row is then looked up inside its block (`slots[i]?` by `rfl` walks
through every `++` before row `i`). A row inserted in `Bld.slots` shifts the `i` of every later row of its block in the
look-ups below (and in Props/C08, C09, C11, C12, Pipeline), a new block every later `j`. -/
section blocks
variable {b₀ b₁ b₂ b₃ b₄ b₅ b₆ b₇ b₈ b₉ b₁₀ b₁₁ b₁₂ b₁₃ b₁₄ b₁₅ b₁₆ b₁₇ b₁₈ b₁₉ : List Slot} (e : slots = [b₁, b₂, b₃, b₄, b₅, b₆, b₇, b₈, b₉, b₁₀, b₁₁, b₁₂, b₁₃, b₁₄, b₁₅, b₁₆, b₁₇, b₁₈, b₁₉].foldl (· ++ ·) b₀)
include e

theorem mem_slot_first {i : Nat} {s : Slot} (h : b₀[i]? = some s) : s ∈ slots :=
  e ▸ mem_foldl_append _ (.inl (List.mem_of_getElem? h))

theorem mem_slots_block {j : Nat} {block : List Slot} (hj : [b₁, b₂, b₃, b₄, b₅, b₆, b₇, b₈, b₉, b₁₀, b₁₁, b₁₂, b₁₃, b₁₄, b₁₅, b₁₆, b₁₇, b₁₈, b₁₉][j]? = some block) : ∀ s ∈ block, s ∈ slots :=
  fun _ hs => e ▸ mem_foldl_append _ (.inr ⟨block, List.mem_of_getElem? hj, hs⟩)

end blocks

theorem readback_name : getString (hdrOf x) IndexTag.RPMTAG_NAME = .ok x.c.name :=
  getter_of_slot IndexData.asStr (mem_slot_first rfl (i := 2) rfl) rfl rfl
theorem readback_epoch : getU32 (hdrOf x) IndexTag.RPMTAG_EPOCH = .ok x.c.epoch :=
  getter_of_slot IndexData.asU32 (mem_slot_first rfl (i := 3) rfl) rfl rfl
theorem readback_version : getString (hdrOf x) IndexTag.RPMTAG_VERSION = .ok x.c.version :=
  getter_of_slot IndexData.asStr (mem_slot_first rfl (i := 5) rfl) rfl rfl
theorem readback_release : getString (hdrOf x) IndexTag.RPMTAG_RELEASE = .ok x.c.release :=
  getter_of_slot IndexData.asStr (mem_slot_first rfl (i := 6) rfl) rfl rfl
/-- the description defaults to the summary when none is supplied -/
theorem readback_description : getI18nString (hdrOf x) IndexTag.RPMTAG_DESCRIPTION = .ok (x.c.desc.getD x.c.summary) :=
  getter_of_slot IndexData.asI18nStr (mem_slot_first rfl (i := 7) rfl) rfl rfl
theorem readback_summary : getI18nString (hdrOf x) IndexTag.RPMTAG_SUMMARY = .ok x.c.summary :=
  getter_of_slot IndexData.asI18nStr (mem_slot_first rfl (i := 8) rfl) rfl rfl
theorem readback_license : getString (hdrOf x) IndexTag.RPMTAG_LICENSE = .ok x.c.license :=
  getter_of_slot IndexData.asStr (mem_slot_first rfl (i := 11) rfl) rfl rfl
theorem readback_group : getI18nString (hdrOf x) IndexTag.RPMTAG_GROUP = .ok (x.c.group.getD sUnspecified) :=
  getter_of_slot IndexData.asI18nStr (mem_slot_first rfl (i := 13) rfl) rfl rfl
theorem readback_arch : getString (hdrOf x) IndexTag.RPMTAG_ARCH = .ok x.c.arch :=
  getter_of_slot IndexData.asStr (mem_slot_first rfl (i := 14) rfl) rfl rfl

/-- optional string fields: `Some v` is read back as `v`, `None` as TagNotFound -/
theorem readback_opt {tag : Nat} {f : Cfg → Option Bytes} (hs : (tag, optS f) ∈ slots) :
    getString (hdrOf x) tag = match f x.c with | some v => .ok v | none => .err "notfound" := by
  cases hv : f x.c with
  | some v => exact getter_of_slot IndexData.asStr (d := .str v) (a := v) hs (by simp [optS, hv]) rfl
  | none => exact getter_of_empty_slot IndexData.asStr hs (by simp [optS, hv])

theorem readback_buildhost : getString (hdrOf x) IndexTag.RPMTAG_BUILDHOST = match x.c.buildHost with | some v => .ok v | none => .err "notfound" :=
  readback_opt x (f := (·.buildHost)) (mem_slot_first rfl (i := 18) rfl)
theorem readback_vendor : getString (hdrOf x) IndexTag.RPMTAG_VENDOR = match x.c.vendor with | some v => .ok v | none => .err "notfound" :=
  readback_opt x (f := (·.vendor)) (mem_slots_block rfl (j := 18) rfl _ (List.mem_of_getElem? (i := 0) rfl))
theorem readback_packager : getString (hdrOf x) IndexTag.RPMTAG_PACKAGER = match x.c.packager with | some v => .ok v | none => .err "notfound" :=
  readback_opt x (f := (·.packager)) (mem_slots_block rfl (j := 18) rfl _ (List.mem_of_getElem? (i := 1) rfl))
theorem readback_url : getString (hdrOf x) IndexTag.RPMTAG_URL = match x.c.url with | some v => .ok v | none => .err "notfound" :=
  readback_opt x (f := (·.url)) (mem_slots_block rfl (j := 18) rfl _ (List.mem_of_getElem? (i := 2) rfl))
theorem readback_vcs : getString (hdrOf x) IndexTag.RPMTAG_VCS = match x.c.vcs with | some v => .ok v | none => .err "notfound" :=
  readback_opt x (f := (·.vcs)) (mem_slots_block rfl (j := 18) rfl _ (List.mem_of_getElem? (i := 3) rfl))
theorem readback_cookie : getString (hdrOf x) IndexTag.RPMTAG_COOKIE = match x.c.cookie with | some v => .ok v | none => .err "notfound" :=
  readback_opt x (f := (·.cookie)) (mem_slots_block rfl (j := 18) rfl _ (List.mem_of_getElem? (i := 4) rfl))

/-! #### scriptlets (all nine kinds, incl. the verify scriptlet which is read through the raw getters) -/

/-- what is read back for a scriptlet: script, flags, and the interpreter list (an empty list reads back as none) -/
def Scriptlet.readBack (s : Bld.Scriptlet) : Acc.Scriptlet :=
  ⟨s.script, s.flags, s.prog.bind fun p => if p.isEmpty then none else some p⟩

/-- a slot read through a typed getter and `.ok()` (an `Err` becomes `None`): the slot's data, if any, projected -/
theorem slot_toOption {α} (proj : IndexData → Option α) {s : Slot} (hs : s ∈ slots)
    (hp : ∀ d, s.2 x = some d → ∃ a, proj d = some a) : (getWith proj (hdrOf x) s.1).toOption = (s.2 x).bind proj := by
  cases hd : s.2 x with
  | none => rw [getter_of_empty_slot proj hs hd]; rfl
  | some d =>
    obtain ⟨a, ha⟩ := hp d hd
    rw [getter_of_slot proj hs hd ha, Option.bind_some, ha]; rfl

theorem readback_scriptlet {a b c : Nat} {g : Cfg → Option Bld.Scriptlet} (hs : ∀ s ∈ scriptSlots a b c g, s ∈ slots) :
    getScriptlet (hdrOf x) (a, b, c) = match g x.c with
      | some s => .ok (Scriptlet.readBack s)
      | none => .err "notfound" := by
  have h1 : (a, scrScript g) ∈ slots := hs _ (.head _)
  have h2 : (b, scrFlags g) ∈ slots := hs _ (.tail _ (.head _))
  have h3 : (c, scrProg g) ∈ slots := hs _ (.tail _ (.tail _ (.head _)))
  have hf := slot_toOption x IndexData.asU32 h2 (by
    intro d hd
    simp only [scrFlags, Option.bind_eq_some_iff, Option.map_eq_some_iff] at hd
    obtain ⟨_, _, fl, _, rfl⟩ := hd
    exact ⟨fl, rfl⟩)
  have hp := slot_toOption x IndexData.asStringArray h3 (by
    intro d hd
    simp only [scrProg, Option.bind_eq_some_iff] at hd
    obtain ⟨_, _, p, _, hd⟩ := hd
    split at hd
    · cases hd
    · cases hd; exact ⟨p, rfl⟩)
  unfold getScriptlet
  rw [show getU32 = getWith IndexData.asU32 from rfl, show getStringArray = getWith IndexData.asStringArray from rfl, hf, hp,
    show getString = getWith IndexData.asStr from rfl]
  cases hg : g x.c with
  | none => rw [getter_of_empty_slot IndexData.asStr h1 (by simp [scrScript, hg])]; rfl
  | some s =>
    rw [getter_of_slot IndexData.asStr (d := .str s.script) h1 (by simp [scrScript, hg]) rfl]
    simp only [scrFlags, scrProg, hg, Option.bind_some, Out.bind_ok, Out.pure_eq, Scriptlet.readBack]
    -- the flags are set or not; the interpreter is unset, `[]` (no record either) or a proper list
    cases s.flags <;> rcases s.prog with _ | (_ | _) <;> rfl

theorem readback_prein : getScriptlet (hdrOf x) (IndexTag.RPMTAG_PREIN, IndexTag.RPMTAG_PREINFLAGS, IndexTag.RPMTAG_PREINPROG) =
    match x.c.preIn with | some s => .ok (Scriptlet.readBack s) | none => .err "notfound" := readback_scriptlet x (g := (·.preIn)) (mem_slots_block rfl (j := 9) rfl)
theorem readback_postin : getScriptlet (hdrOf x) (IndexTag.RPMTAG_POSTIN, IndexTag.RPMTAG_POSTINFLAGS, IndexTag.RPMTAG_POSTINPROG) =
    match x.c.postIn with | some s => .ok (Scriptlet.readBack s) | none => .err "notfound" := readback_scriptlet x (g := (·.postIn)) (mem_slots_block rfl (j := 10) rfl)
theorem readback_preun : getScriptlet (hdrOf x) (IndexTag.RPMTAG_PREUN, IndexTag.RPMTAG_PREUNFLAGS, IndexTag.RPMTAG_PREUNPROG) =
    match x.c.preUn with | some s => .ok (Scriptlet.readBack s) | none => .err "notfound" := readback_scriptlet x (g := (·.preUn)) (mem_slots_block rfl (j := 11) rfl)
theorem readback_postun : getScriptlet (hdrOf x) (IndexTag.RPMTAG_POSTUN, IndexTag.RPMTAG_POSTUNFLAGS, IndexTag.RPMTAG_POSTUNPROG) =
    match x.c.postUn with | some s => .ok (Scriptlet.readBack s) | none => .err "notfound" := readback_scriptlet x (g := (·.postUn)) (mem_slots_block rfl (j := 12) rfl)
theorem readback_pretrans : getScriptlet (hdrOf x) (IndexTag.RPMTAG_PRETRANS, IndexTag.RPMTAG_PRETRANSFLAGS, IndexTag.RPMTAG_PRETRANSPROG) =
    match x.c.preTrans with | some s => .ok (Scriptlet.readBack s) | none => .err "notfound" := readback_scriptlet x (g := (·.preTrans)) (mem_slots_block rfl (j := 13) rfl)
theorem readback_posttrans : getScriptlet (hdrOf x) (IndexTag.RPMTAG_POSTTRANS, IndexTag.RPMTAG_POSTTRANSFLAGS, IndexTag.RPMTAG_POSTTRANSPROG) =
    match x.c.postTrans with | some s => .ok (Scriptlet.readBack s) | none => .err "notfound" := readback_scriptlet x (g := (·.postTrans)) (mem_slots_block rfl (j := 14) rfl)
theorem readback_preuntrans : getScriptlet (hdrOf x) (IndexTag.RPMTAG_PREUNTRANS, IndexTag.RPMTAG_PREUNTRANSFLAGS, IndexTag.RPMTAG_PREUNTRANSPROG) =
    match x.c.preUntrans with | some s => .ok (Scriptlet.readBack s) | none => .err "notfound" := readback_scriptlet x (g := (·.preUntrans)) (mem_slots_block rfl (j := 15) rfl)
theorem readback_postuntrans : getScriptlet (hdrOf x) (IndexTag.RPMTAG_POSTUNTRANS, IndexTag.RPMTAG_POSTUNTRANSFLAGS, IndexTag.RPMTAG_POSTUNTRANSPROG) =
    match x.c.postUntrans with | some s => .ok (Scriptlet.readBack s) | none => .err "notfound" := readback_scriptlet x (g := (·.postUntrans)) (mem_slots_block rfl (j := 16) rfl)
theorem readback_verify : getScriptlet (hdrOf x) (IndexTag.RPMTAG_VERIFYSCRIPT, IndexTag.RPMTAG_VERIFYSCRIPTFLAGS, IndexTag.RPMTAG_VERIFYSCRIPTPROG) =
    match x.c.verify with | some s => .ok (Scriptlet.readBack s) | none => .err "notfound" := readback_scriptlet x (g := (·.verify)) (mem_slots_block rfl (j := 17) rfl)

theorem triple_of_slots {α β γ δ} {pa : IndexData → Option α} {pb : IndexData → Option β} {pc : IndexData → Option γ}
    {ta tb tc : Nat} {e : Ctx → Bool} {fa fb fc : Ctx → IndexData}
    (ha : (ta, fun x => if e x then none else some (fa x)) ∈ slots)
    (hb : (tb, fun x => if e x then none else some (fb x)) ∈ slots)
    (hc : (tc, fun x => if e x then none else some (fc x)) ∈ slots)
    {a : α} {b : β} {c : γ} (hpa : pa (fa x) = some a) (hpb : pb (fb x) = some b) (hpc : pc (fc x) = some c)
    (f : α → β → γ → Out δ) (empty : δ) :
    triple (getWith pa (hdrOf x) ta) (getWith pb (hdrOf x) tb) (getWith pc (hdrOf x) tc) f empty =
      if e x then .ok empty else f a b c := by
  cases he : e x with
  | true =>
    rw [getter_of_empty_slot pa ha (if_pos he), getter_of_empty_slot pb hb (if_pos he), getter_of_empty_slot pc hc (if_pos he)]
    rfl
  | false =>
    have hn : ¬ e x = true := by simp [he]
    rw [getter_of_slot pa ha (if_neg hn) hpa, getter_of_slot pb hb (if_neg hn) hpb, getter_of_slot pc hc (if_neg hn) hpc]
    rfl

def Dep.toAcc (d : Dep) : Acc.Dependency := ⟨d.name, d.flags, d.version⟩

theorem zip3_map (l : List Dep) : (zip3 (l.map (·.name)) (l.map (·.flags)) (l.map (·.version))).map
    (fun (n, f, v) => (⟨n, f, v⟩ : Acc.Dependency)) = l.map Dep.toAcc := by
  induction l with
  | nil => rfl
  | cons d ds ih => simp only [List.map_cons, zip3, ih, Dep.toAcc]

/-- a dependency list is read back whole and in order (the empty list: all three tags absent → `[]`) -/
theorem readback_deps {n v f : Nat} {g : Ctx → List Dep} {al : Bool} (hs : ∀ s ∈ depSlots n v f g al, s ∈ slots) :
    getDependencies (hdrOf x) n f v = .ok ((g x).map Dep.toAcc) := by
  refine (triple_of_slots x (pa := IndexData.asStringArray) (pb := IndexData.asU32Array) (pc := IndexData.asStringArray)
    (hs _ (.head _)) (hs _ (.tail _ (.tail _ (.head _)))) (hs _ (.tail _ (.head _))) rfl rfl rfl _ _).trans ?_
  split
  · rename_i he
    rw [List.isEmpty_iff.mp (Bool.and_eq_true_iff.mp he).2]
    rfl
  · exact congrArg Out.ok (zip3_map (g x))

/-- user-supplied `provides` come back in order, followed by the library's own two entries -/
theorem readback_provides : getDependencies (hdrOf x) IndexTag.RPMTAG_PROVIDENAME IndexTag.RPMTAG_PROVIDEFLAGS IndexTag.RPMTAG_PROVIDEVERSION =
    .ok ((allProvides x.c).map Dep.toAcc) ∧ x.c.provides <+: allProvides x.c :=
  ⟨readback_deps x (g := fun x => allProvides x.c) (mem_slots_block rfl (j := 0) rfl), ⟨_, rfl⟩⟩
theorem prefix_pushFeature {l reqs : List Dep} (h : l <+: reqs) (u : Bool) (f v : Bytes) : l <+: pushFeature reqs u f v := by
  unfold pushFeature; split
  · exact h.trans (List.prefix_append _ _)
  · exact h
theorem requires_prefix_base (c : Cfg) : c.requires <+: baseRequires c := by
  unfold baseRequires; simp only [List.append_assoc]; exact List.prefix_append _ _
theorem base_prefix_all (c : Cfg) : baseRequires c <+: allRequires c := by
  unfold allRequires
  exact prefix_pushFeature (prefix_pushFeature (prefix_pushFeature (prefix_pushFeature (List.prefix_refl _) _ _ _) _ _ _) _ _ _) _ _ _
theorem readback_requires : getDependencies (hdrOf x) IndexTag.RPMTAG_REQUIRENAME IndexTag.RPMTAG_REQUIREFLAGS IndexTag.RPMTAG_REQUIREVERSION =
    .ok ((allRequires x.c).map Dep.toAcc) ∧ x.c.requires <+: allRequires x.c :=
  ⟨readback_deps x (g := fun x => allRequires x.c) (mem_slots_block rfl (j := 3) rfl), (requires_prefix_base x.c).trans (base_prefix_all x.c)⟩
theorem readback_recommends : getDependencies (hdrOf x) IndexTag.RPMTAG_RECOMMENDNAME IndexTag.RPMTAG_RECOMMENDFLAGS IndexTag.RPMTAG_RECOMMENDVERSION =
    .ok ((allRecommends x.c).map Dep.toAcc) ∧ x.c.recommends <+: allRecommends x.c :=
  ⟨readback_deps x (g := fun x => allRecommends x.c) (mem_slots_block rfl (j := 5) rfl), by
    unfold allRecommends; simp only [List.append_assoc]; exact List.prefix_append _ _⟩
theorem readback_obsoletes : getDependencies (hdrOf x) IndexTag.RPMTAG_OBSOLETENAME IndexTag.RPMTAG_OBSOLETEFLAGS IndexTag.RPMTAG_OBSOLETEVERSION =
    .ok (x.c.obsoletes.map Dep.toAcc) := readback_deps x (g := fun x => x.c.obsoletes) (mem_slots_block rfl (j := 2) rfl)
theorem readback_conflicts : getDependencies (hdrOf x) IndexTag.RPMTAG_CONFLICTNAME IndexTag.RPMTAG_CONFLICTFLAGS IndexTag.RPMTAG_CONFLICTVERSION =
    .ok (x.c.conflicts.map Dep.toAcc) := readback_deps x (g := fun x => x.c.conflicts) (mem_slots_block rfl (j := 4) rfl)
theorem readback_suggests : getDependencies (hdrOf x) IndexTag.RPMTAG_SUGGESTNAME IndexTag.RPMTAG_SUGGESTFLAGS IndexTag.RPMTAG_SUGGESTVERSION =
    .ok (x.c.suggests.map Dep.toAcc) := readback_deps x (g := fun x => x.c.suggests) (mem_slots_block rfl (j := 6) rfl)
theorem readback_enhances : getDependencies (hdrOf x) IndexTag.RPMTAG_ENHANCENAME IndexTag.RPMTAG_ENHANCEFLAGS IndexTag.RPMTAG_ENHANCEVERSION =
    .ok (x.c.enhances.map Dep.toAcc) := readback_deps x (g := fun x => x.c.enhances) (mem_slots_block rfl (j := 7) rfl)
theorem readback_supplements : getDependencies (hdrOf x) IndexTag.RPMTAG_SUPPLEMENTNAME IndexTag.RPMTAG_SUPPLEMENTFLAGS IndexTag.RPMTAG_SUPPLEMENTVERSION =
    .ok (x.c.supplements.map Dep.toAcc) := readback_deps x (g := fun x => x.c.supplements) (mem_slots_block rfl (j := 8) rfl)

/-! #### the public `Dependency` constructors (`any`, `eq`, `less`, … ; table regenerated from src/rpm/headers/types.rs) -/

theorem dep_ctor_spec {k : Nat} {name version : Bytes} {d : Dep} (h : depCtor k name version = some d) :
    ∃ s, depCtors[k]? = some s ∧ d.name = s.pre ++ name ++ s.post ∧ d.flags = s.flags
      ∧ d.version = s.version.getD version := by
  unfold depCtor at h
  cases hs : depCtors[k]? with
  | none => rw [hs] at h; cases h
  | some s =>
    rw [hs] at h
    simp only [Option.map_some, Option.some.injEq] at h
    subst h
    exact ⟨s, rfl, rfl, rfl, rfl⟩

/-- every row of the table is a constructor: defined for all arguments -/
theorem dep_ctor_defined {k : Nat} (hk : k < depCtors.length) (name version : Bytes) :
    ∃ d, depCtor k name version = some d := by
  unfold depCtor
  rw [List.getElem?_eq_getElem hk]
  exact ⟨_, rfl⟩

/-- the flag values the constructors use are sense bits / context bits of `DependencyFlags`, nothing else -/
theorem dep_ctor_flags_known : ∀ s ∈ depCtors, s.flags &&& DependencyFlags.all = s.flags := by decide

/-- the constructors the builder itself calls (hand-written in Model/Builder.lean) are rows of the scraped table -/
theorem builder_ctors_in_table (n v : Bytes) :
    (∃ k, depCtor k n v = some (rpmlib n v)) ∧ (∃ k, depCtor k n v = some (depEq n v))
    ∧ (∃ k, depCtor k n v = some (depUser n)) ∧ (∃ k, depCtor k n v = some (depGroup n)) := by
  have key : ∀ s : DepCtor, s ∈ depCtors → ∃ k, depCtor k n v = some ⟨s.pre ++ n ++ s.post, s.flags, s.version.getD v⟩ := by
    intro s hs
    obtain ⟨k, hk, e⟩ := List.getElem_of_mem hs
    refine ⟨k, ?_⟩
    unfold depCtor
    rw [List.getElem?_eq_getElem hk, e]
    rfl
  refine ⟨?_, ?_, ?_, ?_⟩
  · exact key ⟨[114, 112, 109, 108, 105, 98, 40], [41], DependencyFlags.RPMLIB ||| DependencyFlags.EQUAL, none⟩ (by decide)
  · have := key ⟨[], [], DependencyFlags.EQUAL, none⟩ (by decide)
    simpa [depEq] using this
  · exact key ⟨[117, 115, 101, 114, 40], [41], DependencyFlags.SCRIPT_PRE ||| DependencyFlags.SCRIPT_POSTUN, some []⟩ (by decide)
  · exact key ⟨[103, 114, 111, 117, 112, 40], [41], DependencyFlags.SCRIPT_PRE ||| DependencyFlags.SCRIPT_POSTUN, some []⟩ (by decide)

/-- **specification side**: what each constructor name means in rpm's terms — the RPMSENSE_* bits of rpm's `rpmds.h`
(LESS 2, GREATER 4, EQUAL 8, SCRIPT_PRE 2⁹, SCRIPT_POST 2¹⁰, SCRIPT_PREUN 2¹¹, SCRIPT_POSTUN 2¹², RPMLIB 2²⁴, CONFIG 2²⁸),
the `rpmlib(…)` / `config(…)` / `user(…)` / `group(…)` name forms, and no version where none is given. Typed here, not scraped. -/
def standardCtors : List (String × DepCtor) := [
  ("any", ⟨[], [], 0, some []⟩),
  ("eq", ⟨[], [], 8, none⟩),
  ("less", ⟨[], [], 2, none⟩),
  ("less_eq", ⟨[], [], 2 + 8, none⟩),
  ("greater", ⟨[], [], 4, none⟩),
  ("greater_eq", ⟨[], [], 4 + 8, none⟩),
  ("rpmlib", ⟨[114, 112, 109, 108, 105, 98, 40], [41], 2 ^ 24 + 8, none⟩),
  ("config", ⟨[99, 111, 110, 102, 105, 103, 40], [41], 2 ^ 28 + 8, none⟩),
  ("user", ⟨[117, 115, 101, 114, 40], [41], 2 ^ 9 + 2 ^ 12, some []⟩),
  ("group", ⟨[103, 114, 111, 117, 112, 40], [41], 2 ^ 9 + 2 ^ 12, some []⟩),
  ("script_pre", ⟨[], [], 2 ^ 9, some []⟩),
  ("script_post", ⟨[], [], 2 ^ 10, some []⟩),
  ("script_preun", ⟨[], [], 2 ^ 11, some []⟩),
  ("script_postun", ⟨[], [], 2 ^ 12, some []⟩)]

/-- every constructor of the source (table regenerated on every run) that bears one of these names has exactly the standard
name form, flags and version behaviour (constructors added to the source later are not constrained) -/
theorem dep_ctor_table_standard : ∀ e ∈ standardCtors, e ∈ depCtorNames.zip depCtors := by decide

/-- **a dependency made by constructor `k` and given to the builder is read back with the wrapped name, the version and
exactly the table's flags**, under whichever of the eight dependency kinds it was added (composition of `dep_ctor_spec`
with the eight `readback_*` theorems; for provides / requires / recommends the library's own entries follow) -/
theorem dep_ctor_flags_readback {k : Nat} {name version : Bytes} {d : Dep} (h : depCtor k name version = some d) :
    ∃ s, depCtors[k]? = some s ∧
    let want : Acc.Dependency := ⟨s.pre ++ name ++ s.post, s.flags, s.version.getD version⟩
    (d ∈ x.c.provides → ∃ l, getDependencies (hdrOf x) IndexTag.RPMTAG_PROVIDENAME IndexTag.RPMTAG_PROVIDEFLAGS IndexTag.RPMTAG_PROVIDEVERSION = .ok l ∧ want ∈ l)
    ∧ (d ∈ x.c.requires → ∃ l, getDependencies (hdrOf x) IndexTag.RPMTAG_REQUIRENAME IndexTag.RPMTAG_REQUIREFLAGS IndexTag.RPMTAG_REQUIREVERSION = .ok l ∧ want ∈ l)
    ∧ (d ∈ x.c.conflicts → ∃ l, getDependencies (hdrOf x) IndexTag.RPMTAG_CONFLICTNAME IndexTag.RPMTAG_CONFLICTFLAGS IndexTag.RPMTAG_CONFLICTVERSION = .ok l ∧ want ∈ l)
    ∧ (d ∈ x.c.obsoletes → ∃ l, getDependencies (hdrOf x) IndexTag.RPMTAG_OBSOLETENAME IndexTag.RPMTAG_OBSOLETEFLAGS IndexTag.RPMTAG_OBSOLETEVERSION = .ok l ∧ want ∈ l)
    ∧ (d ∈ x.c.recommends → ∃ l, getDependencies (hdrOf x) IndexTag.RPMTAG_RECOMMENDNAME IndexTag.RPMTAG_RECOMMENDFLAGS IndexTag.RPMTAG_RECOMMENDVERSION = .ok l ∧ want ∈ l)
    ∧ (d ∈ x.c.suggests → ∃ l, getDependencies (hdrOf x) IndexTag.RPMTAG_SUGGESTNAME IndexTag.RPMTAG_SUGGESTFLAGS IndexTag.RPMTAG_SUGGESTVERSION = .ok l ∧ want ∈ l)
    ∧ (d ∈ x.c.enhances → ∃ l, getDependencies (hdrOf x) IndexTag.RPMTAG_ENHANCENAME IndexTag.RPMTAG_ENHANCEFLAGS IndexTag.RPMTAG_ENHANCEVERSION = .ok l ∧ want ∈ l)
    ∧ (d ∈ x.c.supplements → ∃ l, getDependencies (hdrOf x) IndexTag.RPMTAG_SUPPLEMENTNAME IndexTag.RPMTAG_SUPPLEMENTFLAGS IndexTag.RPMTAG_SUPPLEMENTVERSION = .ok l ∧ want ∈ l) := by
  obtain ⟨s, hs, hn, hf, hv⟩ := dep_ctor_spec h
  refine ⟨s, hs, ?_⟩
  have hw : Dep.toAcc d = ⟨s.pre ++ name ++ s.post, s.flags, s.version.getD version⟩ := by
    simp only [Dep.toAcc, hn, hf, hv]
  intro want
  have mem_of : ∀ {l : List Dep}, d ∈ l → want ∈ l.map Dep.toAcc := by
    intro l hm
    have := List.mem_map_of_mem (f := Dep.toAcc) hm
    rw [hw] at this
    exact this
  refine ⟨?_, ?_, ?_, ?_, ?_, ?_, ?_, ?_⟩
  · intro hm; exact ⟨_, (readback_provides x).1, mem_of ((readback_provides x).2.subset hm)⟩
  · intro hm; exact ⟨_, (readback_requires x).1, mem_of ((readback_requires x).2.subset hm)⟩
  · intro hm; exact ⟨_, readback_conflicts x, mem_of hm⟩
  · intro hm; exact ⟨_, readback_obsoletes x, mem_of hm⟩
  · intro hm; exact ⟨_, (readback_recommends x).1, mem_of ((readback_recommends x).2.subset hm)⟩
  · intro hm; exact ⟨_, readback_suggests x, mem_of hm⟩
  · intro hm; exact ⟨_, readback_enhances x, mem_of hm⟩
  · intro hm; exact ⟨_, readback_supplements x, mem_of hm⟩

theorem zip3_changelog (l : List (Bytes × Bytes × Nat)) :
    (zip3 (l.map (·.1)) (l.map (·.2.2)) (l.map (·.2.1))).map (fun (n, t, d) => (⟨n, t, d⟩ : Acc.Changelog)) =
      l.map fun e => ⟨e.1, e.2.2, e.2.1⟩ := by
  induction l with
  | nil => rfl
  | cons d ds ih => simp only [List.map_cons, zip3, ih]

/-- changelog entries come back in order with their name, time and text -/
theorem readback_changelog : getChangelog (hdrOf x) = .ok (x.c.changelog.map fun e => ⟨e.1, e.2.2, e.2.1⟩) := by
  have blk := mem_slots_block rfl (j := 1) rfl
  refine (triple_of_slots x (pa := IndexData.asStringArray) (pb := IndexData.asU32Array) (pc := IndexData.asStringArray)
    (e := fun x => x.c.changelog.isEmpty) (blk _ (List.mem_of_getElem? (i := 5) rfl)) (blk _ (List.mem_of_getElem? (i := 7) rfl))
    (blk _ (List.mem_of_getElem? (i := 6) rfl)) rfl rfl rfl _ _).trans ?_
  split
  · rename_i he
    rw [List.isEmpty_iff.mp he]
    rfl
  · exact congrArg Out.ok (zip3_changelog x.c.changelog)

theorem readback_whenFiles {α} (proj : IndexData → Option α) {tag : Nat} {f : Ctx → IndexData}
    (hs : (tag, whenFiles f) ∈ slots) (hne : x.c.files.isEmpty = false) {a : α} (hp : proj (f x) = some a) :
    getWith proj (hdrOf x) tag = .ok a :=
  getter_of_slot proj hs (by simp only [whenFiles, hne, Bool.false_eq_true, if_false]) hp

theorem readback_modes (hne : x.c.files.isEmpty = false) : getU16Array (hdrOf x) IndexTag.RPMTAG_FILEMODES = .ok (x.c.files.map (·.mode)) :=
  readback_whenFiles x IndexData.asU16Array (mem_slot_first rfl (i := 21) rfl) hne rfl
theorem readback_mtimes (hne : x.c.files.isEmpty = false) :
    getU32Array (hdrOf x) IndexTag.RPMTAG_FILEMTIMES = .ok (x.c.files.map fun f => clampMtime x.c.sourceDate f.mtime) :=
  readback_whenFiles x IndexData.asU32Array (mem_slot_first rfl (i := 23) rfl) hne rfl
theorem readback_digests (hne : x.c.files.isEmpty = false) : getStringArray (hdrOf x) IndexTag.RPMTAG_FILEDIGESTS = .ok (x.c.files.map (·.shaHex)) :=
  readback_whenFiles x IndexData.asStringArray (mem_slot_first rfl (i := 24) rfl) hne rfl
theorem readback_linktos (hne : x.c.files.isEmpty = false) : getStringArray (hdrOf x) IndexTag.RPMTAG_FILELINKTOS = .ok (x.c.files.map (·.link)) :=
  readback_whenFiles x IndexData.asStringArray (mem_slot_first rfl (i := 25) rfl) hne rfl
theorem readback_fileflags (hne : x.c.files.isEmpty = false) : getU32Array (hdrOf x) IndexTag.RPMTAG_FILEFLAGS = .ok (x.c.files.map (·.flags)) :=
  readback_whenFiles x IndexData.asU32Array (mem_slot_first rfl (i := 26) rfl) hne rfl
theorem readback_users (hne : x.c.files.isEmpty = false) : getStringArray (hdrOf x) IndexTag.RPMTAG_FILEUSERNAME = .ok (x.c.files.map (·.user)) :=
  readback_whenFiles x IndexData.asStringArray (mem_slot_first rfl (i := 27) rfl) hne rfl
theorem readback_groups (hne : x.c.files.isEmpty = false) : getStringArray (hdrOf x) IndexTag.RPMTAG_FILEGROUPNAME = .ok (x.c.files.map (·.group)) :=
  readback_whenFiles x IndexData.asStringArray (mem_slot_first rfl (i := 28) rfl) hne rfl

/-- the clamp: a recorded mtime never exceeds the source date, and equals the file's own mtime when that is earlier -/
theorem clamp_spec (sd : Option Nat) (m : Nat) :
    clampMtime sd m = (match sd with | some d => min d m | none => m) ∧ (∀ d, sd = some d → clampMtime sd m ≤ d) := by
  cases sd with
  | none => exact ⟨rfl, fun _ h => by cases h⟩
  | some d =>
    simp only [clampMtime]
    refine ⟨by split <;> omega, fun d' h => ?_⟩
    cases h; split <;> omega

theorem dirs_lookup {dirs : List Bytes} {d : Bytes} (hd : d ∈ dirs) : dirs[dirIndex dirs d]? = some d := by
  unfold dirIndex
  cases h : dirs.findIdx? (· == d) with
  | none => exact absurd (List.findIdx?_eq_none_iff.mp h d hd) (by simp)
  | some i =>
    obtain ⟨hi, hp, _⟩ := List.findIdx?_eq_some_iff_getElem.mp h
    rw [Option.getD_some, List.getElem?_eq_getElem hi]
    exact congrArg some (by simpa using hp)

theorem filePaths_of_files (dirs : List Bytes) (fs : List FileE) (hd : ∀ f ∈ fs, f.dir ∈ dirs) :
    filePathsFrom (fs.map (·.baseName)) (fs.map fun f => dirIndex dirs f.dir) dirs =
      .ok (fs.map fun f => pathJoin f.dir f.baseName) := by
  induction fs with
  | nil => rfl
  | cons f fs ih =>
    simp only [List.map_cons, filePathsFrom, dirs_lookup (hd f (by simp))]
    rw [ih (fun g hg => hd g (by simp [hg]))]
    rfl

/-- **file paths**: every file is listed under `dir ++ base name` of its destination, in file order
(`add_data` guarantees each file's directory is in the directory set) -/
theorem readback_paths (hne : x.c.files.isEmpty = false) (hd : ∀ f ∈ x.c.files, f.dir ∈ x.c.directories) :
    getFilePaths (hdrOf x) = .ok (x.c.files.map fun f => pathJoin f.dir f.baseName) := by
  have e1 := readback_whenFiles x IndexData.asStringArray (mem_slot_first rfl (i := 35) rfl) hne rfl
  have e2 := readback_whenFiles x IndexData.asU32Array (mem_slot_first rfl (i := 31) rfl) hne rfl
  have e3 := readback_whenFiles x IndexData.asStringArray (mem_slot_first rfl (i := 36) rfl) hne rfl
  simp only [getFilePaths, getStringArray, getU32Array, e1, e2, e3, triple, isNotFound]
  simp only [Bool.false_and, Bool.false_eq_true, if_false]
  exact filePaths_of_files _ _ hd

/-- the file sizes, whichever of the two encodings `prepare_data` chose: LONGFILESIZES (u64) for a package above the
large-file threshold, else no LONGFILESIZES and FILESIZES (u32) — `get_file_entries` tries them in this order -/
theorem readback_sizes (hne : x.c.files.isEmpty = false) :
    (usesLargeFiles x.c = true ∧ getU64Array (hdrOf x) IndexTag.RPMTAG_LONGFILESIZES = .ok (x.c.files.map (·.size)))
    ∨ (usesLargeFiles x.c = false ∧ getU64Array (hdrOf x) IndexTag.RPMTAG_LONGFILESIZES = .err "notfound"
        ∧ getU32Array (hdrOf x) IndexTag.RPMTAG_FILESIZES = .ok (x.c.files.map (·.size))) := by
  have m19 := mem_slot_first rfl (i := 19) rfl
  have m20 := mem_slot_first rfl (i := 20) rfl
  cases hl : usesLargeFiles x.c with
  | true =>
    have h : getWith IndexData.asU64Array (hdrOf x) IndexTag.RPMTAG_LONGFILESIZES = .ok (x.c.files.map (·.size)) :=
      getter_of_slot IndexData.asU64Array (x := x) m19 (d := .int64 (x.c.files.map (·.size))) (by simp only [hne, hl]; rfl) rfl
    exact .inl ⟨rfl, h⟩
  | false =>
    have h1 : getWith IndexData.asU64Array (hdrOf x) IndexTag.RPMTAG_LONGFILESIZES = .err "notfound" :=
      getter_of_empty_slot IndexData.asU64Array (x := x) m19 (by simp only [hne, hl]; rfl)
    have h2 : getWith IndexData.asU32Array (hdrOf x) IndexTag.RPMTAG_FILESIZES = .ok (x.c.files.map (·.size)) :=
      getter_of_slot IndexData.asU32Array (x := x) m20 (d := .int32 (x.c.files.map (·.size))) (by simp only [hne, hl]; rfl) rfl
    exact .inr ⟨rfl, h1, h2⟩

/-- the capability array: present (one text per file, `""` for files without capabilities) exactly when some file has
capabilities -/
theorem readback_caps (hne : x.c.files.isEmpty = false) :
    getStringArray (hdrOf x) IndexTag.RPMTAG_FILECAPS =
      if usesCaps x.c then .ok (x.c.files.map fun f => f.caps.getD []) else .err "notfound" := by
  have m37 := mem_slot_first rfl (i := 37) rfl
  cases hc : usesCaps x.c with
  | true =>
    exact getter_of_slot IndexData.asStringArray (x := x) m37 (d := .strArray (x.c.files.map fun f => f.caps.getD []))
        (a := x.c.files.map fun f => f.caps.getD []) (by simp only [hne, hc]; rfl) rfl
  | false =>
    exact getter_of_empty_slot IndexData.asStringArray (x := x) m37 (by simp only [hne, hc]; rfl)

/-- the file digest algorithm of a package with files is 8 = SHA-256 -/
theorem readback_digest_algo (hne : x.c.files.isEmpty = false) : getFileDigestAlgorithm (hdrOf x) = .ok 8 := by
  have e : getU32 (hdrOf x) IndexTag.RPMTAG_FILEDIGESTALGO = .ok 8 :=
    readback_whenFiles x IndexData.asU32 (mem_slot_first rfl (i := 33) rfl) hne rfl
  simp only [getFileDigestAlgorithm, e, Out.bind_ok]
  rfl

/-- **get_file_entries** (any digest-length table that pairs SHA-256 with 64 hex characters): for EVERY configuration
and clock, on the built header and any signature header without IMA signatures, `get_file_entries` returns one record
per builder file, in file order, each carrying that file's destination path, mode, owner, group, clamped mtime, size
(either size encoding), flags, SHA-256 digest, capabilities, link target — and `[]` for a package without files.
Hypotheses: `hd` — every file's directory is in the directory set (`add_data` inserts it); `hdig` — every digest text
is empty or 64 characters long (`add_data` stores a hex SHA-256). No validity hypothesis is needed at this level. -/
theorem readback_file_entries_tbl {tbl : List (Nat × Nat)} (htbl : (8, 64) ∈ tbl) (sig : Header)
    (hsig : getStringArray sig SigTag.RPMSIGTAG_FILESIGNATURES = .err "notfound")
    (hd : ∀ f ∈ x.c.files, f.dir ∈ x.c.directories) (hdig : DigestsOk x.c) :
    getFileEntries sig (hdrOf x) tbl = .ok (x.c.files.map (entryOf x)) := by
  cases he : x.c.files.isEmpty with
  | true =>
    have hemp : x.c.files = [] := List.isEmpty_iff.mp he
    have e : getU16Array (hdrOf x) IndexTag.RPMTAG_FILEMODES = .err "notfound" :=
      getter_of_empty_slot IndexData.asU16Array (x := x) (mem_slot_first rfl (i := 21) rfl) (if_pos he)
    simp only [getFileEntries, e, isNotFound, if_true, hemp, List.map_nil]
  | false =>
    have hcaps : optStrings (getStringArray (hdrOf x) IndexTag.RPMTAG_FILECAPS) =
        .ok (if usesCaps x.c then some (x.c.files.map fun f => f.caps.getD []) else none) := by
      rw [readback_caps x he]
      cases usesCaps x.c <;> rfl
    have hb := buildEntries_files htbl (if usesCaps x.c then some (x.c.files.map fun f => f.caps.getD []) else none)
      (fun f => pathJoin f.dir f.baseName) (fun f => clampMtime x.c.sourceDate f.mtime)
      (fun f => if usesCaps x.c then some (f.caps.getD []) else none) x.c.files hdig 0 (by
        cases usesCaps x.c
        · exact fun _ _ => rfl
        · exact fun i h => by simp [h])
    have hima : optStrings (getStringArray sig SigTag.RPMSIGTAG_FILESIGNATURES) = .ok none := by rw [hsig]; rfl
    simp only [getFileEntries, readback_digest_algo x he, readback_modes x he, readback_users x he, readback_groups x he,
      readback_digests x he, readback_mtimes x he, readback_fileflags x he, hcaps, readback_linktos x he,
      readback_paths x he hd, hima, isNotFound, Bool.false_eq_true, if_false, Out.bind_ok]
    -- the sizes, in whichever of the two encodings
    rcases readback_sizes x he with ⟨_, hs⟩ | ⟨_, hs1, hs2⟩
    · simp only [hs]
      exact hb
    · simp only [hs1, hs2]
      exact hb

/-- **readback_file_entries**: `get_file_entries` as the library calls it (the digest-length table of the source) -/
theorem readback_file_entries (sig : Header)
    (hsig : getStringArray sig SigTag.RPMSIGTAG_FILESIGNATURES = .err "notfound")
    (hd : ∀ f ∈ x.c.files, f.dir ∈ x.c.directories) (hdig : DigestsOk x.c) :
    getFileEntries sig (hdrOf x) = .ok (x.c.files.map (entryOf x)) :=
  readback_file_entries_tbl x sha256_in_table sig hsig hd hdig

end readback

/-- the destination a `FileEntry` reports is the archive (cpio) name without its leading `.`, for files as
`add_data` stores them (C17: the directory ends with `/`, the base name does not start with `/`, the archive
name is `"." ++ dir ++ base name`) -/
theorem entryOf_path_cpio (x : Ctx) (f : FileE) (hlast : f.dir.getLast? = some 47) (hbase : f.baseName.head? ≠ some 47)
    (hp : f.cpioPath = [46] ++ (f.dir ++ f.baseName)) :
    (entryOf x f).path = f.dir ++ f.baseName ∧ f.cpioPath = 46 :: (entryOf x f).path := by
  have e : (entryOf x f).path = f.dir ++ f.baseName := by
    simp [entryOf, pathJoin, hbase, hlast]
  exact ⟨e, by rw [e, hp]; rfl⟩

/-- **`PackageBuilder::build`**: `get_file_entries` on the package `build` returns (its signature header carries the
header digest only) lists exactly the builder's files — every clock value, hash function, archive and payload -/
theorem readback_file_entries_build (c : Cfg) (now : Nat) (sha256hex : Bytes → Bytes) (archive payload : Bytes)
    (hd : ∀ f ∈ c.files, f.dir ∈ c.directories) (hdig : DigestsOk c) :
    getFileEntries (build c now sha256hex archive payload).md.signature (build c now sha256hex archive payload).md.header
      = .ok (c.files.map (entryOf (mkCtx c now (sha256hex payload) (sha256hex archive)))) :=
  readback_file_entries (mkCtx c now (sha256hex payload) (sha256hex archive)) _
    (signatureHeader_no_ima [] _ (fun _ h => by cases h)) hd hdig

/-- **build → write → parse → `get_file_entries`**: for every valid configuration, any signature header
`from_entries` can produce that has no IMA signatures, and any payload, the written package parses (to the built
value) and `get_file_entries` on the PARSED package returns the builder's files -/
theorem readback_file_entries_reparsed {x : Ctx} (v : Valid x) {sigRecs : List (Nat × IndexData)}
    (vs : RecsOk sigRecs SigTag.HEADER_SIGNATURES)
    (hsig : getStringArray (fromEntries sigRecs SigTag.HEADER_SIGNATURES) SigTag.RPMSIGTAG_FILESIGNATURES = .err "notfound")
    (payload : Bytes) (hd : ∀ f ∈ x.c.files, f.dir ∈ x.c.directories) (hdig : DigestsOk x.c) :
    ∃ p', parsePackage (writePackage ⟨⟨leadNew x.c.name, fromEntries sigRecs SigTag.HEADER_SIGNATURES, hdrOf x⟩, payload⟩) = .ok p'
      ∧ p'.content = payload
      ∧ getFileEntries p'.md.signature p'.md.header = .ok (x.c.files.map (entryOf x)) :=
  ⟨_, build_reparse v vs payload, rfl, readback_file_entries x _ hsig hd hdig⟩

/-! ### non-vacuity: a concrete valid configuration (multi-byte summary, one file, a scriptlet, gzip) -/
instance : DecidablePred (fun s : Bytes => StrOk s) := fun s => by unfold StrOk; exact inferInstance
instance instDecidableCanon (d : IndexData) : Decidable d.Canon := by
  cases d <;> simp only [IndexData.Canon] <;> exact inferInstance

def sampleCfg : Cfg := {
  name := [112, 107, 103], epoch := 0, version := [49], release := [49], license := [77, 73, 84], arch := [120],
  summary := [195, 188, 33], desc := none, vendor := some [118], packager := some [112], group := none, url := none,
  vcs := none, cookie := none, buildHost := none, sourceDate := some 1600000000,
  files := [⟨[46, 47, 97], [47], [97], 3, 33188, [114], [114], [], 0, none, 4294967295, 1700000000, [48, 48]⟩],
  directories := [[47]], provides := [], requires := [⟨[119], 0, []⟩], conflicts := [], obsoletes := [], recommends := [],
  suggests := [], enhances := [], supplements := [], preIn := some ⟨[101], some 1, some [[47, 98]]⟩, postIn := none,
  preUn := none, postUn := none, preTrans := none, postTrans := none, preUntrans := none, postUntrans := none,
  verify := none, changelog := [([109], [116], 5)], compression := .gzip 6 }
def sampleCtx : Ctx := ⟨sampleCfg, 1700000000, [97], [98]⟩

example : ∀ r ∈ recordsOf sampleCtx, r.2.Canon := by decide +kernel
example : 40 < (recordsOf sampleCtx).length := by decide +kernel
example : getString (hdrOf sampleCtx) IndexTag.RPMTAG_PACKAGER = .ok [112] := readback_packager sampleCtx
example : getDependencies (hdrOf sampleCtx) IndexTag.RPMTAG_REQUIRENAME IndexTag.RPMTAG_REQUIREFLAGS IndexTag.RPMTAG_REQUIREVERSION =
    .ok ((allRequires sampleCfg).map Dep.toAcc) := (readback_requires sampleCtx).1

/-! ### non-vacuity for `get_file_entries`: three files in two directories — a regular file with capabilities
(mtime after the source date: clamped), a plain file (mtime before it: kept), a symbolic-link entry (mode 0120777,
link target, empty digest), owners root / root and u / g — in both size encodings -/
def sha64 : Bytes := List.replicate 64 97
def sampleFiles2 : List FileE :=
  [ ⟨[46, 47, 101, 116, 99, 47, 97], [47, 101, 116, 99, 47], [97], 3, 33188, sRoot, sRoot, [], 1, some [99, 61, 112], 4294967295, 1700000000, sha64⟩,
    ⟨[46, 47, 101, 116, 99, 47, 98], [47, 101, 116, 99, 47], [98], 5, 33261, [117], [103], [], 0, none, 4294967295, 1500000000, sha64⟩,
    ⟨[46, 47, 117, 47, 108], [47, 117, 47], [108], 1, 41471, sRoot, sRoot, [97], 0, none, 4294967295, 1600000001, []⟩ ]
def sampleCfg2 : Cfg := { sampleCfg with files := sampleFiles2, directories := [[47, 101, 116, 99, 47], [47, 117, 47]] }
def sampleCfg2L : Cfg := { sampleCfg2 with largeFileThreshold := 8 }
def sampleCtx2 : Ctx := ⟨sampleCfg2, 1600000000, [97], [98]⟩
def sampleCtx2L : Ctx := ⟨sampleCfg2L, 1600000000, [97], [98]⟩
/-- what `get_file_entries` must return for them -/
def sampleEntries2 : List FileEntry :=
  [ ⟨[47, 101, 116, 99, 47, 97], 33188, sRoot, sRoot, 1600000000, 3, 1, some (8, sha64), some [99, 61, 112], [], none⟩,
    ⟨[47, 101, 116, 99, 47, 98], 33261, [117], [103], 1500000000, 5, 0, some (8, sha64), some [], [], none⟩,
    ⟨[47, 117, 47, 108], 41471, sRoot, sRoot, 1600000000, 1, 0, none, some [], [97], none⟩ ]

example : usesCaps sampleCfg2 = true ∧ usesLargeFiles sampleCfg2 = false ∧ usesLargeFiles sampleCfg2L = true := by decide
example : sampleCfg2.files.map (entryOf sampleCtx2) = sampleEntries2 := rfl
example : sampleCfg2L.files.map (entryOf sampleCtx2L) = sampleEntries2 := rfl
example : DigestsOk sampleCfg2 := by decide
/-- every stored file has the `add_data` shape, so the reported path is the archive name without the `.` -/
example : ∀ f ∈ sampleFiles2, f.cpioPath = 46 :: (entryOf sampleCtx2 f).path := by
  intro f hf
  refine (entryOf_path_cpio sampleCtx2 f ?_ ?_ ?_).2 <;>
    (simp only [sampleFiles2, List.mem_cons, List.not_mem_nil, or_false] at hf; rcases hf with rfl | rfl | rfl <;> decide)

/-- the getter-level theorem, FILESIZES encoding, the signature header of `build` -/
example : getFileEntries (signatureHeader [] (some [97])) (hdrOf sampleCtx2) = .ok sampleEntries2 :=
  (show sampleCfg2.files.map (entryOf sampleCtx2) = sampleEntries2 from rfl) ▸
    readback_file_entries sampleCtx2 _ (signatureHeader_no_ima [] _ (fun _ h => by cases h)) (by decide) (by decide)
/-- … LONGFILESIZES encoding, a signed package's signature header (RSA legacy tag) -/
example : getFileEntries (signatureHeader [(SigTag.RPMSIGTAG_RSA, [1], [65])] (some [97])) (hdrOf sampleCtx2L) = .ok sampleEntries2 :=
  (show sampleCfg2L.files.map (entryOf sampleCtx2L) = sampleEntries2 from rfl) ▸
    readback_file_entries sampleCtx2L _ (signatureHeader_no_ima _ _ (fun _ h => by cases h; decide)) (by decide) (by decide)
/-- … and the package without files -/
example : getFileEntries (signatureHeader [] none) (hdrOf ⟨{ sampleCfg with files := [], directories := [] }, 0, [], []⟩) = .ok [] :=
  readback_file_entries ⟨{ sampleCfg with files := [], directories := [] }, 0, [], []⟩ _
    (signatureHeader_no_ima [] _ (fun _ h => by cases h)) (fun _ h => by cases h) (fun _ h => by cases h)
example : getFileEntries (build sampleCfg2 1700000123 (fun _ => [97]) [] []).md.signature
    (build sampleCfg2 1700000123 (fun _ => [97]) [] []).md.header = .ok sampleEntries2 :=
  (show sampleCfg2.files.map (entryOf sampleCtx2) = sampleEntries2 from rfl) ▸
    readback_file_entries_build sampleCfg2 1700000123 (fun _ => [97]) [] [] (by decide) (by decide)

theorem sample2_valid : Valid sampleCtx2 := by
  -- one evaluation of the records for all four facts
  have h : (∀ r ∈ recordsOf sampleCtx2, r.2.Canon ∧ r.1 < 4294967296) ∧ (recordsOf sampleCtx2).length + 1 < 4294967296 ∧
      (List.map (fun r => r.2.enc.length + 7) (recordsOf sampleCtx2)).sum + 16 < 2147483648 := by decide +kernel
  exact ⟨fun r hr => (h.1 r hr).1, fun r hr => (h.1 r hr).2, (by decide : IndexTag.RPMTAG_HEADERIMMUTABLE < 4294967296), h.2.1,
    Nat.lt_of_le_of_lt (fromEntries_store_le _ _) h.2.2⟩
theorem sample2_sig_ok : RecsOk [(SigTag.RPMSIGTAG_SHA256, .str [97])] SigTag.HEADER_SIGNATURES := by
  refine ⟨by decide +kernel, by decide +kernel, by decide, by decide, ?_⟩
  have h := fromEntries_store_le [(SigTag.RPMSIGTAG_SHA256, IndexData.str [97])] SigTag.HEADER_SIGNATURES
  have : (List.map (fun r : Nat × IndexData => r.2.enc.length + 7) [(SigTag.RPMSIGTAG_SHA256, IndexData.str [97])]).sum + 16 < 2147483648 := by
    decide +kernel
  omega
/-- the write → parse theorem at the sample: all hypotheses hold -/
example : ∃ p', parsePackage (writePackage ⟨⟨leadNew sampleCfg2.name, fromEntries [(SigTag.RPMSIGTAG_SHA256, .str [97])]
      SigTag.HEADER_SIGNATURES, hdrOf sampleCtx2⟩, [1, 2, 3]⟩) = .ok p' ∧ p'.content = [1, 2, 3]
    ∧ getFileEntries p'.md.signature p'.md.header = .ok (sampleCfg2.files.map (entryOf sampleCtx2)) :=
  readback_file_entries_reparsed sample2_valid sample2_sig_ok
    (signatureHeader_no_ima [] (some [97]) (fun _ h => by cases h)) [1, 2, 3] (by decide) (by decide)

/-! ### non-vacuity for the `Dependency` constructors: some constructor makes `w <= 1` (LESS | EQUAL = 10), `config(w) = 1`,
and the sample configuration's `requires` entry is `Dependency::any("w")`, read back through `dep_ctor_flags_readback` -/
example : (List.range depCtors.length).any (fun k => depCtor k [119] [49] == some ⟨[119], 10, [49]⟩) = true := by decide
example : (List.range depCtors.length).any (fun k => depCtor k [119] [49] ==
    some ⟨[99, 111, 110, 102, 105, 103, 40, 119, 41], 268435464, [49]⟩) = true := by decide
example : 10 ≤ depCtors.length ∧ depCtorNames.length = depCtors.length := by decide
example : ∃ k, depCtor k [119] [49] = some ⟨[119], 0, []⟩ ∧
    ∃ l, getDependencies (hdrOf sampleCtx) IndexTag.RPMTAG_REQUIRENAME IndexTag.RPMTAG_REQUIREFLAGS IndexTag.RPMTAG_REQUIREVERSION = .ok l
      ∧ (⟨[119], 0, []⟩ : Acc.Dependency) ∈ l := by
  have hk : ∃ k, depCtor k [119] [49] = some ⟨[119], 0, []⟩ := by
    have : (List.range depCtors.length).any (fun k => depCtor k [119] [49] == some ⟨[119], 0, []⟩) = true := by decide
    obtain ⟨k, _, hk⟩ := List.any_eq_true.mp this
    exact ⟨k, by simpa using hk⟩
  obtain ⟨k, hk⟩ := hk
  obtain ⟨s, hs, hall⟩ := dep_ctor_flags_readback sampleCtx hk
  obtain ⟨s', hs', hn', hf', hv'⟩ := dep_ctor_spec hk
  have : s' = s := by rw [hs] at hs'; cases hs'; rfl
  subst this
  obtain ⟨l, hl, hm⟩ := hall.2.1 (by decide)
  refine ⟨k, hk, l, hl, ?_⟩
  simp only at hn' hf' hv'
  rw [← hn', ← hf', ← hv'] at hm
  exact hm
/-! ## the builder front-end: `FileOptions::new`, its setters, `with_file` (coverage gaps G5, G11) -/
open RpmVerif.WithFile RpmVerif.FileMode

/-- **the scraped defaults are the documented ones**: root / root, no link target, regular 0o664 (only used when the mode
is not inherited — it is), no flags, inherit, no capabilities, every verify flag -/
theorem file_option_defaults_standard (dest : Bytes) :
    FileOpts.new dest = ⟨dest, FileOptionsSpec.root, FileOptionsSpec.root, [], .regular 0o664, 0, true, none, FileVerifyFlags.all⟩ := rfl

/-- **the scraped `insert(..)` arguments are rpm's attribute bits of the directive each setter stands for** -/
theorem file_option_setters_standard : Gen.fileOptionSetters = FileOptionsSpec.settersStd := rfl

/-- the other setters have the shape the model writes out (checked by the scraper on every run) -/
theorem file_option_setters_shape :
    Gen.fileOptionPlainSettersAssign = true ∧ Gen.fileOptionModeSetterClearsInherit = true ∧
    Gen.fileOptionCapsSetterValidates = true ∧ Gen.fileOptionNoOtherSetters = true ∧
    Gen.fileOptionsNewDestIsArg = true ∧ Gen.fileOptionsNewCapsIsNone = true := by decide

/-- **inherited mode** (no `mode(..)` in the chain): the stored mode word is the source's `st_mode`, low 16 bits — file type
and all twelve permission bits (set-uid, set-gid, sticky included), whatever the type -/
theorem with_file_inherit_mode {sha256hex : Bytes → Bytes} {valid : Bytes → Bool} {c : Call} {f : SrcFile} {e : FileE}
    (hsrc : c.src = .readable f) (hnm : ∀ s ∈ c.setters, s.isMode = false)
    (h : runCall sha256hex valid c = .ok e) : e.mode = f.stMode % 65536 := by
  obtain ⟨f', o, cpio, dir, base, hs, _, _, ho, _, rfl⟩ := Build.runCall_ok h
  rw [hsrc] at hs; cases hs
  have := (applySetters_keeps_mode ho hnm).2
  have hi : o.inheritPermissions = true := by rw [this]; rfl
  simp only [entryFor, hi, if_true]

/-- **a regular source file** with permission bits `p`: the stored mode is `0o100000 | p`, which `FileMode::from` reads
back as `Regular { permissions: p }` — this is the word `readback_modes` returns for the file -/
theorem with_file_inherit_regular {sha256hex : Bytes → Bytes} {valid : Bytes → Bool} {c : Call} {f : SrcFile} {e : FileE}
    (p : Nat) (hp : p < 4096) (hst : f.stMode = S_IFREG ||| p)
    (hsrc : c.src = .readable f) (hnm : ∀ s ∈ c.setters, s.isMode = false)
    (h : runCall sha256hex valid c = .ok e) :
    e.mode = 0o100000 ||| p ∧ fromU16 e.mode = .regular p := by
  have hm := with_file_inherit_mode hsrc hnm h
  have e1 : e.mode = 0o100000 ||| p := by
    rw [hm, hst]
    exact Nat.mod_eq_of_lt (Nat.or_lt_two_pow (n := 16) (by decide) (by omega))
  exact ⟨e1, by rw [e1, Nat.or_comm]; exact (fromU16_or p hp).2.1⟩

/-- **an explicit mode wins**: when the chain contains `mode(m)` and no later `mode(..)`, the stored mode word is `m`'s
(`raw_mode()`), whatever the source file's `st_mode` and whatever other setters come before or after it -/
theorem explicit_mode_wins {sha256hex : Bytes → Bytes} {valid : Bytes → Bool} {c : Call} {e : FileE}
    (pre post : List Setter) (m : FileMode) (hc : c.setters = pre ++ .mode m :: post)
    (hpost : ∀ s ∈ post, s.isMode = false) (h : runCall sha256hex valid c = .ok e) : e.mode = rawMode m := by
  obtain ⟨f, o, cpio, dir, base, _, _, _, ho, _, rfl⟩ := Build.runCall_ok h
  rw [hc] at ho
  obtain ⟨o₁, _, h2⟩ := applySetters_append_ok ho
  obtain ⟨o₂, h3, h4⟩ := applySetters_cons_ok h2
  obtain ⟨a, b⟩ := applySetters_keeps_mode h4 hpost
  have hclr : Gen.fileOptionModeSetterClearsInherit = true := by decide
  simp only [Setter.apply, Out.ok.injEq] at h3
  subst h3
  simp only [setMode, hclr, if_true] at a b
  simp only [entryFor, b, a, Bool.false_eq_true, if_false]

/-- `mode(i32)` as callers write it (`From<i32>`): the word read back is the integer's low 16 bits -/
theorem explicit_mode_i32 {sha256hex : Bytes → Bytes} {valid : Bytes → Bool} {c : Call} {e : FileE}
    (pre post : List Setter) (n : Int) (hc : c.setters = pre ++ .mode (fromI32 n) :: post)
    (hpost : ∀ s ∈ post, s.isMode = false) (h : runCall sha256hex valid c = .ok e) : e.mode = asU16 n := by
  rw [explicit_mode_wins pre post _ hc hpost h, rawMode_fromI32]

/-- **header mode = cpio mode, for EVERY `i32` given to `mode(..)`** (also those outside 16 bits, which `From<i32>` turns into
`FileMode::Invalid { raw_mode }`): the RPMTAG_FILEMODES word (`u16::from`) and the cpio `c_mode` (`u32::from`) `prepare_data`
derives from the stored mode are the same 16-bit word, the integer's low 16 bits — e.g. `mode(0o271664)` is 0o071664 in both
places, `mode(-1)` is 0o177777, `mode(65536 + 0o100644)` is 0o100644 -/
theorem mode_header_eq_cpio (n : Int) :
    cpioModeWord (fromI32 n) = headerModeWord (fromI32 n) ∧ headerModeWord (fromI32 n) = asU16 n ∧ asU16 n < 65536 :=
  ⟨rfl, rawMode_fromI32 n, asU16_lt n⟩

/-- … and that word is what the entry of a call whose last `mode(..)` is `mode(n)` stores (hence what `readback_modes` returns
and what the archive entry carries) -/
theorem mode_header_eq_cpio_stored {sha256hex : Bytes → Bytes} {valid : Bytes → Bool} {c : Call} {e : FileE}
    (pre post : List Setter) (n : Int) (hc : c.setters = pre ++ .mode (fromI32 n) :: post)
    (hpost : ∀ s ∈ post, s.isMode = false) (h : runCall sha256hex valid c = .ok e) :
    e.mode = headerModeWord (fromI32 n) ∧ e.mode = cpioModeWord (fromI32 n) ∧ e.mode = asU16 n ∧ e.mode < 65536 := by
  have h1 := explicit_mode_i32 pre post n hc hpost h
  obtain ⟨a, b, c'⟩ := mode_header_eq_cpio n
  exact ⟨by rw [h1, b], by rw [h1, a, b], h1, by rw [h1]; exact c'⟩

theorem readback_verifyflags (x : Ctx) (hne : x.c.files.isEmpty = false) :
    getU32Array (hdrOf x) IndexTag.RPMTAG_FILEVERIFYFLAGS = .ok (x.c.files.map (·.verifyFlags)) :=
  readback_whenFiles x IndexData.asU32Array (mem_slot_first rfl (i := 34) rfl) hne rfl

/-- **`with_file` calls → accessors.** For the builder state a sequence of `FileOptions::new(dest).<setters>` +
`with_file(source, ..)` calls leaves behind (every call with `?`), the per-file arrays of the built header are the stored
entries' fields in `BTreeMap` order, `get_file_paths()` lists `dir ++ base name` (the directory of every entry IS registered:
no hypothesis), and every stored entry is the entry of one of the calls: its source was readable, mtime inside 1970..2106,
setter chain and destination accepted, and it carries that source's size / mtime / digest and those options' fields
(`entryFor`). -/
theorem with_file_readback (x : Ctx) (sha256hex : Bytes → Bytes) (valid : Bytes → Bool) (calls : List Call) (st : BState)
    (hst : buildState sha256hex valid calls BState.empty = .ok st)
    (hf : x.c.files = st.files) (hdir : x.c.directories = st.directories) (hne : x.c.files.isEmpty = false) :
    getU16Array (hdrOf x) IndexTag.RPMTAG_FILEMODES = .ok (x.c.files.map (·.mode)) ∧
    getU32Array (hdrOf x) IndexTag.RPMTAG_FILEMTIMES = .ok (x.c.files.map fun f => clampMtime x.c.sourceDate f.mtime) ∧
    getU32Array (hdrOf x) IndexTag.RPMTAG_FILEFLAGS = .ok (x.c.files.map (·.flags)) ∧
    getStringArray (hdrOf x) IndexTag.RPMTAG_FILEUSERNAME = .ok (x.c.files.map (·.user)) ∧
    getStringArray (hdrOf x) IndexTag.RPMTAG_FILEGROUPNAME = .ok (x.c.files.map (·.group)) ∧
    getStringArray (hdrOf x) IndexTag.RPMTAG_FILELINKTOS = .ok (x.c.files.map (·.link)) ∧
    getStringArray (hdrOf x) IndexTag.RPMTAG_FILEDIGESTS = .ok (x.c.files.map (·.shaHex)) ∧
    getU32Array (hdrOf x) IndexTag.RPMTAG_FILEVERIFYFLAGS = .ok (x.c.files.map (·.verifyFlags)) ∧
    getFilePaths (hdrOf x) = .ok (x.c.files.map fun f => pathJoin f.dir f.baseName) ∧
    ∀ e ∈ x.c.files, ∃ c ∈ calls, ∃ f o cpio dir base, c.src = .readable f ∧ 0 ≤ f.mtime.secs ∧ f.mtime.secs < 4294967296 ∧
      applySetters valid c.setters (FileOpts.new c.dest) = .ok o ∧ AddData.addData c.dest = .ok (cpio, dir, base) ∧
      e = entryFor sha256hex f o cpio dir base := by
  obtain ⟨hfrom, hdirs⟩ := buildState_ok hst
  have hd : ∀ f ∈ x.c.files, f.dir ∈ x.c.directories := by
    rw [hf, hdir]; exact hdirs (fun _ h => by cases h)
  refine ⟨readback_modes x hne, readback_mtimes x hne, readback_fileflags x hne, readback_users x hne, readback_groups x hne,
    readback_linktos x hne, readback_digests x hne, readback_verifyflags x hne, readback_paths x hne hd, ?_⟩
  intro e he
  rw [hf] at he
  rcases hfrom e he with h0 | ⟨c, hc, hr⟩
  · cases h0
  · exact ⟨c, hc, Build.runCall_ok hr⟩

/-- **flags**: the FILEFLAGS word of every file is the OR of the attribute bits of the `is_*` setters its options chain
contained — the bits of `Spec/FileOptions.lean` (`file_option_setters_standard`) -/
theorem readback_flags_of_setters (x : Ctx) (sha256hex : Bytes → Bytes) (valid : Bytes → Bool) (calls : List Call) (st : BState)
    (hst : buildState sha256hex valid calls BState.empty = .ok st)
    (hf : x.c.files = st.files) (hne : x.c.files.isEmpty = false) :
    getU32Array (hdrOf x) IndexTag.RPMTAG_FILEFLAGS = .ok (x.c.files.map (·.flags)) ∧
    ∀ e ∈ x.c.files, ∃ c ∈ calls, runCall sha256hex valid c = .ok e ∧ e.flags = settersFlags 0 c.setters := by
  refine ⟨readback_fileflags x hne, ?_⟩
  intro e he
  rw [hf] at he
  rcases (buildState_ok hst).1 e he with h0 | ⟨c, hc, hr⟩
  · cases h0
  · obtain ⟨f, o, cpio, dir, base, _, _, _, ho, _, rfl⟩ := Build.runCall_ok hr
    exact ⟨c, hc, hr, applySetters_flag ho⟩

/-- each setter's contribution, by name of the directive -/
theorem setterBits_standard :
    setterBits 0 = FileOptionsSpec.RPMFILE_DOC ∧ setterBits 1 = FileOptionsSpec.RPMFILE_CONFIG ∧
    setterBits 2 = FileOptionsSpec.RPMFILE_CONFIG ||| FileOptionsSpec.RPMFILE_NOREPLACE ∧
    setterBits 3 = FileOptionsSpec.RPMFILE_GHOST ∧ setterBits 4 = FileOptionsSpec.RPMFILE_LICENSE ∧
    setterBits 5 = FileOptionsSpec.RPMFILE_README ∧ ∀ i, 6 ≤ i → setterBits i = 0 := by
  refine ⟨rfl, rfl, rfl, rfl, rfl, rfl, ?_⟩
  intro i hi
  unfold setterBits
  rw [List.getElem?_eq_none (by simpa [Gen.fileOptionSetters] using hi)]
  rfl

/-- **defaults**: a package whose only file was added with bare `FileOptions::new(dest)` reads back owner and group `root`,
no flags, no link target, every verify flag, the source's own mode word and (clamped) mtime, and no FILECAPS tag -/
theorem defaults_readback (x : Ctx) (sha256hex : Bytes → Bytes) (valid : Bytes → Bool) (src : Source) (dest : Bytes) (st : BState)
    (hst : buildState sha256hex valid [⟨src, dest, []⟩] BState.empty = .ok st)
    (hf : x.c.files = st.files) :
    ∃ f, src = .readable f ∧
    getStringArray (hdrOf x) IndexTag.RPMTAG_FILEUSERNAME = .ok [FileOptionsSpec.root] ∧
    getStringArray (hdrOf x) IndexTag.RPMTAG_FILEGROUPNAME = .ok [FileOptionsSpec.root] ∧
    getU32Array (hdrOf x) IndexTag.RPMTAG_FILEFLAGS = .ok [0] ∧
    getStringArray (hdrOf x) IndexTag.RPMTAG_FILELINKTOS = .ok [[]] ∧
    getU32Array (hdrOf x) IndexTag.RPMTAG_FILEVERIFYFLAGS = .ok [FileVerifyFlags.all] ∧
    getU16Array (hdrOf x) IndexTag.RPMTAG_FILEMODES = .ok [f.stMode % 65536] ∧
    getU32Array (hdrOf x) IndexTag.RPMTAG_FILEMTIMES = .ok [clampMtime x.c.sourceDate f.mtime.secs.toNat] ∧
    getStringArray (hdrOf x) IndexTag.RPMTAG_FILECAPS = .err "notfound" := by
  obtain ⟨e, hr, h2⟩ := buildState_cons_ok hst
  simp only [buildState, Out.ok.injEq] at h2
  have hfiles : x.c.files = [e] := by rw [hf, ← h2]; rfl
  obtain ⟨f, o, cpio, dir, base, hs, _, _, ho, _, he⟩ := Build.runCall_ok hr
  simp only [applySetters, Out.ok.injEq] at ho
  have hne : x.c.files.isEmpty = false := by rw [hfiles]; rfl
  have hcaps : usesCaps x.c = false := by
    simp only [usesCaps, hfiles, List.any_cons, List.any_nil, Bool.or_false, he, entryFor, ← ho]
    rfl
  refine ⟨f, hs, ?_, ?_, ?_, ?_, ?_, ?_, ?_, ?_⟩
  · rw [readback_users x hne, hfiles, he, ← ho]; rfl
  · rw [readback_groups x hne, hfiles, he, ← ho]; rfl
  · rw [readback_fileflags x hne, hfiles, he, ← ho]; rfl
  · rw [readback_linktos x hne, hfiles, he, ← ho]; rfl
  · rw [readback_verifyflags x hne, hfiles, he, ← ho]; rfl
  · rw [readback_modes x hne, hfiles, he, ← ho]; rfl
  · rw [readback_mtimes x hne, hfiles, he, ← ho]; rfl
  · rw [readback_caps x hne, hcaps]; rfl

/-! ### non-vacuity for the front-end: a set-uid executable (mtime 2017), options chains with flags / owner / explicit
mode / capabilities / verify flags, a duplicate destination (the first call's entry stays), a FIFO source -/
def srcA : SrcFile := ⟨[1, 2, 3], 0o104755, ⟨1500000000, 5, by decide⟩⟩
def srcFifo : SrcFile := ⟨[7], 0o010644, ⟨0, 0, by decide⟩⟩
/-- `FileOptions::new("/u/x").is_config_noreplace().user("u").is_doc()` -/
def callA : Call := ⟨.readable srcA, [47, 117, 47, 120], [.flag 2, .user [117], .flag 0]⟩
/-- `FileOptions::new("./a").mode(0o100644).group("g").caps("=p")?.verify(3)` -/
def callB : Call := ⟨.readable srcA, [46, 47, 97], [.mode (fromI32 0o100644), .group [103], .caps [61, 112], .verify 3]⟩
def entryA : FileE := ⟨[46, 47, 117, 47, 120], [47, 117, 47], [120], 3, 0o104755, [117], sRoot, [], 19, none, FileVerifyFlags.all, 1500000000, sha64⟩
def entryB : FileE := ⟨[46, 47, 97], [47], [97], 3, 0o100644, sRoot, [103], [], 0, some [61, 112], 3, 1500000000, sha64⟩

example : runCall (fun _ => sha64) (fun _ => true) callA = .ok entryA := rfl
example : runCall (fun _ => sha64) (fun _ => true) callB = .ok entryB := rfl
/-- the state: `BTreeMap` order ("./a" before "./u/x"), the second `callA` does not replace the first -/
theorem demo_state : buildState (fun _ => sha64) (fun _ => true) [callA, callB, { callA with setters := [] }] BState.empty =
    .ok ⟨[entryB, entryA], [[47], [47, 117, 47]]⟩ := rfl
/-- `with_file_inherit_mode` at the sample: 0o104755 (set-uid kept) -/
example : entryA.mode = srcA.stMode % 65536 :=
  with_file_inherit_mode (c := callA) rfl (by decide) (show runCall (fun _ => sha64) (fun _ => true) callA = .ok entryA by decide)
example : entryA.mode = 0o100000 ||| 0o4755 ∧ fromU16 entryA.mode = .regular 0o4755 :=
  with_file_inherit_regular (c := callA) 0o4755 (by decide) (by decide) rfl (by decide)
    (show runCall (fun _ => sha64) (fun _ => true) callA = .ok entryA by decide)
/-- `explicit_mode_wins` at the sample: the set-uid source is stored as 0o100644 -/
example : entryB.mode = rawMode (fromI32 0o100644) :=
  explicit_mode_wins (c := callB) [] [.group [103], .caps [61, 112], .verify 3] _ rfl (by decide)
    (show runCall (fun _ => sha64) (fun _ => true) callB = .ok entryB by decide)
/-- `mode_header_eq_cpio` at the words of the seeded change C09-7 and its neighbours -/
example : headerModeWord (fromI32 0o271664) = 0o071664 ∧ cpioModeWord (fromI32 0o271664) = 0o071664 ∧
    headerModeWord (fromI32 2147483647) = 65535 ∧ headerModeWord (fromI32 (-1)) = 65535 ∧ headerModeWord (fromI32 (-32769)) = 32767 ∧
    headerModeWord (fromI32 (65536 + 0o100644)) = 0o100644 ∧ fromI32 0o271664 = .invalid 0o271664 := by decide
/-- a FIFO source is read and stored with the FIFO's own mode word 0o010644 (not a type `FileMode` knows) -/
example : (withFile (fun _ => sha64) (.readable srcFifo) (FileOpts.new [47, 97])).toOption.map (·.mode) = some 0o010644 := by decide
-- `with_file_readback` / `readback_flags_of_setters` at the sample configuration
def demoCtx : Ctx := ⟨{ sampleCfg with files := [entryB, entryA], directories := [[47], [47, 117, 47]] }, 1700000000, [97], [98]⟩
example : getU16Array (hdrOf demoCtx) IndexTag.RPMTAG_FILEMODES = .ok [0o100644, 0o104755] :=
  (with_file_readback demoCtx _ _ _ _ demo_state rfl rfl rfl).1
example : getU32Array (hdrOf demoCtx) IndexTag.RPMTAG_FILEFLAGS = .ok [0, FileOptionsSpec.RPMFILE_CONFIG ||| FileOptionsSpec.RPMFILE_NOREPLACE ||| FileOptionsSpec.RPMFILE_DOC] :=
  (readback_flags_of_setters demoCtx _ _ _ _ demo_state rfl rfl).1
example : settersFlags 0 callA.setters = 19 ∧ settersFlags 0 callB.setters = 0 := by decide
-- `defaults_readback` at a sample: a single bare `FileOptions::new("/a")` call
def entryC : FileE := ⟨[46, 47, 97], [47], [97], 3, 0o104755, sRoot, sRoot, [], 0, none, FileVerifyFlags.all, 1500000000, sha64⟩
theorem demo_state_bare : buildState (fun _ => sha64) (fun _ => true) [⟨.readable srcA, [47, 97], []⟩] BState.empty =
    .ok ⟨[entryC], [[47]]⟩ := rfl
def demoCtxBare : Ctx := ⟨{ sampleCfg with files := [entryC], directories := [[47]] }, 1700000000, [97], [98]⟩
example : ∃ f, Source.readable srcA = .readable f ∧
    getStringArray (hdrOf demoCtxBare) IndexTag.RPMTAG_FILEUSERNAME = .ok [FileOptionsSpec.root] ∧
    getStringArray (hdrOf demoCtxBare) IndexTag.RPMTAG_FILEGROUPNAME = .ok [FileOptionsSpec.root] ∧
    getU32Array (hdrOf demoCtxBare) IndexTag.RPMTAG_FILEFLAGS = .ok [0] ∧
    getStringArray (hdrOf demoCtxBare) IndexTag.RPMTAG_FILELINKTOS = .ok [[]] ∧
    getU32Array (hdrOf demoCtxBare) IndexTag.RPMTAG_FILEVERIFYFLAGS = .ok [FileVerifyFlags.all] ∧
    getU16Array (hdrOf demoCtxBare) IndexTag.RPMTAG_FILEMODES = .ok [f.stMode % 65536] ∧
    getU32Array (hdrOf demoCtxBare) IndexTag.RPMTAG_FILEMTIMES = .ok [clampMtime demoCtxBare.c.sourceDate f.mtime.secs.toNat] ∧
    getStringArray (hdrOf demoCtxBare) IndexTag.RPMTAG_FILECAPS = .err "notfound" :=
  defaults_readback demoCtxBare _ _ _ _ _ demo_state_bare rfl

/-! ## the builder state as a function of the CALLS (audit items a6 / c18), and `Valid` from the inputs (a4 / c17)

`Bld.Cfg.new` / `Bld.MetaSetter.apply` (Model/Builder.lean) are `PackageBuilder::new` and the setters of `impl PackageBuilder`;
`Build.run` (Model/PrepareData.lean) interleaves them with `with_file`. The `readback_*` theorems above speak about the builder
STATE; the theorems here tie the state to the calls, so that "every value supplied to the builder" means the arguments. -/
section calls
open RpmVerif.Build

/-- **the table scraped from `impl PackageBuilder` is what the model implements**: same setters, same order, each writing the
same field in the same way (assign / `Some(..)` / `push`); a setter that is added, renamed or re-pointed breaks this theorem -/
theorem builder_setters_standard : Gen.builderSetters = modelledSetterRows := rfl

/-- … and `PackageBuilder::new` stores its five arguments, `release = "1"`, `epoch = 0`, everything else `Default::default()`;
the `Scriptlet` constructors have the shape the model gives them -/
theorem builder_new_standard : Gen.builderNewArgs = ["name", "version", "license", "arch", "summary"] ∧
    Gen.builderNewArgsAssigned = true ∧ Gen.builderNewRestDefault = true ∧ Gen.builderNewOtherLiterals = [] ∧
    Gen.scriptletCtorsStandard = true ∧ Gen.builderNewRelease = [49] ∧ Gen.builderNewEpoch = 0 := by decide

/-- **`Option<String>` setters: the argument of the last call is what the state holds** -/
theorem opt_setters_last_call_wins : ∀ p ∈ optStrSetters, ∀ (c : Cfg) (pre post : List MetaSetter) (x : Bytes),
    (∀ t ∈ post, ∀ y, t ≠ p.1 y) → p.2 (c.applyAll (pre ++ p.1 x :: post)) = some x := opt_setter_last_wins

/-- a setter that is never called leaves its field as it was (`None` after `new`) -/
theorem opt_setters_never_called : ∀ p ∈ optStrSetters, ∀ (c : Cfg) (ss : List MetaSetter),
    (∀ t ∈ ss, ∀ y, t ≠ p.1 y) → p.2 (c.applyAll ss) = p.2 c := opt_setter_never

/-- **scriptlet setters: the last call wins** (`k` = position in `Bld.scriptSetterNames`) -/
theorem script_setters_last_call_wins {k : Nat} {π : Cfg → Option Bld.Scriptlet} (hk : scriptFields[k]? = some π) (c : Cfg)
    (pre post : List MetaSetter) (s : Bld.Scriptlet) (h : ∀ t ∈ post, ∀ s', t ≠ .script k s') :
    π (c.applyAll (pre ++ .script k s :: post)) = some s := script_setter_last_wins hk c pre post s h

/-- **dependency setters accumulate in call order** (`k` = position in `Bld.depSetterNames`) -/
theorem dep_setters_accumulate_in_order {k : Nat} {π : Cfg → List Dep} (hk : depFields[k]? = some π) (c : Cfg)
    (ss : List MetaSetter) : π (c.applyAll ss) = π c ++ depCalls k ss := dep_setters_accumulate hk c ss

theorem changelog_accumulates_in_order (c : Cfg) (ss : List MetaSetter) :
    (c.applyAll ss).changelog = c.changelog ++ ss.filterMap (fun | .changelog n e t => some (n, e, t) | _ => none) :=
  changelog_accumulates c ss

/-- `epoch`, `release`, `source_date`, `compression`: the last call wins -/
theorem plain_setters_last_call_wins (c : Cfg) (pre post : List MetaSetter) :
    (∀ n, (∀ t ∈ post, ∀ m, t ≠ .epoch m) → (c.applyAll (pre ++ .epoch n :: post)).epoch = n) ∧
    (∀ x, (∀ t ∈ post, ∀ y, t ≠ .release y) → (c.applyAll (pre ++ .release x :: post)).release = x) ∧
    (∀ n, (∀ t ∈ post, ∀ m, t ≠ .sourceDate m) → (c.applyAll (pre ++ .sourceDate n :: post)).sourceDate = some n) ∧
    (∀ k, (∀ t ∈ post, ∀ m, t ≠ .compression m) → (c.applyAll (pre ++ .compression k :: post)).compression = k) :=
  plain_setters_last_wins c pre post

/-- no setter touches the five arguments of `new`, the files, the directories, the large-file limit -/
theorem setters_keep_new_args (c : Cfg) (ss : List MetaSetter) :
    (c.applyAll ss).name = c.name ∧ (c.applyAll ss).version = c.version ∧ (c.applyAll ss).license = c.license ∧
    (c.applyAll ss).arch = c.arch ∧ (c.applyAll ss).summary = c.summary ∧ (c.applyAll ss).files = c.files ∧
    (c.applyAll ss).directories = c.directories ∧ (c.applyAll ss).largeFileThreshold = c.largeFileThreshold :=
  new_args_kept c ss

/-- **the state after a call sequence that interleaves setters and `with_file`**: the metadata part is `Cfg.applyAll` of the
setter calls, the file part `WithFile.buildState` of the `with_file` calls -/
theorem state_of_calls {sha256hex : Bytes → Bytes} {valid : Bytes → Bool} {calls : List Build.Call} {s s' : St}
    (h : run sha256hex valid calls s = .ok s') :
    s'.base = s.base.applyAll (calls.filterMap metaOf) ∧
    WithFile.buildState sha256hex valid (calls.filterMap fileOf) ⟨s.fes.map (·.1), s.dirs⟩ = .ok ⟨s'.fes.map (·.1), s'.dirs⟩ :=
  ⟨run_base h, run_files h⟩

/-- **`url(u)` … read back**: whatever else is called before, and whatever OTHER setters after, `get_url` of the built header
returns the argument of the last `url` call -/
theorem url_of_calls (c : Cfg) (pre post : List MetaSetter) (u : Bytes) (h : ∀ t ∈ post, ∀ y, t ≠ .url y)
    (bt : Nat) (p a : Bytes) :
    getString (hdrOf ⟨c.applyAll (pre ++ .url u :: post), bt, p, a⟩) IndexTag.RPMTAG_URL = .ok u := by
  have := opt_setter_last_wins (.url, (·.url)) (by simp [optStrSetters]) c pre post u h
  simp only at this
  rw [readback_url, this]

/-- **a fresh builder reads back the defaults of `new`**: release "1", epoch 0, no optional tag -/
theorem new_defaults_readback (name version license arch summary : Bytes) (dc : Bld.Comp) (bt : Nat) (p a : Bytes) :
    let x : Ctx := ⟨Cfg.new name version license arch summary dc, bt, p, a⟩
    getString (hdrOf x) IndexTag.RPMTAG_RELEASE = .ok [49] ∧ getU32 (hdrOf x) IndexTag.RPMTAG_EPOCH = .ok 0 ∧
    getString (hdrOf x) IndexTag.RPMTAG_NAME = .ok name ∧ getString (hdrOf x) IndexTag.RPMTAG_URL = .err "notfound" ∧
    getString (hdrOf x) IndexTag.RPMTAG_VENDOR = .err "notfound" ∧ getString (hdrOf x) IndexTag.RPMTAG_BUILDHOST = .err "notfound" := by
  intro x
  exact ⟨readback_release x, readback_epoch x, readback_name x, readback_url x, readback_vendor x, readback_buildhost x⟩

/-- **`provides(d)` calls read back in call order**, followed by the two the library adds -/
theorem provides_of_calls (c : Cfg) (ss : List MetaSetter) (bt : Nat) (p a : Bytes) :
    getDependencies (hdrOf (Ctx.mk (c.applyAll ss) bt p a)) IndexTag.RPMTAG_PROVIDENAME IndexTag.RPMTAG_PROVIDEFLAGS IndexTag.RPMTAG_PROVIDEVERSION =
      .ok ((allProvides (c.applyAll ss)).map Dep.toAcc) ∧
    (c.applyAll ss).provides = c.provides ++ depCalls 0 ss :=
  ⟨(readback_provides (Ctx.mk (c.applyAll ss) bt p a)).1, dep_setters_accumulate (k := 0) (π := (·.provides)) rfl c ss⟩

/-- **`Valid` from the builder state**: NUL-free Rust strings, numbers of the width of their Rust types, a clamped build time
and hex digests, and `102 * (2 * weight + 1008 + |digests|) + 16 < 2^31` — with `cfgWeight` the total length of the strings the
state holds plus a constant per file / dependency / changelog entry — give a header `from_entries` lays out canonically below
2 GiB. (102 = number of slots; every single record is at most `slotBound x` long, `Bld.slots_ok`.) -/
theorem valid_of_cfg (x : Ctx) (ok : CfgOk x.c) (hbt : x.bt < 4294967296) (hp : RustStr x.payloadShaHex)
    (ha : RustStr x.archiveShaHex) (hsize : 102 * (slotBound x + 8) + 16 < 2147483648) : Valid x :=
  recsOk_of_cfg ok hbt hp ha (by omega) hsize

/-- **`Valid` from the inputs of the builder** (audit items c17 / a4): `PackageBuilder::new` and ANY sequence of setter and
`with_file` calls whose string arguments are NUL-free (they are valid UTF-8 by their Rust type: `RustStr`) and whose numbers
have the width of their Rust type (`Call.ArgsOk`) — whatever the source files are, whatever `SystemTime` / `DateTime` values
are passed (those calls store a `u32` or do not return) — leave a state whose header is `Valid`, for every clock reading that
is a `u32` and the digests `hex::encode(Sha256(..))` of any payload / archive, as long as the strings held are not too long
(`cfgWeight` of the state below 10.5 MB: the round number for which `102 * (slotBound + 8) + 16` stays below 2^31 with two
64-character digests) and the contents sum below 2^64 bytes. -/
theorem valid_of_inputs (sha256 : Bytes → Bytes) (valid : Bytes → Bool) (name version license arch summary : Bytes)
    (dc : Bld.Comp) (calls : List Build.Call) (s : St)
    (hnew : RustStr name ∧ RustStr version ∧ RustStr license ∧ RustStr arch ∧ RustStr summary)
    (hcalls : ∀ c ∈ calls, c.ArgsOk)
    (hrun : run (Sign.shaHex sha256) valid calls (St.new name version license arch summary dc) = .ok s)
    (now : Nat) (hnow : now < 4294967296) (payload archive : Bytes) (hdig : ∀ b, (sha256 b).length ≤ 32)
    (hmem : (s.fes.map (·.2.length)).sum < 18446744073709551616)
    (hsize : cfgWeight s.cfg < 10500000) :
    Valid (mkCtx s.cfg now (Sign.shaHex sha256 payload) (Sign.shaHex sha256 archive)) := by
  have hsha : ∀ b, RustStr (Sign.shaHex sha256 b) := fun b => rustStr_ascii _ (Sign.hexLower_ascii _)
  have hlen : ∀ b, (Sign.shaHex sha256 b).length = 2 * (sha256 b).length := fun b => Build.hexLower_length _
  obtain ⟨h1, h2, h3, h4, h5⟩ := hnew
  have stok : StOk s := StOk.run (stOk_new dc h1 h2 h3 h4 h5) hsha hcalls hrun
  obtain ⟨inv, _⟩ := (inv_new name version license arch summary dc).run hrun
  have htot : combinedSize s.cfg < 18446744073709551616 := inv.combinedSize_eq ▸ hmem
  have ok := stok.cfgOk htot
  refine valid_of_cfg _ ok (clampMtime_lt ok.sourceDate hnow) (hsha payload) (hsha archive) ?_
  have e1 := hlen payload; have e2 := hlen archive
  have d1 := hdig payload; have d2 := hdig archive
  show 102 * (2 * cfgWeight s.cfg + (Sign.shaHex sha256 payload).length + (Sign.shaHex sha256 archive).length + 1000 + 8) + 16
    < 2147483648
  omega

/-- **`Valid` from the arguments alone** (the header-size bound in INPUT lengths): as `valid_of_inputs`, with the weight of the
state replaced by what the caller wrote — the five strings of `new` and, per call, `Call.weight`: the strings of a metadata
setter (+ 4 per dependency / changelog entry), for `with_file` twice the destination, the option strings and 128 — summing below
10.5 MB. (A value that a later call overwrites still counts: the bound is on the calls, not on the state.) -/
theorem valid_of_args (sha256 : Bytes → Bytes) (valid : Bytes → Bool) (name version license arch summary : Bytes)
    (dc : Bld.Comp) (calls : List Build.Call) (s : St)
    (hnew : RustStr name ∧ RustStr version ∧ RustStr license ∧ RustStr arch ∧ RustStr summary)
    (hcalls : ∀ c ∈ calls, c.ArgsOk)
    (hrun : run (Sign.shaHex sha256) valid calls (St.new name version license arch summary dc) = .ok s)
    (now : Nat) (hnow : now < 4294967296) (payload archive : Bytes) (hdig : ∀ b, (sha256 b).length ≤ 32)
    (hmem : (s.fes.map (·.2.length)).sum < 18446744073709551616)
    (hsize : strW name + strW version + strW license + strW arch + strW summary + 2 + (calls.map Build.Call.weight).sum < 10500000) :
    Valid (mkCtx s.cfg now (Sign.shaHex sha256 payload) (Sign.shaHex sha256 archive)) := by
  refine valid_of_inputs sha256 valid name version license arch summary dc calls s hnew hcalls hrun now hnow payload archive hdig hmem ?_
  have hsha : ∀ b, (Sign.shaHex sha256 b).length ≤ 64 := fun b => by
    have := Build.hexLower_length (sha256 b); have := hdig b
    show (Digest.hexLower (sha256 b)).length ≤ 64
    omega
  have hw := run_weight hsha hrun
  obtain ⟨hf, hd⟩ := run_base_nofiles hrun
  rw [cfgWeight_cfg s (by rw [hf]; rfl) (by rw [hd]; rfl)]
  rw [stWeight_new] at hw
  omega

section
open RpmVerif.Utf8

/-- "ü" (two bytes) and "日" (three bytes) are Rust strings; a string with a NUL is not -/
theorem rustStr_samples : RustStr [195, 188] ∧ RustStr [230, 151, 165, 47, 102] ∧ ¬ RustStr [97, 0, 98] := by
  refine ⟨⟨by decide, Valid.cons (c := [195, 188]) ⟨by decide, by decide⟩ .nil⟩,
    ⟨by decide, Valid.cons (c := [230, 151, 165]) ⟨by decide, by decide, by decide⟩ (valid_ascii [47, 102] (by decide))⟩, fun h => h.1 (by decide)⟩

/-- calls of every kind with non-ASCII arguments: a repeated setter, a typed source date, scriptlets, dependencies, two files -/
def inputCalls : List Build.Call :=
  [.set (.url [195, 188]), .set (.url [104]), .set (.epoch 4294967295), .sourceDate (.src (.sys ⟨1600000000, 5, by decide⟩)),
   .set (.script 0 (Bld.Scriptlet.new [195, 188])), .set (.dep 1 ⟨[119], 8, [49]⟩), .set (.changelog [109] [195, 188] 7),
   .file ⟨.readable ⟨[1, 2, 3], 0o104755, ⟨1500000000, 0, by decide⟩⟩, [47, 195, 188, 47, 102], [.user [195, 188], .flag 0]⟩,
   .file ⟨.readable ⟨[], 0o100644, ⟨0, 0, by decide⟩⟩, [46, 47, 97], []⟩]

-- the hypotheses of `valid_of_inputs` hold for them: the arguments …
example : ∀ c ∈ inputCalls, c.ArgsOk := by
  have hu := rustStr_samples.1
  intro c hc
  simp only [inputCalls, List.mem_cons, List.not_mem_nil, or_false] at hc
  rcases hc with rfl | rfl | rfl | rfl | rfl | rfl | rfl | rfl | rfl
  · exact hu
  · exact rustStr_ascii [104] (by decide)
  · show (4294967295 : Nat) < 4294967296; decide
  · trivial
  · exact ⟨hu, (fun _ h => nomatch h), (fun _ h => nomatch h)⟩
  · exact ⟨rustStr_ascii [119] (by decide), rustStr_ascii [49] (by decide), by decide⟩
  · exact ⟨rustStr_ascii [109] (by decide), hu, by decide⟩
  · refine ⟨⟨by decide, Valid.cons (c := [47]) (show (47 : UInt8) < 0x80 by decide) (Valid.cons (c := [195, 188]) ⟨by decide, by decide⟩ (valid_ascii [47, 102] (by decide)))⟩, ?_⟩
    intro st hst
    simp only [List.mem_cons, List.not_mem_nil, or_false] at hst
    rcases hst with rfl | rfl
    · exact hu
    · trivial
  · exact ⟨rustStr_ascii [46, 47, 97] (by decide), fun _ h => nomatch h⟩
-- … the call sequence succeeds, its contents are small and so is its weight
example : ((run (Sign.shaHex (fun _ => List.replicate 32 7)) (fun _ => true) inputCalls (St.new [195, 188] [49] [77] [120] [115] .none)).toOption.map
    fun s => (decide ((s.fes.map (·.2.length)).sum < 18446744073709551616), decide (cfgWeight s.cfg < 10500000), s.fes.length, s.dirs)) =
    some (true, true, 2, [[47], [47, 195, 188, 47]]) := rfl
-- … and so is what the caller wrote (`valid_of_args`)
example : strW [195, 188] + strW [49] + strW [77] + strW [120] + strW [115] + 2 + (inputCalls.map Build.Call.weight).sum < 10500000 := by decide +kernel
-- the NUL condition is needed: a name with a NUL gives a record that does not survive encode → decode
example : ¬ Valid ⟨Cfg.new [97, 0, 98] [49] [] [] [] .none, 0, [], []⟩ := fun v => by
  have : ¬ ∀ r ∈ recordsOf ⟨Cfg.new [97, 0, 98] [49] [] [] [] .none, 0, [], []⟩, r.2.Canon := by decide +kernel
  exact this v.canon
-- the setter theorems on a concrete chain: the second `url` wins, the dependency lists keep call order
example : ((Cfg.new [112] [49] [] [] [] .none).applyAll [.url [97], .dep 1 ⟨[120], 0, []⟩, .url [98], .dep 1 ⟨[121], 0, []⟩, .release [50]]).url = some [98] ∧
    ((Cfg.new [112] [49] [] [] [] .none).applyAll [.url [97], .dep 1 ⟨[120], 0, []⟩, .url [98], .dep 1 ⟨[121], 0, []⟩, .release [50]]).requires =
      [⟨[120], 0, []⟩, ⟨[121], 0, []⟩] ∧
    ((Cfg.new [112] [49] [] [] [] .none).applyAll [.url [97], .release [50]]).release = [50] ∧
    (Cfg.new [112] [49] [] [] [] .none).release = [49] := ⟨rfl, rfl, rfl, rfl⟩
end

end calls

end RpmVerif.C06
