import RpmVerif.Props.C05
import RpmVerif.Model.PgpFraming
import RpmVerif.Lemmas.PgpParse
import RpmVerif.Lemmas.Alloc
/-!
# C04 — untrusted bytes never crash the reader

`Out` has an explicit `panic` outcome for every partial operation of the Rust code (slice out of
range, `unwrap`, `unreachable!`, overflow under checks). After the `fix:` commits in /repo the model
of the read side contains exactly one such site (`Lead::parse`'s `try_into().unwrap()`), and the
theorems show it — and the `unreachable!()` arms of the accessors — can never be reached, for EVERY
byte string. Memory: every accepted entry's item count is bounded by the store length, the store and
index by the input length (`read_to_end` grows with the bytes present, `reserve_exact` is capped).
Panics inside dependencies (pgp packet parser, decompressors) are outside the model; the harness
exercises them. What the `pgp` crate's parser is handed, though, is in the model (Model/PgpFraming.lean): the last third
of the file shows that `split_packets` gives it only slices of the signature blob whose declared length is their real one.
-/
namespace RpmVerif.C04
open RpmVerif.Hdr RpmVerif.Acc RpmVerif.Gen

/-! Panic-freedom is compositional: a `do` block is followed bind by bind (`Out.bind_not_panic`; `Out.bind_pair_not_panic`
where the left side returns a value and the rest of the input), an `if` by `Out.ite_not_panic`, a mapped result by `Out.map_not_panic`;
only a `match` needs a case split. -/

theorem takeN_total (n : Nat) (bs : Bytes) : (takeN n bs).isPanic = false := by
  unfold takeN; split <;> rfl
theorem rd8_total (bs : Bytes) : (rd8 bs).isPanic = false := by unfold rd8; split <;> rfl
theorem rd16_total (bs : Bytes) : (rd16 bs).isPanic = false := by unfold rd16; split <;> rfl
theorem rd32_total (bs : Bytes) : (rd32 bs).isPanic = false := rd32_not_panic bs
theorem rd64_total (bs : Bytes) : (rd64 bs).isPanic = false := by
  unfold rd64
  refine Out.bind_not_panic (rd32_total _) (fun a _ => Out.bind_not_panic (rd32_total _) (fun b _ => rfl))

theorem rdBin_total (c : Nat) (bs : Bytes) : (rdBin c bs).isPanic = false := by unfold rdBin; split <;> rfl
/-- the loop shared by `rdN16` / `rdN32` / `rdN64` (stated as in `Hdr.rdMany_ok`), for a panic-free item reader -/
theorem rdMany_total {rd : Bytes → Out (Nat × Bytes)} {f : Nat → Bytes → Out (List Nat)}
    (h0 : ∀ bs, f 0 bs = pure [])
    (hs : ∀ k bs, f (k + 1) bs = do let (x, bs) ← rd bs; let xs ← f k bs; pure (x :: xs))
    (hrd : ∀ bs, (rd bs).isPanic = false) (k : Nat) (bs : Bytes) : (f k bs).isPanic = false := by
  induction k generalizing bs with
  | zero => rw [h0]; rfl
  | succ k ih =>
    rw [hs]
    exact Out.bind_pair_not_panic (hrd _) fun _ _ _ => Out.bind_not_panic (ih _) fun _ _ => rfl
theorem rdN16_total (k : Nat) (bs : Bytes) : (rdN16 k bs).isPanic = false :=
  rdMany_total (fun _ => rfl) (fun _ _ => rfl) rd16_total k bs
theorem rdN32_total (k : Nat) (bs : Bytes) : (rdN32 k bs).isPanic = false :=
  rdMany_total (fun _ => rfl) (fun _ _ => rfl) rd32_total k bs
theorem rdN64_total (k : Nat) (bs : Bytes) : (rdN64 k bs).isPanic = false :=
  rdMany_total (fun _ => rfl) (fun _ _ => rfl) rd64_total k bs
theorem rdStrings_total (k : Nat) (bs : Bytes) : (rdStrings k bs).isPanic = false := by
  induction k generalizing bs with
  | zero => rfl
  | succ k ih =>
    simp only [rdStrings]
    split
    · rfl
    · exact Out.bind_not_panic (ih _) (fun _ _ => rfl)

/-- decoding an entry never panics: offsets outside the store, negative offsets, unterminated strings,
short arrays are all errors -/
theorem decode_total (store : Bytes) (ty off cnt : Nat) : (decode store ty off cnt).isPanic = false := by
  unfold decode
  refine Out.ite_not_panic (fun _ => rfl) fun _ => ?_
  split
  · rfl
  · exact Out.map_not_panic (rdBin_total _ _)
  · exact Out.map_not_panic (rdBin_total _ _)
  · exact Out.map_not_panic (rdN16_total _ _)
  · exact Out.map_not_panic (rdN32_total _ _)
  · exact Out.map_not_panic (rdN64_total _ _)
  · rfl
  · exact Out.map_not_panic (rdBin_total _ _)
  · exact Out.map_not_panic (rdStrings_total _ _)
  · exact Out.map_not_panic (rdStrings_total _ _)
  · rfl

theorem decodeAllB_total (store : Bytes) (budget : Nat) (raws : List (Nat × Nat × Nat × Nat)) :
    (decodeAllB store budget raws).isPanic = false := by
  induction raws generalizing budget with
  | nil => rfl
  | cons r rs ih =>
    obtain ⟨tag, ty, off, cnt⟩ := r
    exact Out.bind_not_panic (decode_total _ _ _ _) fun d _ =>
      Out.ite_not_panic (fun _ => rfl) fun _ => Out.bind_not_panic (ih _) fun _ _ => rfl

/-- the second loop of `parse_header`, budget check (`checked_sub`) included, never panics -/
theorem decodeAll_total (store : Bytes) (raws : List (Nat × Nat × Nat × Nat)) : (decodeAll store raws).isPanic = false :=
  decodeAllB_total store store.length raws

theorem parseEntryRaw_total (bs : Bytes) : (parseEntryRaw bs).isPanic = false := by
  unfold parseEntryRaw
  refine Out.bind_pair_not_panic (rd32_total _) fun _ _ _ => Out.bind_pair_not_panic (rd32_total _) fun _ _ _ => ?_
  exact Out.ite_not_panic (fun _ => rfl) fun _ =>
    Out.bind_not_panic (rd32_total _) fun _ _ => Out.bind_not_panic (rd32_total _) fun _ _ => rfl

theorem parseEntriesRaw_total (k : Nat) (bs : Bytes) : (parseEntriesRaw k bs).isPanic = false := by
  induction k generalizing bs with
  | zero => rfl
  | succ k ih => exact Out.bind_not_panic (parseEntryRaw_total _) (fun a _ => Out.bind_not_panic (ih _) (fun _ _ => rfl))

theorem parseIntro_total (b : Bytes) : (parseIntro b).isPanic = false := by
  unfold parseIntro
  split
  · exact Out.ite_not_panic (fun _ => rfl) fun _ => Out.ite_not_panic (fun _ => rfl) fun _ =>
      Out.bind_not_panic (rd32_total _) fun _ _ => Out.bind_not_panic (rd32_total _) fun _ _ => rfl
  · rfl

theorem parseHeader_total (bs : Bytes) : (parseHeader bs).isPanic = false := by
  unfold parseHeader
  refine Out.bind_not_panic (takeN_total _ _) (fun a _ => Out.bind_not_panic (parseIntro_total _) (fun b _ =>
    Out.bind_not_panic (takeN_total _ _) (fun c _ => Out.bind_not_panic (parseEntriesRaw_total _ _) (fun d _ =>
      Out.bind_not_panic (decodeAll_total _ _) (fun _ _ => rfl)))))

theorem parseSignature_total (bs : Bytes) : (parseSignature bs).isPanic = false := by
  unfold parseSignature
  exact Out.bind_not_panic (parseHeader_total _) (fun a _ => Out.bind_not_panic (takeN_total _ _) (fun _ _ => rfl))

/-- the one `unwrap` of the read side (`rest.try_into().unwrap()` in `Lead::parse`) is safe: the
buffer handed over is always exactly 96 bytes, and the fields read before it take 80 of them -/
theorem parseLead_total {b : Bytes} (hb : b.length = 96) : (parseLead b).isPanic = false := by
  unfold parseLead
  refine Out.bind_pair_not_panic (takeN_total _ _) fun _ _ h0 => ?_
  refine Out.ite_not_panic (fun _ => rfl) fun _ => ?_
  refine Out.bind_pair_not_panic (rd8_total _) fun _ _ h1 => ?_
  refine Out.bind_pair_not_panic (rd8_total _) fun _ _ h2 => ?_
  refine Out.bind_pair_not_panic (rd16_total _) fun _ _ h3 => ?_
  refine Out.bind_pair_not_panic (rd16_total _) fun _ _ h4 => ?_
  refine Out.bind_pair_not_panic (takeN_total _ _) fun _ _ h5 => ?_
  refine Out.bind_pair_not_panic (rd16_total _) fun _ _ h6 => ?_
  refine Out.bind_pair_not_panic (rd16_total _) fun _ _ h7 => ?_
  refine Out.ite_not_panic (fun hne => ?_) fun _ => rfl
  have := takeN_length h0; have := rd8_length h1; have := rd8_length h2; have := rd16_length h3
  have := rd16_length h4; have := takeN_length h5; have := rd16_length h6; have := rd16_length h7
  omega

theorem parseMetadata_total (bs : Bytes) : (parseMetadata bs).isPanic = false := by
  unfold parseMetadata
  refine Out.bind_not_panic (takeN_total _ _) (fun ⟨lb, r⟩ h0 => ?_)
  have hl : lb.length = 96 := (takeN_ok h0).2
  exact Out.bind_not_panic (parseLead_total hl) (fun _ _ => Out.bind_not_panic (parseSignature_total _) (fun _ _ =>
    Out.bind_not_panic (parseHeader_total _) (fun _ _ => rfl)))

theorem parsePackage_total (bs : Bytes) : (parsePackage bs).isPanic = false := by
  unfold parsePackage
  exact Out.bind_not_panic (parseMetadata_total _) (fun _ _ => rfl)

/-- an accepted entry never claims more items than its store has bytes (NULL entries carry no data,
STRING entries ignore their count): loops and allocations driven by `count` are proportional to the input -/
theorem accepted_count_bounded {store ty off cnt d} (h : decode store ty off cnt = .ok d) :
    d.numItems ≤ store.length + 1 ∧ (ty ≠ 0 → ty ≠ 6 → cnt ≤ store.length) := by
  obtain ⟨hu, -, hn, hc⟩ := stores_charged (decode_stores h)
  rw [decode_typeCode h] at hc
  exact ⟨by omega, fun h0 h6 => by have := hc h0 h6; omega⟩

theorem accepted_sizes_bounded {bs h rest} (hp : parseHeader bs = .ok (h, rest)) :
    16 + 16 * h.nEntries + h.dataSize + rest.length = bs.length := by
  obtain ⟨res, hr, e, wf⟩ := parseHeader_ok hp
  rw [e, List.length_append, hdrBytes_size hr wf.nEq wf.dlEq, Header.size, ihs, ies]
  omega

theorem optStrings_total {r : Out (List Bytes)} (h : r.isPanic = false) : (optStrings r).isPanic = false := by
  unfold optStrings
  split
  · rfl
  · rfl
  · rfl
  · cases h

theorem fileDigestNew_total (a : Nat) (hex : Bytes) (tbl : List (Nat × Nat)) : (fileDigestNew a hex tbl).isPanic = false :=
  Out.ite_not_panic (fun _ => rfl) fun _ => rfl

theorem digestOf_total (a : Nat) (d : Bytes) (tbl : List (Nat × Nat)) : (digestOf a d tbl).isPanic = false :=
  Out.ite_not_panic (fun _ => rfl) fun _ => Out.map_not_panic (fileDigestNew_total _ _ _)

theorem buildEntries_total (algo : Nat) (caps ima : Option (List Bytes)) (tbl : List (Nat × Nat)) (idx : Nat)
    (ps us gs : List Bytes) (ms : List Nat) (ds : List Bytes) (ts ss fs : List Nat) (ls : List Bytes) :
    (buildEntries algo caps ima tbl idx ps us gs ms ds ts ss fs ls).isPanic = false := by
  fun_induction buildEntries algo caps ima tbl idx ps us gs ms ds ts ss fs ls with
  | case1 idx p ps u us g gs m ms d ds t ts s ss f fs l ls ih =>
    exact Out.bind_not_panic (digestOf_total _ _ _) fun _ _ => Out.bind_not_panic ih fun _ _ => rfl
  | case2 => rfl

/-- `get_file_entries` never panics: its `unreachable!()` arm is dead code -/
theorem getFileEntries_total (sig h : Header) (tbl : List (Nat × Nat) := Gen.fileDigestHexLen) :
    (getFileEntries sig h tbl).isPanic = false := by
  have c1 : (optStrings (getStringArray h IndexTag.RPMTAG_FILECAPS)).isPanic = false :=
    optStrings_total (getWith_not_panic _ _ _)
  have c2 : (optStrings (getStringArray sig SigTag.RPMSIGTAG_FILESIGNATURES)).isPanic = false :=
    optStrings_total (getWith_not_panic _ _ _)
  fun_cases getFileEntries sig h tbl with
  | case1 | case2 | case4 => rfl
  | case3 modes hnf s hs => rw [hs] at c1; cases c1
  | case5 modes hnf caps hcaps s hs => rw [hs] at c2; cases c2
  | case6 => exact Out.bind_not_panic (C05.getFilePaths_total h) (fun _ _ => buildEntries_total _ _ _ _ _ _ _ _ _ _ _ _ _ _)
  | case7 modes hnf users groups digests mtimes sizes flags caps hcaps links ima hima hne =>
    -- the arm behind `unreachable!()`: one of the eight reads is not `Ok`, and none of them panics
    have hs : sizes.isPanic = false := by
      simp only [sizes]
      split
      · rfl
      · exact getWith_not_panic _ _ _
    refine Out.bind_not_panic (getWith_not_panic _ _ _) fun _ e1 =>
      Out.bind_not_panic (getWith_not_panic _ _ _) fun _ e2 =>
      Out.bind_not_panic (getWith_not_panic _ _ _) fun _ e3 =>
      Out.bind_not_panic (getWith_not_panic _ _ _) fun _ e4 =>
      Out.bind_not_panic (getWith_not_panic _ _ _) fun _ e5 =>
      Out.bind_not_panic hs fun _ e6 =>
      Out.bind_not_panic (getWith_not_panic _ _ _) fun _ e7 =>
      Out.bind_not_panic (getWith_not_panic _ _ _) fun _ e8 => ?_
    exact (hne _ _ _ _ _ _ _ _ e1 e2 e3 e4 e5 e6 e7 e8).elim

theorem getScriptlet_total (h : Header) (t : Nat × Nat × Nat) : (getScriptlet h t).isPanic = false :=
  Out.bind_not_panic (getWith_not_panic _ _ _) (fun _ _ => rfl)

theorem getInstalledSize_total (h : Header) : (getInstalledSize h).isPanic = false := by
  unfold getInstalledSize; split
  · rfl
  · exact getWith_not_panic _ _ _

/-! ### signature blobs: what reaches the OpenPGP parser lies inside the blob

`signature_key_ids()` and the library's own `Verifier::verify` parse attacker-chosen signature blobs with the `pgp`
crate, whose packet parser allocates a packet's DECLARED length before reading it (the code before 549074e: 104 MB
for the 7-byte blob below, up to 4 GiB for six bytes). The packets `split_packets` hands over are a partition of the
blob, so no declared length exceeds the blob — for EVERY blob. -/
section pgp
open RpmVerif.Pgp

theorem split_partition (blob : Bytes) (ps : List Bytes) (h : splitPackets blob = some ps) : ps.flatten = blob :=
  splitAux_flatten _ _ _ h

/-- **each packet's own header declares exactly the packet's length**: the length the parser will allocate for a packet
is the number of bytes the packet really has -/
theorem split_declared (blob : Bytes) (ps : List Bytes) (h : splitPackets blob = some ps) :
    ∀ p ∈ ps, ∃ hl bl, packetLens p = some (hl, bl) ∧ hl + bl = p.length :=
  splitAux_declared _ _ _ h

theorem split_bounded (blob : Bytes) (ps : List Bytes) (h : splitPackets blob = some ps) :
    (∀ p ∈ ps, p.length ≤ blob.length) ∧ (ps.map List.length).sum = blob.length := by
  have hf := split_partition blob ps h
  constructor
  · intro p hp
    rw [← hf, List.length_flatten]
    exact le_sum_of_mem (List.mem_map_of_mem hp)
  · rw [← hf, List.length_flatten]

/-- a declared length that points beyond the blob is refused: new-format five-octet length -/
theorem split_refuses_oversize_new (t a b c d : UInt8) (tail : Bytes) (ht : t.toNat &&& 0x80 ≠ 0) (hn : t.toNat &&& 0x40 ≠ 0)
    (hbig : tail.length + 6 < 6 + (((a.toNat * 256 + b.toNat) * 256 + c.toNat) * 256 + d.toNat)) :
    splitPackets (t :: 255 :: a :: b :: c :: d :: tail) = none := by
  unfold splitPackets
  simp only [splitAux, packetLens, ht, hn, if_false, ne_eq, not_false_eq_true, if_true]
  simp only [if_false, show (255 : UInt8).toNat = 255 from rfl, if_true, List.length_cons,
    show ¬ ((255 : Nat) < 192) from by decide, show ¬ ((255 : Nat) < 224) from by decide]
  show (if _ then _ else none) = none
  rw [if_neg (by omega)]

/-- the witness of the defect: `e6 3b 96 06 32 f2 af` (declares 59 bytes, holds 5; the old code then re-synchronised on
`96 06 32 f2 af` = an old-format packet of 104 002 223 bytes) has no valid framing; a well-formed blob has -/
theorem split_witness :
    splitPackets [0xe6, 0x3b, 0x96, 0x06, 0x32, 0xf2, 0xaf] = none
      ∧ splitPackets [0x96, 0x06, 0x32, 0xf2, 0xaf] = none
      ∧ splitPackets [0x88, 2, 1, 2, 0xc2, 1, 9] = some [[0x88, 2, 1, 2], [0xc2, 1, 9]] := by
  decide +kernel

/-! #### `Verifier::parse_signature`: what the `pgp` crate's parser is handed, for ANY parser and ANY blob

`parserCalls P blob` are the arguments of the `find_map` closure of `parse_signature`, in call order (`P` = the `pgp`
crate's packet parser, a parameter). The parser allocates the length a packet header DECLARES before it reads the body;
these theorems bound that length by the blob, whatever the blob and whatever the parser does. -/

/-- the parser is called on a prefix of the packet list (`find_map` stops at the first signature) -/
theorem parser_calls_prefix {σ : Type} (P : Bytes → Option σ) (blob : Bytes) (ps : List Bytes)
    (h : splitPackets blob = some ps) : parserCalls P blob <+: ps := by
  unfold parserCalls; rw [h]; exact consulted_prefix P ps

theorem parser_sees_only_slices {σ : Type} (P : Bytes → Option σ) (blob : Bytes) :
    ∀ p ∈ parserCalls P blob,
      (∃ pre post, blob = pre ++ p ++ post) ∧ 1 ≤ p.length ∧ p.length ≤ blob.length
        ∧ ∃ hl bl, packetLens p = some (hl, bl) ∧ hl + bl = p.length := by
  intro p hp
  cases hs : splitPackets blob with
  | none => simp [parserCalls, hs] at hp
  | some ps =>
    have hmem : p ∈ ps := (parser_calls_prefix P blob ps hs).subset hp
    have hflat := split_partition blob ps hs
    obtain ⟨hl, bl, hd, hlen⟩ := splitAux_declared _ _ _ hs p hmem
    obtain ⟨pre, post, hpp⟩ := mem_flatten_slice hmem
    refine ⟨⟨pre, post, by rw [← hflat, hpp]⟩, ?_, (split_bounded blob ps hs).1 p hmem, hl, bl, hd, hlen⟩
    have := packetLens_hpos hd
    omega

theorem parser_alloc_bound {σ : Type} (P : Bytes → Option σ) (blob : Bytes) :
    (∀ p ∈ parserCalls P blob, ∀ hl bl, packetLens p = some (hl, bl) → hl + bl ≤ blob.length)
      ∧ ((parserCalls P blob).map List.length).sum ≤ blob.length := by
  constructor
  · intro p hp hl bl hd
    obtain ⟨_, _, hle, hl', bl', hd', hlen⟩ := parser_sees_only_slices P blob p hp
    rw [hd] at hd'
    simp only [Option.some.injEq, Prod.mk.injEq] at hd'
    omega
  · cases hs : splitPackets blob with
    | none => simp [parserCalls, hs]
    | some ps =>
      obtain ⟨rest, hr⟩ := parser_calls_prefix P blob ps hs
      have := (split_bounded blob ps hs).2
      rw [← hr, List.map_append, List.sum_append] at this
      omega

theorem parser_calls_faithful {σ : Type} (P : Bytes → Option σ) (blob : Bytes) :
    Pgp.parseSignature P blob = (parserCalls P blob).getLast?.bind P
      ∧ ∀ p ∈ (parserCalls P blob).dropLast, P p = none := by
  unfold Pgp.parseSignature parserCalls
  cases splitPackets blob with
  | none => exact ⟨rfl, fun p hp => by cases hp⟩
  | some ps => exact consulted_faithful P ps

theorem parser_not_called_on_broken_framing {σ : Type} (P : Bytes → Option σ) (blob : Bytes)
    (h : splitPackets blob = none) : parserCalls P blob = [] ∧ Pgp.parseSignature P blob = none := by
  simp [parserCalls, Pgp.parseSignature, h]

theorem parse_depends_on_slices {σ : Type} (P Q : Bytes → Option σ) (blob : Bytes)
    (h : ∀ p, (∃ pre post, blob = pre ++ p ++ post) → p.length ≤ blob.length → P p = Q p) :
    Pgp.parseSignature P blob = Pgp.parseSignature Q blob := by
  unfold Pgp.parseSignature
  cases hs : splitPackets blob with
  | none => rfl
  | some ps =>
    refine findSome_congr (fun p hp => h p ?_ ((split_bounded blob ps hs).1 p hp))
    obtain ⟨pre, post, hpp⟩ := mem_flatten_slice hp
    exact ⟨pre, post, by rw [← split_partition blob ps hs, hpp]⟩

/-- non-vacuity: a toy parser (a "signature" is an old-format tag-2 packet; its value is the body) on
`[user-id packet][signature 7][signature 9]`: called on the first two packets only -/
example : parserCalls (fun p => match p with | 0x88 :: _ :: body => some body | _ => none)
      [0xb4, 1, 0x61, 0x88, 1, 7, 0x88, 1, 9] = [[0xb4, 1, 0x61], [0x88, 1, 7]]
    ∧ Pgp.parseSignature (fun p => match p with | 0x88 :: _ :: body => some body | _ => none)
      [0xb4, 1, 0x61, 0x88, 1, 7, 0x88, 1, 9] = some [7] := by decide +kernel
/-- … and a declared length beyond the blob never reaches the parser -/
example : parserCalls (fun p => some p) [0xe6, 0x3b, 0x96, 0x06, 0x32, 0xf2, 0xaf] = [] := by decide +kernel

end pgp

/-! ### non-vacuity: hostile inputs the old code crashed on are plain errors in the model -/
-- offset 100 in a 3-byte store (was: slice panic)
example : decode [1, 2, 3] 4 100 1 = .err "offset" := by decide +kernel
-- negative offset (was: slice panic)
example : decode [1, 2, 3] 6 4294967295 1 = .err "offset" := by decide +kernel
-- unterminated string array (was: `rest[1..]` panic)
example : decode [97, 98] 8 0 1 = .err "unterminated" := by decide +kernel
-- count u32::MAX on an INT64 entry (was: 32 GiB reserve)
example : (decode [0, 0, 0, 0, 0, 0, 0, 1] 5 0 4294967295).isErr = true := by decide +kernel
-- a 112-byte file claiming a 4 GiB store (was: overflow / 4 GiB allocation)
example : (parseHeader ([142, 173, 232, 1, 0, 0, 0, 0, 0, 0, 0, 0, 255, 255, 255, 255])).isErr = true := by decide +kernel

end RpmVerif.C04
