import RpmVerif.Lemmas.FileMode
import RpmVerif.Spec.FileMode
/-!
# C18 — file modes convert without losing or inventing bits

`fromU16`, `fromI32`, `rawMode`, `fileType`, `permissions`, `mkRegular/mkDir/mkSymlink`
(Model/FileMode.lean) mirror `impl From<u16>/From<i32> for FileMode` and the accessors of
src/rpm/headers/types.rs; the mask constants are the generated ones (`consts_ok` pins them to the
numbers of the property text). Every theorem is for **all** 16-bit words (`w < 65536`, by a bit-level
argument: `0o170000 ||| 0o7777 = 2^16 − 1`, no enumeration) respectively **all** integers (`Int`, so
in particular all of `i32`).

The middle third (`derivedEq_iff` … `observe_eqHashOk`) is about what the getters do not show: the public variant field,
the derived `==` and `Hash` (second audit, notes/AUDIT2.md item a19: a constructor storing the unmasked word passes every
getter clause). `reconverted_eq_iff` says for which values `FileMode::from(m.raw_mode()) == m`.

The last three theorems (`spec_word`, `spec_int`, `spec_ctor`) say that the very predicates the
driver evaluates on the implementation's observations hold of the model's observation on every input.
-/
namespace RpmVerif.C18
open RpmVerif.FileMode RpmVerif.FileMode.Spec RpmVerif.Gen

/-- The constants scraped from the source are the ones the property is about
(S_IFMT, 12 permission bits, S_IFDIR, S_IFREG, S_IFLNK). -/
theorem consts_ok : fileTypeBitMask = 0o170000 ∧ permissionsBitMask = 0o7777 ∧ dirFileType = 0o040000
    ∧ regularFileType = 0o100000 ∧ symbolicLinkFileType = 0o120000 := consts

/-- `file_type()` is exactly the type bits and `permissions()` exactly the low 12 bits of the word
(also for the `Invalid` variant, which keeps the whole word). -/
theorem u16_parts (w : Nat) (h : w < 65536) :
    fileType (fromU16 w) = w &&& 0o170000 ∧ permissions (fromU16 w) = w &&& 0o7777 := by
  rcases fromU16_cases w with ⟨h1, e⟩ | ⟨h1, e⟩ | ⟨h1, e⟩ | ⟨_, _, _, e⟩ <;> rw [e]
  · exact ⟨h1.symm, rfl⟩
  · exact ⟨h1.symm, rfl⟩
  · exact ⟨h1.symm, rfl⟩
  · simp only [fileType, permissions]; rw [asU16_ofNat w h]; exact ⟨rfl, rfl⟩

theorem u16_recombine (w : Nat) (h : w < 65536) :
    fileType (fromU16 w) ||| permissions (fromU16 w) = w := by
  obtain ⟨a, b⟩ := u16_parts w h
  rw [a, b]; exact split_word w h

/-- Round trip: `raw_mode()`, `u16::from` and `u32::from` of the converted word give the word back. -/
theorem u16_roundtrip (w : Nat) (h : w < 65536) :
    rawMode (fromU16 w) = w ∧ toU16 (fromU16 w) = w ∧ toU32 (fromU16 w) = w := by
  have key := rawMode_fromU16 w h
  exact ⟨key, key, key⟩

/-- Classification: the value is a directory / regular file / symbolic link exactly when the type bits
are S_IFDIR / S_IFREG / S_IFLNK, and it is reported invalid exactly when they are none of the three.
(No bound on `w` needed.) -/
theorem u16_classify (w : Nat) :
    (isDir (fromU16 w) = true ↔ w &&& 0o170000 = 0o040000) ∧
    (isRegular (fromU16 w) = true ↔ w &&& 0o170000 = 0o100000) ∧
    (isSymlink (fromU16 w) = true ↔ w &&& 0o170000 = 0o120000) ∧
    (isErr (fromU16 w) = true ↔
      (w &&& 0o170000 ≠ 0o040000 ∧ w &&& 0o170000 ≠ 0o100000 ∧ w &&& 0o170000 ≠ 0o120000)) := by
  rcases fromU16_cases w with ⟨h1, e⟩ | ⟨h1, e⟩ | ⟨h1, e⟩ | ⟨h1, h2, h3, e⟩
  · rw [e, h1]; simp [isDir, isRegular, isSymlink, isErr]
  · rw [e, h1]; simp [isDir, isRegular, isSymlink, isErr]
  · rw [e, h1]; simp [isDir, isRegular, isSymlink, isErr]
  · rw [e]; simp [isDir, isRegular, isSymlink, isErr, h1, h2, h3]

/-- `permissions()` of a converted word has only 12 bits, whatever the word (also for `Invalid`, where it is the masked
stored number) -/
theorem u16_perm_lt (w : Nat) : permissions (fromU16 w) < 4096 := by
  rcases fromU16_cases w with ⟨_, e⟩ | ⟨_, e⟩ | ⟨_, e⟩ | ⟨_, _, _, e⟩ <;> rw [e] <;> exact and_mask_lt _

theorem u16_perm_12bit (w : Nat) : permissions (fromU16 w) < 4096 ∨ isErr (fromU16 w) = true :=
  .inl (u16_perm_lt w)

/-- Integers outside the 16-bit range (above `u16::MAX` or below `i16::MIN`) are reported invalid,
keeping the offending number. -/
theorem i32_out_of_range (n : Int) (h : n > 65535 ∨ n < -32768) :
    fromI32 n = .invalid n ∧ isErr (fromI32 n) = true ∧ (tryFromRaw n).2 = true := by
  have e : fromI32 n = .invalid n := by unfold fromI32; rw [if_pos h]
  refine ⟨e, ?_, ?_⟩
  · rw [e]; rfl
  · unfold tryFromRaw; rw [e]; rfl

theorem i32_in_range (n : Int) (h1 : -32768 ≤ n) (h2 : n ≤ 65535) :
    fromI32 n = fromU16 (n % 65536).toNat ∧ (n % 65536).toNat < 65536 := by
  refine ⟨?_, asU16_lt n⟩
  unfold fromI32
  rw [if_neg (by omega)]
  rfl

theorem i32_nonneg (n : Int) (h1 : 0 ≤ n) (h2 : n ≤ 65535) : fromI32 n = fromU16 n.toNat := by
  rw [(i32_in_range n (by omega) h2).1, Int.emod_eq_of_lt h1 (by omega)]

theorem i32_neg (n : Int) (h1 : -32768 ≤ n) (h2 : n < 0) : fromI32 n = fromU16 (n + 65536).toNat := by
  rw [(i32_in_range n h1 (by omega)).1, ← Int.add_emod_right n 65536, Int.emod_eq_of_lt (by omega) (by omega)]

theorem i32_roundtrip (n : Int) (h1 : -32768 ≤ n) (h2 : n ≤ 65535) :
    rawMode (fromI32 n) = (n % 65536).toNat ∧
    fileType (fromI32 n) ||| permissions (fromI32 n) = (n % 65536).toNat := by
  obtain ⟨e, hb⟩ := i32_in_range n h1 h2
  rw [e]
  exact ⟨(u16_roundtrip _ hb).1, u16_recombine _ hb⟩

/-- An integer is reported invalid exactly when it is out of range or its type bits are none of the
three known ones. -/
theorem i32_invalid_iff (n : Int) :
    isErr (fromI32 n) = true ↔
      (n > 65535 ∨ n < -32768 ∨
        ((n % 65536).toNat &&& 0o170000 ≠ 0o040000 ∧ (n % 65536).toNat &&& 0o170000 ≠ 0o100000
          ∧ (n % 65536).toNat &&& 0o170000 ≠ 0o120000)) := by
  by_cases h : n > 65535 ∨ n < -32768
  · exact iff_of_true (i32_out_of_range n h).2.1 (or_assoc.mp (.inl h))
  · have hr : -32768 ≤ n ∧ n ≤ 65535 := by omega
    rw [(i32_in_range n hr.1 hr.2).1, (u16_classify _).2.2.2]
    exact ⟨fun c => .inr (.inr c), fun c => (or_assoc.mpr c).resolve_left h⟩

/-- The named constructors mask the permissions to 12 bits (`0o7777`) and build the named kind. -/
theorem ctor_masks (p : Nat) :
    (mkRegular p = .regular (p &&& 0o7777) ∧ mkDir p = .dir (p &&& 0o7777) ∧ mkSymlink p = .symlink (p &&& 0o7777))
    ∧ permissions (mkRegular p) = p &&& 0o7777 ∧ permissions (mkDir p) = p &&& 0o7777
    ∧ permissions (mkSymlink p) = p &&& 0o7777 ∧ p &&& 0o7777 < 4096 := by
  obtain ⟨_, e2, _, _, _⟩ := consts
  unfold mkRegular mkDir mkSymlink
  rw [e2]
  exact ⟨⟨rfl, rfl, rfl⟩, rfl, rfl, rfl, and_mask_lt p⟩

theorem ctor_raw (p : Nat) :
    rawMode (mkRegular p) = (p &&& 0o7777) ||| 0o100000 ∧ rawMode (mkDir p) = (p &&& 0o7777) ||| 0o040000
    ∧ rawMode (mkSymlink p) = (p &&& 0o7777) ||| 0o120000 := by
  obtain ⟨_, e2, e3, e4, e5⟩ := consts
  unfold mkRegular mkDir mkSymlink
  simp only [rawMode, fileType]
  rw [e2, e3, e4, e5]
  exact ⟨rfl, rfl, rfl⟩

theorem ctor_roundtrip (p : Nat) :
    fromU16 (rawMode (mkRegular p)) = mkRegular p ∧ fromU16 (rawMode (mkDir p)) = mkDir p
    ∧ fromU16 (rawMode (mkSymlink p)) = mkSymlink p := by
  obtain ⟨⟨c1, c2, c3⟩, _⟩ := ctor_masks p
  obtain ⟨r1, r2, r3⟩ := ctor_raw p
  obtain ⟨f1, f2, f3⟩ := fromU16_or _ (and_mask_lt p)
  rw [r1, r2, r3, c1, c2, c3]
  exact ⟨f2, f1, f3⟩

/-! ### public variant fields, derived `==` and `Hash` (AUDIT2 a19) -/

/-- the derived `==` is equality of the values (the `reason` of an `Invalid` being a function of its number) -/
theorem derivedEq_iff (a b : FileMode) : derivedEq a b = true ↔ a = b := by
  cases a <;> cases b <;> simp [derivedEq]
  intro h; rw [h]

/-- reads a value back from what it feeds to the hasher -/
def unfeed : List Int → Option FileMode
  | [0, p] => some (.dir p.toNat)
  | [1, p] => some (.regular p.toNat)
  | [2, p] => some (.symlink p.toNat)
  | [3, r, _] => some (.invalid r)
  | _ => none

theorem unfeed_hashFeed (a : FileMode) : unfeed (hashFeed a) = some a := by cases a <;> rfl

/-- equal values feed the hasher the same sequence (`Hash` agrees with `==`), and different values different ones -/
theorem hashFeed_inj (a b : FileMode) : hashFeed a = hashFeed b ↔ a = b :=
  ⟨fun h => Option.some.inj (by rw [← unfeed_hashFeed a, h, unfeed_hashFeed]), fun h => by rw [h]⟩

/-- the variant field of a converted word is the word's low 12 bits (`None` only for `Invalid`) -/
theorem u16_field (w : Nat) :
    fieldOf (fromU16 w) = (if isErr (fromU16 w) then none else some (w &&& 0o7777)) := by
  rcases fromU16_cases w with ⟨_, e⟩ | ⟨_, e⟩ | ⟨_, e⟩ | ⟨_, _, _, e⟩ <;> rw [e] <;> rfl

/-- **named constructors**: the value that is built holds the masked permissions in its public field (not only behind
the getters) -/
theorem ctor_field (p : Nat) :
    fieldOf (mkRegular p) = some (p &&& 0o7777) ∧ fieldOf (mkDir p) = some (p &&& 0o7777)
    ∧ fieldOf (mkSymlink p) = some (p &&& 0o7777) := by
  obtain ⟨⟨c1, c2, c3⟩, _⟩ := ctor_masks p
  rw [c1, c2, c3]; exact ⟨rfl, rfl, rfl⟩

theorem u16_reconverted (w : Nat) (h : w < 65536) : reconverted (fromU16 w) = fromU16 w := by
  unfold reconverted; rw [(u16_roundtrip w h).1]

/-- the values a mode word can be converted to without change: permissions of 12 bits under a known type, or an `Invalid`
holding a 16-bit word of unknown type -/
def Canonical : FileMode → Prop
  | .dir p | .regular p | .symlink p => p < 4096
  | .invalid r => 0 ≤ r ∧ r ≤ 65535 ∧ r.toNat &&& 0o170000 ≠ 0o040000 ∧ r.toNat &&& 0o170000 ≠ 0o100000
      ∧ r.toNat &&& 0o170000 ≠ 0o120000

theorem reconverted_perm_lt {m : FileMode} (h : reconverted m = m) : permissions m < 4096 := by
  have := u16_perm_lt (rawMode m)
  rwa [show fromU16 (rawMode m) = m from h] at this

/-- `FileMode::from(m.raw_mode()) == m` holds exactly for the canonical values. In particular a value written as a
variant literal with more than 12 permission bits (`FileMode::Regular { permissions: 0o10644 }` — possible, the fields
are public) is NOT reproduced, while everything the constructors and conversions build is. -/
theorem reconverted_eq_iff (m : FileMode) : reconverted m = m ↔ Canonical m := by
  cases m with
  | dir p => exact ⟨fun h => reconverted_perm_lt h, fun hp => (fromU16_or p hp).1⟩
  | regular p => exact ⟨fun h => reconverted_perm_lt h, fun hp => (fromU16_or p hp).2.1⟩
  | symlink p => exact ⟨fun h => reconverted_perm_lt h, fun hp => (fromU16_or p hp).2.2⟩
  | invalid r =>
    show fromU16 (asU16 r) = .invalid r ↔ _
    rw [fromU16_eq_invalid, asU16_eq_self_iff]
    constructor
    · rintro ⟨⟨h0, h1⟩, t⟩
      rw [asU16_eq_toNat h0 h1] at t
      exact ⟨h0, h1, t⟩
    · rintro ⟨h0, h1, t⟩
      rw [asU16_eq_toNat h0 h1]
      exact ⟨⟨h0, h1⟩, t⟩

/-- … for an integer exactly when it is inside the 16-bit range: an out-of-range `Invalid` keeps the offending number,
its mode word is only the low 16 bits of it -/
theorem i32_reconverted_iff (n : Int) : reconverted (fromI32 n) = fromI32 n ↔ (-32768 ≤ n ∧ n ≤ 65535) := by
  constructor
  · intro h
    by_cases hr : n > 65535 ∨ n < -32768
    · rw [(i32_out_of_range n hr).1] at h
      have := (reconverted_eq_iff _).mp h
      exact absurd this.1 (by have := this.2.1; omega)
    · omega
  · rintro ⟨h1, h2⟩
    obtain ⟨e, hb⟩ := i32_in_range n h1 h2
    rw [e]; exact u16_reconverted _ hb

/-- everything the two conversions and the three constructors build is canonical — except an out-of-range integer -/
theorem built_canonical (w : Nat) (hw : w < 65536) (p : Nat) :
    Canonical (fromU16 w) ∧ Canonical (mkRegular p) ∧ Canonical (mkDir p) ∧ Canonical (mkSymlink p) := by
  obtain ⟨r1, r2, r3⟩ := ctor_roundtrip p
  exact ⟨(reconverted_eq_iff _).mp (u16_reconverted w hw), (reconverted_eq_iff _).mp r1, (reconverted_eq_iff _).mp r2,
    (reconverted_eq_iff _).mp r3⟩

theorem observe_reconverted (m : FileMode) (h : reconverted m = m) :
    (observe m).rtEq = true ∧ (observe m).hashEq = true := by
  simp only [observe, h]
  exact ⟨(derivedEq_iff m m).mpr rfl, by simp⟩

/-- `Hash` agrees with `==` on every observation of the model -/
theorem observe_eqHashOk (m : FileMode) : eqHashOk (observe m) = true := by
  unfold eqHashOk
  by_cases h : (observe m).rtEq = true
  · have e : reconverted m = m := (derivedEq_iff _ _).mp (by simpa [observe] using h)
    rw [(observe_reconverted m e).1, (observe_reconverted m e).2]; rfl
  · simp only [Bool.not_eq_true] at h
    rw [h]; rfl

theorem spec_word (w : Nat) (h : w < 65536) : specWord w (observe (fromU16 w)) = true := by
  obtain ⟨r1, r2, r3⟩ := u16_roundtrip w h
  have rc := u16_recombine w h
  obtain ⟨cd, cr, cs, _⟩ := u16_classify w
  have kd : (kindOf (fromU16 w) == Kind.dir) = isDir (fromU16 w) := by cases fromU16 w <;> rfl
  have kr : (kindOf (fromU16 w) == Kind.regular) = isRegular (fromU16 w) := by cases fromU16 w <;> rfl
  have ks : (kindOf (fromU16 w) == Kind.symlink) = isSymlink (fromU16 w) := by cases fromU16 w <;> rfl
  have b : ∀ {x : Bool} {a c : Nat}, (x = true ↔ a = c) → (x == (a == c)) = true := fun hx => by
    rw [beq_iff_eq, Bool.eq_iff_iff, beq_iff_eq]; exact hx
  obtain ⟨q1, q2⟩ := observe_reconverted _ (u16_reconverted w h)
  unfold specWord
  rw [q1, q2]
  simp only [observe, typeBits, r1, r2, r3, rc, kd, kr, ks, beq_self_eq_true, Bool.true_and,
    Bool.and_eq_true, Bool.and_true]
  exact ⟨⟨b cd, b cr⟩, b cs⟩

theorem spec_int (n : Int) : specInt n (observe (fromI32 n)) = true := by
  have hr : inRange16 n = true ↔ -32768 ≤ n ∧ n ≤ 65535 := by simp [inRange16]
  unfold specInt
  split
  · next h =>
    obtain ⟨e, hlt⟩ := i32_in_range n (hr.mp h).1 (hr.mp h).2
    rw [e]; exact spec_word _ hlt
  · next h =>
    have : n > 65535 ∨ n < -32768 := by have := mt hr.mpr h; omega
    rw [(i32_out_of_range n this).1, observe_eqHashOk]; rfl

theorem spec_ctor (p : Nat) :
    specCtor .regular p (observe (mkRegular p)) = true ∧ specCtor .dir p (observe (mkDir p)) = true
    ∧ specCtor .symlink p (observe (mkSymlink p)) = true := by
  obtain ⟨⟨c1, c2, c3⟩, _, _, _, hlt⟩ := ctor_masks p
  have k1 := observe_eqHashOk (mkRegular p)
  have k2 := observe_eqHashOk (mkDir p)
  have k3 := observe_eqHashOk (mkSymlink p)
  unfold specCtor
  rw [k1, k2, k3, c1, c2, c3]
  simp [observe, kindOf, permissions, hlt, rawMode, toU16, toU32, fileType, typeWord, fieldOf,
    dirFileType, regularFileType, symbolicLinkFileType]
  exact ⟨Nat.or_comm _ _, Nat.or_comm _ _, Nat.or_comm _ _⟩

/-! ### non-vacuity: the hypotheses are met by concrete, non-trivial values -/

example : fromU16 0o100644 = .regular 0o644 ∧ rawMode (fromU16 0o100644) = 0o100644 := by decide
example : fromU16 0o040755 = .dir 0o755 ∧ fromU16 0o120777 = .symlink 0o777 := by decide
example : fromU16 0o104755 = .regular 0o4755 := by decide            -- setuid bit is a permission bit
example : fromU16 0o060660 = .invalid 0o060660 ∧ isErr (fromU16 0o060660) = true := by decide  -- block device
example : (0o100644 : Nat) < 65536 ∧ (0o100644 &&& 0o170000 : Nat) = 0o100000 := by decide
example : ∃ w, w < 65536 ∧ w &&& 0o170000 ≠ 0o040000 ∧ w &&& 0o170000 ≠ 0o100000 ∧ w &&& 0o170000 ≠ 0o120000 :=
  ⟨0o010644, by decide⟩
example : fromI32 65536 = .invalid 65536 ∧ fromI32 (-32769) = .invalid (-32769) := by decide
example : fromI32 65535 = .invalid 65535 ∧ rawMode (fromI32 65535) = 65535 := by decide  -- in range, unknown type
example : fromI32 (-32768) = .regular 0 ∧ fromI32 (-24147) = .symlink 0o655 := by decide   -- negative, in range
example : fromI32 33188 = fromU16 33188 ∧ fromU16 33188 = .regular 0o644 := by decide
example : mkRegular 0o177777 = .regular 0o7777 ∧ mkDir 0o10755 = .dir 0o755 ∧ mkSymlink 0o777 = .symlink 0o777 := by
  decide
example : specWord 0o100644 (observe (.regular 0o645)) = false := by decide     -- the spec can fail
example : specInt 70000 (observe (.regular 0)) = false := by decide
example : specCtor .regular 0o17777 (observe (.regular 0o17777)) = false := by decide
-- the unmasked constructor of seed C18-8 with masking moved to `permissions()`: kind and permissions fine, the word is a symlink's
example : specCtor .regular 0o20644 { (observe (.regular 0o644)) with raw := 0o120644, back16 := 0o120644, back32 := 0o120644 } = false := by decide

-- a19: a constructor that stores the argument unmasked while every getter masks — all getters fine, the FIELD clause fails
example : specCtor .regular 0o10644 { (observe (.regular 0o644)) with field := some 0o10644 } = false := by decide
-- … and such a value is not reproduced from its own mode word: `==` says no
example : reconverted (.regular 0o10644) = .invalid 0o110644 ∧ derivedEq (reconverted (.regular 0o10644)) (.regular 0o10644) = false
    ∧ ¬ Canonical (.regular 0o10644) := by
  refine ⟨by decide, by decide, ?_⟩
  simp [Canonical]
-- an out-of-range integer is not reproduced either (its mode word is only its low 16 bits), everything in range is
example : reconverted (fromI32 98304) = .regular 0 ∧ fromI32 98304 = .invalid 98304 ∧ (observe (fromI32 98304)).rtEq = false
    ∧ (observe (fromI32 98304)).hashEq = false ∧ (observe (fromI32 (-24147))).rtEq = true := by decide
-- the two reasons: 0o060660 (a block device) is an unknown type, 70000 is out of bounds
example : (observe (fromU16 0o060660)).reason = some .unknownFileType ∧ (observe (fromI32 70000)).reason = some .outOf16BitBounds
    ∧ (observe (fromI32 (-1))).reason = some .unknownFileType ∧ (observe (fromI32 (-40000))).reason = some .outOf16BitBounds := by decide
-- a word whose `==`-round-trip flag were false fails the word spec
example : specWord 0o100644 { (observe (fromU16 0o100644)) with rtEq := false } = false := by decide

end RpmVerif.C18
