import RpmVerif.Lemmas.Verify
import RpmVerif.Lemmas.PgpVerifier
import RpmVerif.Spec.Verify
import RpmVerif.Lemmas.PgpParse
import RpmVerif.Model.Sign
/-!
# C02 — signature verification never succeeds without a verified signature

All theorems hold for EVERY `Package` value (any signature header: any entries of any type and count, any subset
of the OPENPGP / RSA / DSA / PGP tags, duplicated tags, …), ANY verifier `v` — including verifiers with interior
state, whose verdict may depend on all consults made before (`Verifier`; a pure function is the special case
`verifySignature`, see `verifySignature_eq`) —, ANY base64 decoder `b64` and ANY three hash functions.

`verify_ok`: what success is — digests fine, a non-empty plan (`Verify.sigPlan`), every step accepted, the log is the plan;
from it `verify_ok_sound`. Whatever the result: `verify_log_faithful`, `verify_data_right`, `verify_first_reject` (no "keep
going"), `verify_total`, `verify_no_sig_is_error`, `verify_digest_error_first`. The "consequently" clause: `tamper_rejected`
(digest route OR verifier route; `tamper_same_data` is the verifier route in one statement), `tamper_rejected_payload`,
`_verifier`, `_pgp_payload`. `model_satisfies_spec`: the model's (result, log) passes the observer-level spec the driver applies
to the real implementation. `pgp_verifier_sound`: rpm-rs's own `Verifier::verify` (after fix c25de51) — success ⇒ a key the
issuer list selected cryptographically accepted the FULL data; the `old_verifier_*_witness`es show the defect that commit repaired.
`Verifier::parse_signature` (gap G3: framing, then the FIRST packet that parses as a signature): `parse_none_iff`, `parse_some_iff`,
`trailing_*`, `pgp_verifier_sound_parsed`, and the same composition inside a scheme (`issuerOk_of_single_packet`). With the
`echo_signature` calls in: `verify_echo_eq`, `verify_total_echo`. `signature_tags_standard`: the scraped tag table is rpm's.
The vocabulary of the statements (`sigPlan`, `runSteps`, `okConsult`, `Faithful`, `echoOf`) is defined in Lemmas/Verify.lean.
-/
namespace RpmVerif.C02
open RpmVerif.Hdr RpmVerif.Gen RpmVerif.Digest RpmVerif.Verify

variable (md5 sha1 sha256 : Bytes → Bytes) (b64 : Bytes → Option Bytes)

theorem verifySignature_eq (v : Bytes → Bytes → Bool) (p : Package) :
    verifySignature md5 sha1 sha256 b64 v p = verifySignatureS md5 sha1 sha256 b64 (fun _ => v) p := rfl

theorem verify_cases (v : Verifier) (p : Package) :
    (∃ c, verifyDigests md5 sha1 sha256 p = .err c ∧ verifySignatureS md5 sha1 sha256 b64 v p = (.err c, [])) ∨
    (verifyDigests md5 sha1 sha256 p = .ok () ∧ sigPlan b64 p.md.signature = [] ∧
      verifySignatureS md5 sha1 sha256 b64 v p = (.err "nosig", [])) ∨
    (verifyDigests md5 sha1 sha256 p = .ok () ∧ sigPlan b64 p.md.signature ≠ [] ∧
      verifySignatureS md5 sha1 sha256 b64 v p =
        runSteps v (writeHeader p.md.header) p.content [] (sigPlan b64 p.md.signature)) := by
  rw [verifySignatureS_eq]
  have hnp := Digest.verifyDigests_total md5 sha1 sha256 p
  cases hd : verifyDigests md5 sha1 sha256 p with
  | err c => exact .inl ⟨c, rfl, rfl⟩
  | panic s => rw [hd] at hnp; cases hnp
  | ok u =>
    by_cases hp : sigPlan b64 p.md.signature = []
    · exact .inr (.inl ⟨rfl, hp, if_pos hp⟩)
    · exact .inr (.inr ⟨rfl, hp, if_neg hp⟩)

theorem verify_ok (v : Verifier) (p : Package) (h : (verifySignatureS md5 sha1 sha256 b64 v p).1 = .ok ()) :
    verifyDigests md5 sha1 sha256 p = .ok () ∧ (∃ s g rest, sigPlan b64 p.md.signature = some (s, g) :: rest) ∧
    (verifySignatureS md5 sha1 sha256 b64 v p).2 =
      (sigPlan b64 p.md.signature).flatMap (okConsult (writeHeader p.md.header) p.content) := by
  rcases verify_cases md5 sha1 sha256 b64 v p with ⟨c, _, e⟩ | ⟨_, _, e⟩ | ⟨hd, hp, e⟩
  · rw [e] at h; cases h
  · rw [e] at h; cases h
  · rw [e] at h ⊢
    obtain ⟨hlog, hsome⟩ := runSteps_ok v _ _ [] _ h
    refine ⟨hd, ?_, by rw [hlog, List.nil_append]⟩
    cases hpl : sigPlan b64 p.md.signature with
    | nil => exact absurd hpl hp
    | cons st rest =>
      obtain ⟨⟨s, g⟩, rfl⟩ := Option.isSome_iff_exists.mp (hsome st (hpl ▸ List.mem_cons_self))
      exact ⟨s, g, rest, rfl⟩

/-- **success ⇒ ≥ 1 consult, all accepted, each over the header bytes or (PGP tag) header ++ payload, digests fine**; which
bytes go with which tag, exactly, is `verify_data_right` -/
theorem verify_ok_sound (v : Verifier) (p : Package)
    (h : (verifySignatureS md5 sha1 sha256 b64 v p).1 = .ok ()) :
    (verifySignatureS md5 sha1 sha256 b64 v p).2 ≠ []
    ∧ (∀ c ∈ (verifySignatureS md5 sha1 sha256 b64 v p).2, c.accepted = true)
    ∧ (∀ c ∈ (verifySignatureS md5 sha1 sha256 b64 v p).2,
        c.data = writeHeader p.md.header ∨ (c.fromPgpTag = true ∧ c.data = writeHeader p.md.header ++ p.content))
    ∧ verifyDigests md5 sha1 sha256 p = .ok () := by
  obtain ⟨hd, ⟨s, g, rest, hpl⟩, hlog⟩ := verify_ok md5 sha1 sha256 b64 v p h
  rw [hlog]
  refine ⟨List.ne_nil_of_mem (mem_okLog.mpr ⟨s, g, hpl ▸ List.mem_cons_self, rfl⟩), fun c hc => ?_, fun c hc => ?_, hd⟩
  · obtain ⟨_, _, _, rfl⟩ := mem_okLog.mp hc
    rfl
  · obtain ⟨_, g', _, rfl⟩ := mem_okLog.mp hc
    cases g'
    · exact .inl rfl
    · exact .inr ⟨rfl, rfl⟩

/-- **the log is faithful**: every logged verdict is the verifier's answer for that data and signature, given the
consults made before it -/
theorem verify_log_faithful (v : Verifier) (p : Package) :
    Faithful v (verifySignatureS md5 sha1 sha256 b64 v p).2 := by
  rcases verify_cases md5 sha1 sha256 b64 v p with ⟨c, _, e⟩ | ⟨_, _, e⟩ | ⟨_, _, e⟩
  · rw [e]; exact .nil
  · rw [e]; exact .nil
  · rw [e]; exact runSteps_faithful v _ _ [] _ .nil

/-- **right bytes, whatever the result**: every consult gets the serialised main header; or header ++ payload, and
then its signature is the binary stored under RPMSIGTAG_PGP (the legacy header+payload signature); a header-only
consult carries an OPENPGP entry or the binary under RSA / DSA (for OPENPGP only "the array is readable" is stated
here; that the signature is the decoding of one of its entries is `Verify.mem_sigPlan`) -/
theorem verify_data_right (v : Verifier) (p : Package) :
    ∀ c ∈ (verifySignatureS md5 sha1 sha256 b64 v p).2,
      (c.fromPgpTag = false ∧ c.data = writeHeader p.md.header ∧
        ((∃ l, getStringArray p.md.signature SigTag.RPMSIGTAG_OPENPGP = .ok l) ∨
         getBinary p.md.signature SigTag.RPMSIGTAG_RSA = .ok c.sig ∨
         getBinary p.md.signature SigTag.RPMSIGTAG_DSA = .ok c.sig)) ∨
      (c.fromPgpTag = true ∧ getBinary p.md.signature SigTag.RPMSIGTAG_PGP = .ok c.sig ∧
        c.data = writeHeader p.md.header ++ p.content) := by
  rcases verify_cases md5 sha1 sha256 b64 v p with ⟨c, _, e⟩ | ⟨_, _, e⟩ | ⟨_, _, e⟩
  · rw [e]; intro c hc; cases hc
  · rw [e]; intro c hc; cases hc
  · rw [e]
    intro c hc
    rcases runSteps_data v _ _ [] _ c hc with h | ⟨hm, hdata⟩
    · cases h
    · rcases mem_sigPlan.mp hm with ⟨sigs, _, hg, _, _, hf⟩ | ⟨_, ⟨hs, hf⟩ | ⟨hs, hf⟩ | ⟨hs, hf⟩⟩ <;> rw [hf] at hdata
      · exact .inl ⟨hf, hdata, .inl ⟨sigs, hg⟩⟩
      · exact .inl ⟨hf, hdata, .inr (.inr hs)⟩
      · exact .inl ⟨hf, hdata, .inr (.inl hs)⟩
      · exact .inr ⟨hf, hs, hdata⟩

/-- **no "keep going"**: a rejected consult is the last entry of the log, all entries before it were accepted, and
the result is the error the verifier returned -/
theorem verify_first_reject (v : Verifier) (p : Package) (c : Consult)
    (hc : c ∈ (verifySignatureS md5 sha1 sha256 b64 v p).2) (hr : c.accepted = false) :
    (verifySignatureS md5 sha1 sha256 b64 v p).1 = .err "verify"
    ∧ ∃ init, (verifySignatureS md5 sha1 sha256 b64 v p).2 = init ++ [c] ∧ ∀ x ∈ init, x.accepted = true := by
  rcases verify_cases md5 sha1 sha256 b64 v p with ⟨c', _, e⟩ | ⟨_, _, e⟩ | ⟨_, _, e⟩
  · rw [e] at hc; cases hc
  · rw [e] at hc; cases hc
  · rw [e] at hc ⊢
    rcases runSteps_shape v _ _ [] _ (fun x hx => by cases hx) with hall | ⟨init, c0, hlog, hinit, _, hres⟩
    · rw [hall c hc] at hr; cases hr
    · rw [hlog] at hc
      simp only [List.mem_append, List.mem_singleton] at hc
      rcases hc with hc | rfl
      · rw [hinit c hc] at hr; cases hr
      · exact ⟨hres, init, hlog, hinit⟩

theorem verify_total (v : Verifier) (p : Package) : (verifySignatureS md5 sha1 sha256 b64 v p).1.isPanic = false := by
  rcases verify_cases md5 sha1 sha256 b64 v p with ⟨c, _, e⟩ | ⟨_, _, e⟩ | ⟨_, _, e⟩
  · rw [e]; rfl
  · rw [e]; rfl
  · rw [e]; exact runSteps_not_panic v _ _ [] _

/-! ### with `signature::echo_signature` in place (AUDIT2 a10)

`verifySignatureS` leaves the `echo_signature` call in front of every `verifier.verify` out. `verifySignatureSE`
(Model/Verify.lean) has it in, slice indexing explicit. -/

/-- **the echo calls change nothing and cannot panic**: `verify_signature` with them = without them (result and consult
log); the Debug logger is handed, per consult and in call order, the signature's length and its first
`Gen.echoPrefixLen` bytes (the bound `len.min(N)` scraped from the source) -/
theorem verify_echo_eq (v : Verifier) (p : Package) :
    verifySignatureSE md5 sha1 sha256 b64 v p =
      ((verifySignatureS md5 sha1 sha256 b64 v p).1, (verifySignatureS md5 sha1 sha256 b64 v p).2,
        (verifySignatureS md5 sha1 sha256 b64 v p).2.map echoOf) :=
  verifySignatureSE_eq md5 sha1 sha256 b64 v p

/-- `echo_signature` on ANY byte string is a value: `&signature[..signature.len().min(N)]` is in range -/
theorem echo_total (sig : Bytes) : echoSignature sig = .ok (sig.length, sig.take Gen.echoPrefixLen) :=
  echoSignature_eq sig

theorem verify_total_echo (v : Verifier) (p : Package) : (verifySignatureSE md5 sha1 sha256 b64 v p).1.isPanic = false := by
  rw [verify_echo_eq]; exact verify_total md5 sha1 sha256 b64 v p

/-- the slice the code had BEFORE fix d429c1f (`&signature[0..5]`, a fixed bound) panics on a short signature; the
bound `len.min(5)` does not -/
example : sliceTo [1, 2, 3] 5 = .panic "slice-end-out-of-range" ∧ echoSignature [1, 2, 3] = .ok (3, [1, 2, 3])
    ∧ echoSignature [1, 2, 3, 4, 5, 6, 7] = .ok (7, [1, 2, 3, 4, 5]) ∧ echoSignature [] = .ok (0, []) := ⟨rfl, rfl, rfl, rfl⟩

/-- **nothing to verify ⇒ error without consulting the verifier**: an OPENPGP array with zero entries, or no OPENPGP
string array and none of RSA / DSA / PGP readable as binary (absent or of another data type) -/
theorem verify_no_sig_is_error (v : Verifier) (p : Package)
    (h : getStringArray p.md.signature SigTag.RPMSIGTAG_OPENPGP = .ok [] ∨
      ((∀ l, getStringArray p.md.signature SigTag.RPMSIGTAG_OPENPGP ≠ .ok l) ∧
       (∀ b, getBinary p.md.signature SigTag.RPMSIGTAG_RSA ≠ .ok b) ∧
       (∀ b, getBinary p.md.signature SigTag.RPMSIGTAG_DSA ≠ .ok b) ∧
       (∀ b, getBinary p.md.signature SigTag.RPMSIGTAG_PGP ≠ .ok b))) :
    ∃ c, verifySignatureS md5 sha1 sha256 b64 v p = (.err c, []) := by
  have hnone : sigPlan b64 p.md.signature = [] := by
    rcases h with h | ⟨h0, h1, h2, h3⟩
    · rw [sigPlan_openpgp b64 h]; rfl
    · have key : ∀ g : Out Bytes, (∀ b, g ≠ .ok b) → g.isOk = false := by
        intro g hg
        cases g with
        | ok b => exact absurd rfl (hg b)
        | _ => rfl
      simp only [sigPlan_legacy b64 h0, legacyPlan, List.append_eq_nil_iff, legacyStep_eq_nil]
      exact ⟨⟨key _ h2, key _ h1⟩, key _ h3⟩
  rcases verify_cases md5 sha1 sha256 b64 v p with ⟨c, _, e⟩ | ⟨_, _, e⟩ | ⟨_, hp, _⟩
  · exact ⟨c, e⟩
  · exact ⟨_, e⟩
  · exact absurd hnone hp

/-- **digests first**: a digest error is the result, and the verifier is never called -/
theorem verify_digest_error_first (v : Verifier) (p : Package) (c : String)
    (h : verifyDigests md5 sha1 sha256 p = .err c) :
    verifySignatureS md5 sha1 sha256 b64 v p = (.err c, []) := by
  rw [verifySignatureS_eq, h]

def NoCollision (h : Bytes → Bytes) (a b : Bytes) : Prop := a ≠ b → h a ≠ h b

/-- the verifier accepts each signature of the log only for the data it was accepted with there
("a signature is accepted only for the message it was made for", for the signatures at hand) -/
def Binds (v : Verifier) (log : List Consult) : Prop :=
  ∀ c ∈ log, ∀ pre d, v pre d c.sig = true → d = c.data

/-- the signature header shape `SignatureHeaderBuilder` produces for a signed package: a non-empty OPENPGP string
array (plus a legacy RSA/DSA copy, never consulted when OPENPGP is readable) and the SHA256 header digest -/
def LibSigned (sig : Header) : Prop :=
  ∃ sigs d, getStringArray sig SigTag.RPMSIGTAG_OPENPGP = .ok sigs ∧ sigs ≠ [] ∧
    getString sig SigTag.RPMSIGTAG_SHA256 = .ok d

/-- digest route: the SHA256 header digest in the (unchanged) signature header pins the header bytes -/
theorem tamper_rejected_digest (v v' : Verifier) (p p' : Package) (d : Bytes)
    (hsig : p'.md.signature = p.md.signature)
    (hd : getString p.md.signature SigTag.RPMSIGTAG_SHA256 = .ok d)
    (hok : (verifySignatureS md5 sha1 sha256 b64 v p).1 = .ok ())
    (hne : writeHeader p'.md.header ≠ writeHeader p.md.header)
    (hnc : NoCollision sha256 (writeHeader p.md.header) (writeHeader p'.md.header)) :
    (verifySignatureS md5 sha1 sha256 b64 v' p').1 ≠ .ok () := by
  intro hok'
  have h1 := verifyDigests_ok_sha256 (verify_ok md5 sha1 sha256 b64 v p hok).1 hd
  have h2 := verifyDigests_ok_sha256 (verify_ok md5 sha1 sha256 b64 v' p' hok').1 (hsig ▸ hd)
  exact hnc (fun e => hne e.symm) (hexLower_inj (h1.symm.trans h2))

/-- verifier route: `p` and `p'` carry the same signature header and BOTH verify, under a verifier that accepts the
signatures of the first run only for the data they were accepted with there — then every signature of the plan was
presented with the same bytes both times. The tamper theorems for this route name a step whose bytes differ. -/
theorem tamper_same_data (v : Verifier) (p p' : Package)
    (hsig : p'.md.signature = p.md.signature)
    (hok : (verifySignatureS md5 sha1 sha256 b64 v p).1 = .ok ())
    (hb : Binds v (verifySignatureS md5 sha1 sha256 b64 v p).2)
    (hok' : (verifySignatureS md5 sha1 sha256 b64 v p').1 = .ok ())
    {s : Bytes} {g : Bool} (hm : some (s, g) ∈ sigPlan b64 p.md.signature) :
    dataFor (writeHeader p'.md.header) p'.content g = dataFor (writeHeader p.md.header) p.content g := by
  have hf := verify_log_faithful md5 sha1 sha256 b64 v p'
  rw [(verify_ok md5 sha1 sha256 b64 v p hok).2.2] at hb
  rw [(verify_ok md5 sha1 sha256 b64 v p' hok').2.2, hsig] at hf
  obtain ⟨pre, hv⟩ := hf.call _ (mem_okLog.mpr ⟨s, g, hm, rfl⟩)
  exact hb _ (mem_okLog.mpr ⟨s, g, hm, rfl⟩) pre _ hv.symm

/-- verifier route, core: if the FIRST signature of the plan would be presented with different bytes, a binding
verifier rejects it -/
theorem tamper_rejected_first (v : Verifier) (p p' : Package)
    (hsig : p'.md.signature = p.md.signature)
    (hok : (verifySignatureS md5 sha1 sha256 b64 v p).1 = .ok ())
    (hb : Binds v (verifySignatureS md5 sha1 sha256 b64 v p).2)
    (hfirst : ∀ s g rest, sigPlan b64 p.md.signature = some (s, g) :: rest →
      dataFor (writeHeader p'.md.header) p'.content g ≠ dataFor (writeHeader p.md.header) p.content g) :
    (verifySignatureS md5 sha1 sha256 b64 v p').1 ≠ .ok () := by
  intro hok'
  obtain ⟨s, g, rest, hpl⟩ := (verify_ok md5 sha1 sha256 b64 v p hok).2.1
  exact hfirst s g rest hpl (tamper_same_data md5 sha1 sha256 b64 v p p' hsig hok hb hok' (hpl ▸ List.mem_cons_self))

/-- verifier route for ANY signature-header shape: header bytes changed (and header ++ payload changed — relevant
only when the PGP tag is the first signature consulted) -/
theorem tamper_rejected_verifier (v : Verifier) (p p' : Package)
    (hsig : p'.md.signature = p.md.signature)
    (hok : (verifySignatureS md5 sha1 sha256 b64 v p).1 = .ok ())
    (hb : Binds v (verifySignatureS md5 sha1 sha256 b64 v p).2)
    (hne : writeHeader p'.md.header ≠ writeHeader p.md.header)
    (hne2 : writeHeader p'.md.header ++ p'.content ≠ writeHeader p.md.header ++ p.content) :
    (verifySignatureS md5 sha1 sha256 b64 v p').1 ≠ .ok () := by
  apply tamper_rejected_first md5 sha1 sha256 b64 v p p' hsig hok hb
  intro s g rest _
  cases g
  · exact hne
  · exact hne2

/-- **tampering with the header of a library-signed package is rejected**: `p` verified, `p'` carries the same
signature header but serialises to different main-header bytes. Under EITHER explicit hypothesis — SHA-256 does
not collide on the two header byte strings, OR the verifier accepts the signatures at hand only for the data they
were accepted with — verification of `p'` does not succeed. -/
theorem tamper_rejected (v : Verifier) (p p' : Package)
    (hlib : LibSigned p.md.signature)
    (hsig : p'.md.signature = p.md.signature)
    (hok : (verifySignatureS md5 sha1 sha256 b64 v p).1 = .ok ())
    (hne : writeHeader p'.md.header ≠ writeHeader p.md.header)
    (h : NoCollision sha256 (writeHeader p.md.header) (writeHeader p'.md.header) ∨
         Binds v (verifySignatureS md5 sha1 sha256 b64 v p).2) :
    (verifySignatureS md5 sha1 sha256 b64 v p').1 ≠ .ok () := by
  obtain ⟨sigs, d, hg, _, hd⟩ := hlib
  rcases h with hnc | hb
  · exact tamper_rejected_digest md5 sha1 sha256 b64 v v p p' d hsig hd hok hne hnc
  · apply tamper_rejected_first md5 sha1 sha256 b64 v p p' hsig hok hb
    intro s g rest hpl
    -- the OPENPGP array is readable, so every step is header-only
    rcases mem_sigPlan.mp (hpl ▸ List.mem_cons_self) with ⟨_, _, _, _, _, rfl⟩ | ⟨hno, _⟩
    · exact hne
    · exact absurd hg (hno sigs)

/-- **tampering with the payload is rejected** (digest route; the OPENPGP signatures cover the header, the header
records the payload digest): `p'` records the same payload digest as `p` (e.g. its header is unchanged) but has
different content -/
theorem tamper_rejected_payload (v v' : Verifier) (p p' : Package) (l : List Bytes) (a a' : Nat)
    (hl : getStringArray p.md.header IndexTag.RPMTAG_PAYLOADDIGEST = .ok l)
    (ha : getU32 p.md.header IndexTag.RPMTAG_PAYLOADDIGESTALGO = .ok a)
    (hl' : getStringArray p'.md.header IndexTag.RPMTAG_PAYLOADDIGEST = .ok l)
    (ha' : getU32 p'.md.header IndexTag.RPMTAG_PAYLOADDIGESTALGO = .ok a')
    (hok : (verifySignatureS md5 sha1 sha256 b64 v p).1 = .ok ())
    (hne : p'.content ≠ p.content)
    (hnc : NoCollision sha256 p.content p'.content) :
    (verifySignatureS md5 sha1 sha256 b64 v' p').1 ≠ .ok () := by
  intro hok'
  have h1 := verifyDigests_ok_payload (verify_ok md5 sha1 sha256 b64 v p hok).1 hl ha
  have h2 := verifyDigests_ok_payload (verify_ok md5 sha1 sha256 b64 v' p' hok').1 hl' ha'
  rw [h1] at h2
  exact hnc (fun e => hne e.symm) (hexLower_inj (Option.some.inj h2))

/-- payload change under the legacy header+payload signature (verifier route): no readable OPENPGP array, the PGP
tag readable, same header bytes, different content -/
theorem tamper_rejected_pgp_payload (v : Verifier) (p p' : Package) (s : Bytes)
    (hsig : p'.md.signature = p.md.signature)
    (hno : ∀ l, getStringArray p.md.signature SigTag.RPMSIGTAG_OPENPGP ≠ .ok l)
    (hpgp : getBinary p.md.signature SigTag.RPMSIGTAG_PGP = .ok s)
    (hok : (verifySignatureS md5 sha1 sha256 b64 v p).1 = .ok ())
    (hb : Binds v (verifySignatureS md5 sha1 sha256 b64 v p).2)
    (hsame : writeHeader p'.md.header = writeHeader p.md.header)
    (hne : p'.content ≠ p.content) :
    (verifySignatureS md5 sha1 sha256 b64 v p').1 ≠ .ok () := by
  intro hok'
  have := tamper_same_data md5 sha1 sha256 b64 v p p' hsig hok hb hok'
    (mem_sigPlan.mpr (.inr ⟨hno, .inr (.inr ⟨hpgp, rfl⟩)⟩))
  simp only [dataFor, if_true, hsame] at this
  exact hne (List.append_cancel_left this)

/-! ## the model always passes the observer-level spec the driver applies to the implementation -/

def toSeen (c : Consult) : VerifySpec.Seen Bytes := ⟨c.data, c.sig, c.accepted⟩

/-- `excl` may be set only if the RPMSIGTAG_PGP binary cannot be mistaken for a header-only signature -/
def ExclOk (sig : Header) (excl : Bool) : Prop :=
  excl = true → ∀ s, getBinary sig SigTag.RPMSIGTAG_PGP = .ok s →
    (∀ l, getStringArray sig SigTag.RPMSIGTAG_OPENPGP ≠ .ok l) ∧
    getBinary sig SigTag.RPMSIGTAG_RSA ≠ .ok s ∧ getBinary sig SigTag.RPMSIGTAG_DSA ≠ .ok s

/-- one consult passes `dataRight` when it got the header bytes — and, should its signature be the PGP binary, `excl` is
off — or its signature is the PGP binary and it got header ++ payload -/
theorem dataRight_toSeen {hdr content : Bytes} {g : Out Bytes} {excl : Bool} {c : Consult}
    (h : (c.data = hdr ∧ (g = .ok c.sig → excl = false)) ∨ (g = .ok c.sig ∧ c.data = hdr ++ content)) :
    VerifySpec.dataRight id hdr content g.toOption excl (toSeen c) = true := by
  rcases h with ⟨rfl, hx⟩ | ⟨rfl, hd⟩
  · cases g with
    | ok s =>
      -- `dataRight` at `some s` is an `if` on `c.sig = s`
      by_cases hcs : c.sig = s
      · cases hx (hcs ▸ rfl)
        exact (if_pos hcs).trans (Bool.or_eq_true_iff.mpr (.inr (decide_eq_true rfl)))
      · exact (if_neg hcs).trans (decide_eq_true rfl)
    | _ => exact decide_eq_true rfl
  · exact (if_pos rfl).trans (Bool.or_eq_true_iff.mpr (.inl (decide_eq_true hd)))

theorem model_satisfies_spec (v : Verifier) (p : Package) (excl : Bool) (hex : ExclOk p.md.signature excl)
    (h : (verifySignatureS md5 sha1 sha256 b64 v p).1 = .ok ()) :
    VerifySpec.successAllowed id (writeHeader p.md.header) p.content
      (getBinary p.md.signature SigTag.RPMSIGTAG_PGP).toOption excl
      (decide (verifyDigests md5 sha1 sha256 p = .ok ()))
      ((verifySignatureS md5 sha1 sha256 b64 v p).2.map toSeen) = true := by
  obtain ⟨h1, h2, _, h4⟩ := verify_ok_sound md5 sha1 sha256 b64 v p h
  simp only [VerifySpec.successAllowed, Bool.and_eq_true, decide_eq_true_eq, Bool.not_eq_true', List.isEmpty_map,
    List.isEmpty_eq_false_iff, List.all_map, List.all_eq_true, Function.comp_apply]
  refine ⟨⟨⟨h4, h1⟩, h2⟩, fun c hc => dataRight_toSeen ?_⟩
  rcases verify_data_right md5 sha1 sha256 b64 v p c hc with ⟨_, hd, hsrc⟩ | ⟨_, hs, hd⟩
  · refine .inl ⟨hd, fun hpg => Bool.eq_false_iff.mpr fun he => ?_⟩
    obtain ⟨e1, e2, e3⟩ := hex he c.sig hpg
    rcases hsrc with ⟨l, hl⟩ | hr | hd'
    · exact e1 l hl
    · exact e2 hr
    · exact e3 hd'
  · exact .inr ⟨hs, hd⟩

section pgp
variable {K : Type} (E : PgpEnv K) (ring : KeyRing K)

/-- the keys `Verifier::verify` may try for a signature: the primary key when the signature names no issuer;
otherwise the primary key or a subkey whose key id is among the signature's issuer ids -/
def Selected (sig : Bytes) (k : K) : Prop :=
  match E.issuers sig with
  | none => False
  | some [] => k = ring.primary
  | some ids => (k = ring.primary ∧ E.kid ring.primary ∈ ids) ∨ (k ∈ ring.subkeys ∧ E.kid k ∈ ids)

/-- **soundness of rpm-rs's verifier (full statement)**: success ⇒ some selected key of the ring passed the early
checks and its real cryptographic check accepted this signature over the FULL data -/
theorem pgp_verifier_sound (data sig : Bytes)
    (h : (pgpVerifierVerify E ring data sig).1 = .ok ()) :
    ∃ k, Selected E ring sig k ∧ E.early k sig = false ∧ E.check k data sig = true := by
  unfold pgpVerifierVerify at h
  unfold Selected
  cases hi : E.issuers sig with
  | none => rw [hi] at h; cases h
  | some ids =>
    rw [hi] at h
    cases ids with
    | nil =>
      simp only at h
      cases hr : (attempt E ring.primary data sig).1
      · simp [hr] at h
      · exact ⟨ring.primary, rfl, attempt_ok hr⟩
    | cons id ids =>
      simp only at h
      exact issuerLoop_ok E ring data sig (id :: ids) false [] h

/-- a signature packet that does not parse is an error (before anything is read) -/
theorem pgp_verifier_unparsable (data sig : Bytes) (h : E.issuers sig = none) :
    pgpVerifierVerify E ring data sig = (.err "nosig", []) := by
  unfold pgpVerifierVerify; rw [h]

end pgp

/-! ## `Verifier::parse_signature`: framing → the FIRST packet that parses as a signature (gap G3)

`Pgp.parseSignature P blob` (Model/PgpFraming.lean) is `split_packets(blob)?` followed by `find_map` over the packets with the
`pgp` crate's per-packet parser `P` as a PARAMETER. Everything below holds for EVERY parser and EVERY blob. -/

section parse
open RpmVerif.Pgp
variable {σ : Type} (P : Bytes → Option σ)

/-- **`NoSignatureFound` exactly when the framing is broken or no packet parses as a signature** -/
theorem parse_none_iff (blob : Bytes) :
    Pgp.parseSignature P blob = none ↔
      splitPackets blob = none ∨ ∃ ps, splitPackets blob = some ps ∧ ∀ p ∈ ps, P p = none := by
  unfold Pgp.parseSignature
  cases hs : splitPackets blob with
  | none => simp
  | some ps => simp [List.findSome?_eq_none_iff]

/-- **which signature it is**: the result is `s` exactly when the blob is well framed, `s` is what the parser makes of
some packet `p`, and NO packet before `p` parses as a signature — whatever comes after `p` -/
theorem parse_some_iff (blob : Bytes) (s : σ) :
    Pgp.parseSignature P blob = some s ↔
      ∃ pre p post, splitPackets blob = some (pre ++ p :: post) ∧ (∀ q ∈ pre, P q = none) ∧ P p = some s := by
  unfold Pgp.parseSignature
  cases hs : splitPackets blob with
  | none => simp
  | some ps =>
    simp only [List.findSome?_eq_some_iff, Option.some.injEq]
    constructor
    · rintro ⟨l1, a, l2, rfl, ha, hl⟩; exact ⟨l1, a, l2, rfl, hl, ha⟩
    · rintro ⟨l1, a, l2, rfl, hl, ha⟩; exact ⟨l1, a, l2, rfl, ha, hl⟩

/-- a blob that IS one packet (its header declares its whole length) which the parser reads as a signature: that
signature — what `Signer::sign` output must satisfy for `signature_key_ids` / `verify` / the builder to see it -/
theorem parse_of_single_packet {p : Bytes} {h b : Nat} {s : σ} (hl : packetLens p = some (h, b))
    (hlen : h + b = p.length) (hp : P p = some s) : Pgp.parseSignature P p = some s := by
  unfold Pgp.parseSignature
  rw [split_single hl hlen]
  simp [hp]

/-- a leading packet that does not parse as a signature (another packet type, or garbage in a well-formed frame) is
skipped SILENTLY: the result is that of the rest of the blob -/
theorem leading_packet_skipped {j rest : Bytes} {h b : Nat} (hl : packetLens (j ++ rest) = some (h, b))
    (hlen : h + b = j.length) (hj : P j = none) : Pgp.parseSignature P (j ++ rest) = Pgp.parseSignature P rest := by
  unfold Pgp.parseSignature
  rw [split_cons hl hlen]
  cases splitPackets rest with
  | none => rfl
  | some ps => simp [hj]

/-- **the packets behind the first signature packet are never looked at** (packet-list form): two blobs whose packet
lists agree up to and including the first packet that parses as a signature have the same result, and the parser is
called on exactly that common part — whatever follows (a second signature, other packets, any well-framed bytes) is
neither parsed nor authenticated by `verify`, `signature_key_ids` or the builder -/
theorem trailing_packets_ignored {blob blob' : Bytes} {pre post post' : List Bytes} {p : Bytes} {s : σ}
    (hb : splitPackets blob = some (pre ++ p :: post)) (hb' : splitPackets blob' = some (pre ++ p :: post'))
    (hpre : ∀ q ∈ pre, P q = none) (hp : P p = some s) :
    Pgp.parseSignature P blob = some s ∧ Pgp.parseSignature P blob' = some s
      ∧ parserCalls P blob = pre ++ [p] ∧ parserCalls P blob' = pre ++ [p] :=
  ⟨(parse_some_iff P blob s).mpr ⟨pre, p, post, hb, hpre, hp⟩, (parse_some_iff P blob' s).mpr ⟨pre, p, post', hb', hpre, hp⟩,
   by unfold parserCalls; rw [hb]; exact consulted_of_hit hpre hp,
   by unfold parserCalls; rw [hb']; exact consulted_of_hit hpre hp⟩

/-- … byte form, for a blob that starts with the signature packet: ANY well-framed tail leaves the result unchanged and
is never shown to the parser -/
theorem trailing_bytes_ignored {p tail : Bytes} {h b : Nat} {s : σ} (hl : packetLens (p ++ tail) = some (h, b))
    (hlen : h + b = p.length) (hp : P p = some s) (ht : (splitPackets tail).isSome = true) :
    Pgp.parseSignature P (p ++ tail) = some s ∧ parserCalls P (p ++ tail) = [p] := by
  obtain ⟨ts, hts⟩ := Option.isSome_iff_exists.mp ht
  have hs : splitPackets (p ++ tail) = some ([] ++ p :: ts) := by rw [split_cons hl hlen, hts]; rfl
  have := trailing_packets_ignored P hs hs (fun _ h => by cases h) hp
  exact ⟨this.1, this.2.2.1⟩

/-- … but the tail must be well framed: trailing bytes that are not a sequence of packets make the whole blob
`NoSignatureFound`, although the signature packet in front is intact -/
theorem trailing_garbage_refused {p tail : Bytes} {h b : Nat} (hl : packetLens (p ++ tail) = some (h, b))
    (hlen : h + b = p.length) (ht : splitPackets tail = none) : Pgp.parseSignature P (p ++ tail) = none := by
  unfold Pgp.parseSignature
  rw [split_cons hl hlen, ht]; rfl

end parse

section pgpParsed
open RpmVerif.Pgp
variable {K σ : Type} (E : PgpPkt K σ) (ring : KeyRing K)

/-- the keys `Verifier::verify` may try for a PARSED signature `s` (as `Selected`, on the signature packet) -/
def SelectedP (s : σ) (k : K) : Prop :=
  match E.issuers s with
  | [] => k = ring.primary
  | ids => (k = ring.primary ∧ E.kid ring.primary ∈ ids) ∨ (k ∈ ring.subkeys ∧ E.kid k ∈ ids)

theorem selected_envAt (s : σ) (blob : Bytes) (k : K) : Selected (E.envAt s) ring blob k ↔ SelectedP E ring s k := by
  unfold Selected SelectedP
  show (match some (E.issuers s) with
    | none => False
    | some [] => k = ring.primary
    | some ids => (k = ring.primary ∧ E.kid ring.primary ∈ ids) ∨ (k ∈ ring.subkeys ∧ E.kid k ∈ ids)) ↔ _
  cases E.issuers s <;> rfl

/-- **soundness of rpm-rs's verifier down to the packet**: success ⇒ the blob is well framed, and the FIRST packet `p` the
`pgp` parser reads as a signature (no packet before it does) yields a signature `s` that some selected key of the ring
cryptographically accepts over the FULL data. The accepted signature is a function of `p`'s bytes alone. -/
theorem pgp_verifier_sound_parsed (data blob : Bytes) (h : (pgpVerifierVerifyP E ring data blob).1 = .ok ()) :
    ∃ pre p post s k, splitPackets blob = some (pre ++ p :: post) ∧ (∀ q ∈ pre, E.parsePkt q = none)
      ∧ E.parsePkt p = some s ∧ SelectedP E ring s k ∧ E.early k s = false ∧ E.check k data s = true := by
  unfold pgpVerifierVerifyP at h
  cases hp : Pgp.parseSignature E.parsePkt blob with
  | none => rw [hp] at h; cases h
  | some s =>
    rw [hp] at h
    obtain ⟨pre, p, post, hs, hpre, hpp⟩ := (parse_some_iff E.parsePkt blob s).mp hp
    obtain ⟨k, hsel, he, hc⟩ := pgp_verifier_sound (E.envAt s) ring data blob h
    exact ⟨pre, p, post, s, k, hs, hpre, hpp, (selected_envAt E ring s blob k).mp hsel, he, hc⟩

/-- broken framing, or no packet that parses as a signature: `NoSignatureFound` before anything is read or tried -/
theorem pgp_verifier_no_signature (data blob : Bytes)
    (h : splitPackets blob = none ∨ ∃ ps, splitPackets blob = some ps ∧ ∀ p ∈ ps, E.parsePkt p = none) :
    pgpVerifierVerifyP E ring data blob = (.err "nosig", []) := by
  unfold pgpVerifierVerifyP
  rw [(parse_none_iff E.parsePkt blob).mpr h]

/-- **the verdict ignores everything behind the first signature packet**: same packets up to and including the first
one that parses as a signature ⇒ same verdict, same attempts -/
theorem pgp_verifier_ignores_trailing (data : Bytes) {blob blob' : Bytes} {pre post post' : List Bytes} {p : Bytes} {s : σ}
    (hb : splitPackets blob = some (pre ++ p :: post)) (hb' : splitPackets blob' = some (pre ++ p :: post'))
    (hpre : ∀ q ∈ pre, E.parsePkt q = none) (hp : E.parsePkt p = some s) :
    pgpVerifierVerifyP E ring data blob = pgpVerifierVerifyP E ring data blob' := by
  have := trailing_packets_ignored E.parsePkt hb hb' hpre hp
  exact pgpVerifierVerifyP_same_parse E ring data blob blob' (by rw [this.1, this.2.1])

/-- the packet-level model is the blob-level model (`pgpVerifierVerify`, all theorems above) at
`issuers := fun b => (parseSignature parsePkt b).map issuers` -/
theorem pgp_verifier_parsed_eq (data blob : Bytes) :
    pgpVerifierVerifyP E ring data blob = pgpVerifierVerify E.toEnv ring data blob :=
  pgpVerifierVerifyP_eq_toEnv E ring data blob

end pgpParsed

/-! ### the same composition inside a signature scheme (`signature_key_ids`, `SignatureHeaderBuilder::build`) -/
section scheme
open RpmVerif.Pgp RpmVerif.Sign

theorem withParser_framed (S : SigScheme) (P : PktParser) : (S.withParser P).Framed P := fun _ => rfl

/-- **`IssuerOk` from packet-level facts**: if `S.issuer` is `parse_signature` + `issuer()`, every signature the signer
emits is exactly one packet (its header declares its whole length), and the `pgp` parser reads that packet as a signature
whose issuer list is the signer's key id, then a fresh signature names exactly its signer — the hypothesis of C10's
`history_keyids`, reduced to facts about single packets -/
theorem issuerOk_of_single_packet (S : SigScheme) (P : PktParser) (hf : S.Framed P)
    (hone : ∀ k m t, ∃ h b, packetLens (S.sign k m t) = some (h, b) ∧ h + b = (S.sign k m t).length)
    (hparse : ∀ k m t, ∃ s, P.parsePkt (S.sign k m t) = some s ∧ P.issuers s = [S.keyId k]) : S.IssuerOk := by
  intro k m t
  obtain ⟨h, b, hl, hlen⟩ := hone k m t
  obtain ⟨s, hs, hi⟩ := hparse k m t
  rw [hf, framedIssuer, parse_of_single_packet P.parsePkt hl hlen hs, Option.map_some, hi]

/-- the builder's legacy tag for a one-packet signature: decided by that packet's public-key algorithm -/
theorem builderTag_of_single_packet (P : PktParser) {sig : Bytes} {h b : Nat} {s : P.σ} (tbl : List (Nat × Nat))
    (hl : packetLens sig = some (h, b)) (hlen : h + b = sig.length) (hs : P.parsePkt sig = some s) :
    builderTag P sig tbl = match tbl.lookup (P.pubAlg s) with | some tag => .ok tag | none => .err "keytype" := by
  unfold builderTag
  rw [parse_of_single_packet P.parsePkt hl hlen hs]
  rfl

/-- key ids and builder tag are functions of the first signature packet: what follows it changes neither -/
theorem scheme_ignores_trailing (P : PktParser) {blob blob' : Bytes} {pre post post' : List Bytes} {p : Bytes} {s : P.σ}
    (hb : splitPackets blob = some (pre ++ p :: post)) (hb' : splitPackets blob' = some (pre ++ p :: post'))
    (hpre : ∀ q ∈ pre, P.parsePkt q = none) (hp : P.parsePkt p = some s) (tbl : List (Nat × Nat)) :
    framedIssuer P blob = some (P.issuers s) ∧ framedIssuer P blob' = some (P.issuers s)
      ∧ builderTag P blob tbl = builderTag P blob' tbl := by
  have := trailing_packets_ignored P.parsePkt hb hb' hpre hp
  refine ⟨by rw [framedIssuer, this.1]; rfl, by rw [framedIssuer, this.2.1]; rfl, ?_⟩
  unfold builderTag; rw [this.1, this.2.1]

end scheme

section examples

def hLen : Bytes → Bytes := fun b => [b.length.toUInt8]
def b64Id : Bytes → Option Bytes := fun b => if b.isEmpty then none else some b

def mainHdr : Header := ⟨0, 0, [], []⟩
def mainHdr2 : Header := ⟨0, 1, [], [7]⟩

/-- signature header: OPENPGP = ["a", "b"] (STRING_ARRAY), RSA = bin [9] -/
def sigOpenpgp : Header :=
  ⟨2, 0, [⟨278, .strArray [[97], [98]], 0, 2⟩, ⟨268, .bin [9], 0, 1⟩], []⟩
/-- legacy only: DSA, RSA and PGP as binaries -/
def sigLegacy : Header :=
  ⟨3, 0, [⟨1002, .bin [3], 0, 1⟩, ⟨268, .bin [2], 0, 1⟩, ⟨267, .bin [1], 0, 1⟩], []⟩
/-- OPENPGP of the wrong type (binary) and nothing else -/
def sigWrongType : Header := ⟨1, 0, [⟨278, .bin [1], 0, 1⟩], []⟩
/-- OPENPGP with zero entries -/
def sigEmpty : Header := ⟨1, 0, [⟨278, .strArray [], 0, 0⟩, ⟨268, .bin [9], 0, 1⟩], []⟩

def lead0 : Lead := ⟨3, 0, 0, 0, [], 0, 5, []⟩
def pkg (sig hdr : Header) (content : Bytes) : Package := ⟨⟨lead0, sig, hdr⟩, content⟩

def acceptAll : Verifier := fun _ _ _ => true
def acceptFirst : Verifier := fun pre _ _ => pre.isEmpty

/-- success is reachable, with two consults over the header bytes (the RSA copy is not consulted) -/
example : verifySignatureS hLen hLen hLen b64Id acceptAll (pkg sigOpenpgp mainHdr [5]) =
    (.ok (), [⟨writeHeader mainHdr, [97], true, false⟩, ⟨writeHeader mainHdr, [98], true, false⟩]) := by decide +kernel

/-- the legacy branch consults DSA, RSA (header) and PGP (header ++ payload) in the code's order -/
example : verifySignatureS hLen hLen hLen b64Id acceptAll (pkg sigLegacy mainHdr [5]) =
    (.ok (), [⟨writeHeader mainHdr, [1], true, false⟩, ⟨writeHeader mainHdr, [2], true, false⟩,
      ⟨writeHeader mainHdr ++ [5], [3], true, true⟩]) := by decide +kernel

/-- a rejection ends the run: the second OPENPGP signature is rejected, the log stops there -/
example : verifySignatureS hLen hLen hLen b64Id acceptFirst (pkg sigOpenpgp mainHdr [5]) =
    (.err "verify", [⟨writeHeader mainHdr, [97], true, false⟩, ⟨writeHeader mainHdr, [98], false, false⟩]) := by
  decide +kernel

/-- the hypotheses of `verify_no_sig_is_error` are satisfiable both ways -/
example : verifySignatureS hLen hLen hLen b64Id acceptAll (pkg sigEmpty mainHdr [5]) = (.err "nosig", []) := by
  decide +kernel
example : verifySignatureS hLen hLen hLen b64Id acceptAll (pkg sigWrongType mainHdr [5]) = (.err "nosig", []) := by
  decide +kernel
example : getStringArray sigEmpty SigTag.RPMSIGTAG_OPENPGP = .ok [] := by decide +kernel

/-- library shape with a SHA256 digest under the toy hash: `writeHeader mainHdr` has 16 bytes → digest [16] → "10" -/
def sigLib : Header :=
  ⟨2, 0, [⟨278, .strArray [[97]], 0, 1⟩, ⟨273, .str [49, 48], 0, 1⟩], []⟩

example : LibSigned sigLib := ⟨[[97]], [49, 48], by decide +kernel, by decide, by decide +kernel⟩

def vBind : Verifier := fun _ d s => decide (s = [97] ∧ d = writeHeader mainHdr)

example : (verifySignatureS hLen hLen hLen b64Id vBind (pkg sigLib mainHdr [5])).1 = .ok () := by decide +kernel

/-- the hypotheses of `tamper_rejected` are satisfiable: signed package `p`, tampered `p'` (one more store byte);
both routes apply here (the toy hash separates the two headers because their lengths differ) -/
example : (verifySignatureS hLen hLen hLen b64Id vBind (pkg sigLib mainHdr2 [5])).1 ≠ .ok () :=
  tamper_rejected hLen hLen hLen b64Id vBind (pkg sigLib mainHdr [5]) (pkg sigLib mainHdr2 [5])
    ⟨[[97]], [49, 48], by decide +kernel, by decide, by decide +kernel⟩ rfl (by decide +kernel) (by decide +kernel)
    (.inl (fun _ => by decide +kernel))

example : Binds vBind (verifySignatureS hLen hLen hLen b64Id vBind (pkg sigLib mainHdr [5])).2 := by
  intro c hc pre d hv
  have e : (verifySignatureS hLen hLen hLen b64Id vBind (pkg sigLib mainHdr [5])).2 =
      [⟨writeHeader mainHdr, [97], true, false⟩] := by decide +kernel
  rw [e] at hc
  simp only [List.mem_singleton] at hc
  subst hc
  simp only [vBind, decide_eq_true_eq] at hv
  exact hv.2

/-- and what happens WITHOUT them: with a colliding hash (constant) and a verifier that does not bind, the
tampered package verifies — the hypotheses of `tamper_rejected` are not decoration -/
example : (verifySignatureS (fun _ => [16]) (fun _ => [16]) (fun _ => [16]) b64Id acceptAll (pkg sigLib mainHdr2 [5])).1 = .ok () := by
  decide +kernel

def envEmpty : PgpEnv Nat where
  kid := fun k => k % 10
  issuers := fun sig => if sig = [0] then none else some (sig.map UInt8.toNat)
  early := fun _ _ => false
  /- key 17's "signature" checks only over the EMPTY message; nobody accepts anything else -/
  check := fun k d _ => k == 17 && d.isEmpty

def envGood : PgpEnv Nat where
  kid := fun k => k % 10
  issuers := fun sig => some (sig.map UInt8.toNat)
  early := fun _ _ => false
  check := fun k d _ => (k == 3 || k == 17) && d == [1, 2, 3]

example : (pgpVerifierVerify envGood ⟨3, [17]⟩ [1, 2, 3] [3]).1 = .ok () := by decide +kernel
example : (pgpVerifierVerify envGood ⟨3, [17]⟩ [1, 2, 3] [7, 7]).1 = .ok () := by decide +kernel
example : (pgpVerifierVerify envGood ⟨3, [17]⟩ [1, 2, 3] []).1 = .ok () := by decide +kernel
example : (pgpVerifierVerify envGood ⟨3, [17]⟩ [1, 2, 4] [3]).1 = .err "verify" := by decide +kernel
example : (pgpVerifierVerify envGood ⟨3, [17]⟩ [1, 2, 3] [5]).1 = .err "keynotfound" := by decide +kernel
/-- a failing subkey before the right one: the second attempt sees the full data and accepts -/
example : ((pgpVerifierVerify envGood ⟨3, [27, 17]⟩ [1, 2, 3] [7]).2.map fun a => (a.key, a.seen, a.ok)) =
    [(27, [1, 2, 3], false), (17, [1, 2, 3], true)] := by decide +kernel

/-- the inputs of the two old witnesses are REJECTED by the code as it is now -/
example : (pgpVerifierVerify envEmpty ⟨3, [17]⟩ [1, 2, 3] [7, 7]).1 = .err "verify"
    ∧ (pgpVerifierVerify envEmpty ⟨3, [27, 17]⟩ [1, 2, 3] [7]).1 = .err "verify" := by decide +kernel

/-! ### the defect repaired by c25de51 (about `pgpVerifierVerifyOld`, the code before that commit)

Before c25de51 the subkeys were tried with `signature.verify(sub_key, &mut data)` on ONE shared reader: the first
attempt that got as far as hashing consumed it, every later attempt verified over the empty remainder. A
signature made by a subkey over the EMPTY message, with its issuer id listed twice (the second Issuer subpacket
can sit in the unhashed area, which the signature does not cover), was therefore accepted for ANY data — confirmed
on the real code with the subkey of /repo/test_assets/secret_key.asc (regression case
`vobs rsa_test subkey-signed-empty-message-issuer-twice`). -/

/-- **old witness 1 (repeated issuer id)**: primary 3, one subkey 17 (key id 7), issuers [7, 7]: the old code returns
Ok although NO key of the ring accepts the data `[1,2,3]`; the accepting attempt saw the empty string -/
theorem old_verifier_repeated_issuer_witness :
    (pgpVerifierVerifyOld envEmpty ⟨3, [17]⟩ [1, 2, 3] [7, 7]).1 = .ok ()
    ∧ (∀ k ∈ [3, 17], envEmpty.check k [1, 2, 3] [7, 7] = false)
    ∧ ((pgpVerifierVerifyOld envEmpty ⟨3, [17]⟩ [1, 2, 3] [7, 7]).2.map fun a => (a.key, a.seen, a.ok)) =
        [(17, [1, 2, 3], false), (17, [], true)] := by decide +kernel

/-- **old witness 2 (two subkeys with the same key id)**: the second matching subkey saw the empty remainder -/
theorem old_verifier_same_id_subkeys_witness :
    (pgpVerifierVerifyOld envEmpty ⟨3, [27, 17]⟩ [1, 2, 3] [7]).1 = .ok ()
    ∧ (∀ k ∈ [3, 27, 17], envEmpty.check k [1, 2, 3] [7] = false)
    ∧ ((pgpVerifierVerifyOld envEmpty ⟨3, [27, 17]⟩ [1, 2, 3] [7]).2.map fun a => (a.key, a.seen, a.ok)) =
        [(27, [1, 2, 3], false), (17, [], true)] := by decide +kernel

/-! ### `parse_signature` (G3): a toy packet parser

A "signature" is an old-format tag-2 packet with a one-octet length (`88 <len> <body>`); the parsed value is the body,
read as the list of issuer key ids. `b4 …` is a user-id packet, `88 …` with the wrong length byte does not frame. -/

def toyParse : Bytes → Option (List Nat)
  | 0x88 :: _ :: body => some (body.map UInt8.toNat)
  | _ => none

/-- keys are numbers, key id = key mod 10; keys 3 and 17 accept every signature except the one naming issuer 9, over the
data `[1,2,3]` only -/
def envPkt : PgpPkt Nat (List Nat) where
  kid := fun k => k % 10
  parsePkt := toyParse
  issuers := fun s => s
  early := fun _ _ => false
  check := fun k d s => (k == 3 || k == 17) && d == [1, 2, 3] && s != [9]

/-- `[user-id][signature by 3]`: the junk packet in front is skipped, the signature verifies -/
example : (pgpVerifierVerifyP envPkt ⟨3, [17]⟩ [1, 2, 3] [0xb4, 1, 0x61, 0x88, 1, 3]).1 = .ok () := by decide +kernel
/-- `[signature naming 5][signature by 3]`: the FIRST signature decides — key 5 is not in the ring -/
example : (pgpVerifierVerifyP envPkt ⟨3, [17]⟩ [1, 2, 3] [0x88, 1, 5, 0x88, 1, 3]).1 = .err "keynotfound" := by
  decide +kernel
/-- the other data: rejected -/
example : (pgpVerifierVerifyP envPkt ⟨3, [17]⟩ [1, 2, 4] [0x88, 1, 3]).1 = .err "verify" := by decide +kernel
/-- both ways into `NoSignatureFound` (hypotheses of `parse_none_iff` / `pgp_verifier_no_signature`): broken framing
behind an intact signature packet, and a well-framed blob without any signature packet -/
example : Pgp.splitPackets [0x88, 1, 3, 0x00] = none
    ∧ (pgpVerifierVerifyP envPkt ⟨3, [17]⟩ [1, 2, 3] [0x88, 1, 3, 0x00]).1 = .err "nosig"
    ∧ Pgp.splitPackets [0xb4, 1, 0x61, 0xca, 0] = some [[0xb4, 1, 0x61], [0xca, 0]]
    ∧ (pgpVerifierVerifyP envPkt ⟨3, [17]⟩ [1, 2, 3] [0xb4, 1, 0x61, 0xca, 0]).1 = .err "nosig" := by decide +kernel
/-- hypotheses of `parse_of_single_packet` / `trailing_bytes_ignored` / `leading_packet_skipped` are satisfiable -/
example : Pgp.packetLens [0x88, 1, 3] = some (2, 1) ∧ toyParse [0x88, 1, 3] = some [3]
    ∧ Pgp.packetLens ([0x88, 1, 3] ++ [0xb4, 0]) = some (2, 1) ∧ (Pgp.splitPackets [0xb4, 0]).isSome = true
    ∧ Pgp.packetLens ([0xb4, 1, 0x61] ++ [0x88, 1, 3]) = some (2, 1) ∧ toyParse [0xb4, 1, 0x61] = none :=
  ⟨rfl, rfl, rfl, rfl, rfl, rfl⟩

/-- **trailing packets are ignored — witness**: the signature by key 3, alone, followed by a signature NOBODY accepts
(issuer 9: `check` refuses it for every key), followed by a user-id packet: the same verdict `Ok` and the same single
attempt each time — and the parser never saw the trailing packet. What follows the first signature packet of a
signature blob is neither verified nor reported by `signature_key_ids`. -/
theorem trailing_packets_witness :
    (pgpVerifierVerifyP envPkt ⟨3, [17]⟩ [1, 2, 3] [0x88, 1, 3]).1 = .ok ()
    ∧ (pgpVerifierVerifyP envPkt ⟨3, [17]⟩ [1, 2, 3] [0x88, 1, 3, 0x88, 1, 9]).1 = .ok ()
    ∧ (pgpVerifierVerifyP envPkt ⟨3, [17]⟩ [1, 2, 3] [0x88, 1, 3, 0xb4, 1, 0x61]).1 = .ok ()
    ∧ Pgp.parserCalls toyParse [0x88, 1, 3, 0x88, 1, 9] = [[0x88, 1, 3]]
    ∧ (∀ k ∈ [3, 17], envPkt.check k [1, 2, 3] [9] = false)
    -- the same two signatures in the other order: rejected (issuer 9 selects no key)
    ∧ (pgpVerifierVerifyP envPkt ⟨3, [17]⟩ [1, 2, 3] [0x88, 1, 9, 0x88, 1, 3]).1 = .err "keynotfound" := by
  decide +kernel

/-- a toy scheme over the toy parser: key `k` signs with the one-packet blob `88 01 k`; key id = `[k]` -/
def toyPkt : Sign.PktParser where
  σ := Bytes
  parsePkt := fun p => match p with | 0x88 :: _ :: body => some body | _ => none
  issuers := fun s => [s]
  pubAlg := fun s => (s.headD 0).toNat

def toyScheme : Sign.SigScheme :=
  Sign.SigScheme.withParser
    { Key := UInt8, decEq := inferInstance, sign := fun k _ _ => [0x88, 1, k], verify := fun _ _ _ => false,
      issuer := fun _ => none, keyId := fun k => [k], legacyTag := fun _ => 268, b64enc := id, b64dec := some } toyPkt

/-- the hypotheses of `issuerOk_of_single_packet` hold for it, so it yields `IssuerOk` -/
example : toyScheme.IssuerOk :=
  issuerOk_of_single_packet toyScheme toyPkt (withParser_framed _ _)
    (fun _ _ _ => ⟨2, 1, rfl, rfl⟩) (fun k _ _ => ⟨[k], rfl, rfl⟩)

/-- the builder's tag is that of the FIRST signature: `[alg 22][alg 1]` → DSA tag, `[alg 1][alg 22]` → RSA tag, an
algorithm outside the table → error, no signature packet → `NoSignatureFound` -/
example : Sign.builderTag toyPkt [0x88, 1, 22, 0x88, 1, 1] = .ok SigTag.RPMSIGTAG_DSA
    ∧ Sign.builderTag toyPkt [0x88, 1, 1, 0x88, 1, 22] = .ok SigTag.RPMSIGTAG_RSA
    ∧ Sign.builderTag toyPkt [0x88, 1, 17] = .err "keytype"
    ∧ Sign.builderTag toyPkt [0xb4, 1, 0x61] = .err "nosig" := by decide +kernel

end examples

/-- the whole signature-header tag table scraped from src/constants.rs carries the numbers of rpm's `rpmtag.h`
(RPMSIGTAG_DSA 267, RSA 268, OPENPGP 278, PGP 1002, GPG 1005; the size and digest tags): a signature looked up under
another number is "absent" on every package rpm signed, and a signature stored under another number is one rpm ignores -/
theorem signature_tags_standard :
    Gen.sigTagTable = [("HEADER_SIGNATURES", 62), ("RPMSIGTAG_SIZE", 1000), ("RPMSIGTAG_PAYLOADSIZE", 1007), ("RPMSIGTAG_SHA1", 269),
      ("RPMSIGTAG_MD5", 1004), ("RPMSIGTAG_DSA", 267), ("RPMSIGTAG_RSA", 268), ("RPMSIGTAG_LONGSIZE", 270),
      ("RPMSIGTAG_LONGARCHIVESIZE", 271), ("RPMSIGTAG_FILESIGNATURES", 274), ("RPMSIGTAG_FILESIGNATURE_LENGTH", 275),
      ("RPMSIGTAG_VERITYSIGNATURES", 276), ("RPMSIGTAG_VERITYSIGNATUREALGO", 277), ("RPMSIGTAG_OPENPGP", 278),
      ("RPMSIGTAG_PGP", 1002), ("RPMSIGTAG_GPG", 1005), ("RPMSIGTAG_SHA256", 273), ("RPMTAG_INSTALLTIME", 1008)]
    ∧ SigTag.RPMSIGTAG_DSA = 267 ∧ SigTag.RPMSIGTAG_RSA = 268 ∧ SigTag.RPMSIGTAG_OPENPGP = 278
    ∧ SigTag.RPMSIGTAG_PGP = 1002 ∧ SigTag.RPMSIGTAG_GPG = 1005 ∧ SigTag.HEADER_SIGNATURES = 62
    ∧ IndexTag.RPMTAG_HEADERIMMUTABLE = 63 := ⟨rfl, rfl, rfl, rfl, rfl, rfl, rfl, rfl⟩

end RpmVerif.C02
