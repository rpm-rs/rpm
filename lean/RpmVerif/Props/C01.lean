import RpmVerif.Lemmas.Header
import RpmVerif.Spec.Canon
/-!
# C01 — parse then write reproduces the package byte for byte

For every byte string `bs` (any length, any entry counts, any store sizes) accepted by the parser
model: the written bytes are `canon bs` (input with the reserved bytes of both intros and the
signature padding zeroed), and they are a fixpoint (parse to the same value, re-write identically).
-/
namespace RpmVerif.C01
open RpmVerif.Hdr RpmVerif.Canon RpmVerif.Gen

theorem u32At_be32 (pre post : Bytes) {n : Nat} (hn : n < 4294967296) :
    u32At (pre ++ be32 n ++ post) pre.length = n := by
  simp only [u32At, List.append_assoc, List.drop_left, be32, List.cons_append, List.nil_append, toNat_toUInt8_mod, horner4,
    be32_value hn]

theorem hdrBytes_length {res : Bytes} {h : Header} (hr : res.length = 4) (wf : HeaderWF h) :
    (hdrBytes res h).length = 16 + 16 * h.nEntries + h.dataSize := by
  rw [hdrBytes_size hr wf.nEq wf.dlEq, Header.size, ihs, ies, Nat.mul_comm]

/-- the two length fields of an intro, read where the spec reads them (byte 8 and byte 12) -/
theorem hdrLen_append {pre t : Bytes} {n dl : Nat} (hp : pre.length = 8) (hn : n < 4294967296) (hd : dl < 4294967296) :
    hdrLen (pre ++ (be32 n ++ (be32 dl ++ t))) = 16 + 16 * n + dl ∧ sigPadOf (pre ++ (be32 n ++ (be32 dl ++ t))) = sigPad dl := by
  have a := u32At_be32 pre (be32 dl ++ t) hn
  have b := u32At_be32 (pre ++ be32 n) t hd
  rw [hp, List.append_assoc] at a
  rw [List.length_append, hp, be32_length, List.append_assoc, List.append_assoc] at b
  rw [hdrLen, sigPadOf, a, b, sigPad]
  exact ⟨rfl, rfl⟩

theorem hdrLen_hdrBytes {res : Bytes} {h : Header} (hr : res.length = 4) (wf : HeaderWF h) (x : Bytes) :
    hdrLen (hdrBytes res h ++ x) = 16 + 16 * h.nEntries + h.dataSize ∧ sigPadOf (hdrBytes res h ++ x) = sigPad h.dataSize := by
  have hp : (HEADER_MAGIC ++ [1] ++ res).length = 8 := by rw [List.length_append, hr]; rfl
  simp only [hdrBytes, List.append_assoc]
  rw [← List.append_assoc [1], ← List.append_assoc HEADER_MAGIC]
  exact hdrLen_append hp wf.nLt wf.dlLt
theorem zeroReserved_append {a res t : Bytes} (ha : a.length = 4) (hr : res.length = 4) :
    zeroReserved (a ++ (res ++ t)) = a ++ ([0, 0, 0, 0] ++ t) := by
  rw [zeroReserved, List.take_left' ha, ← List.append_assoc a, List.drop_left' (by rw [List.length_append, ha, hr]),
    List.append_assoc]

theorem zeroReserved_hdrBytes {res : Bytes} (h : Header) (hr : res.length = 4) (x : Bytes) :
    zeroReserved (hdrBytes res h ++ x) = hdrBytes [0, 0, 0, 0] h ++ x := by
  simp only [hdrBytes, List.append_assoc]
  rw [← List.append_assoc HEADER_MAGIC, zeroReserved_append rfl hr, List.append_assoc]
theorem canon_segments {L S P T : Bytes} (hL : L.length = 96) (hS : hdrLen (S ++ (P ++ T)) = S.length)
    (hP : sigPadOf (S ++ (P ++ T)) = P.length) :
    canon (L ++ (S ++ (P ++ T))) = L ++ zeroReserved S ++ List.replicate P.length 0 ++ zeroReserved T := by
  simp only [canon, ← hL, List.take_left, List.drop_left, hS, hP]
  rw [← List.length_append, ← List.append_assoc S, List.drop_left]

theorem canon_metaBytes {m : Metadata} (wf : MetadataWF m) {res1 pad res2 : Bytes} (h1 : res1.length = 4)
    (hpad : pad.length = sigPad m.signature.dataSize) (h2 : res2.length = 4) (rest : Bytes) :
    canon (metaBytes res1 pad res2 m ++ rest) =
      metaBytes [0, 0, 0, 0] (List.replicate (sigPad m.signature.dataSize) 0) [0, 0, 0, 0] m ++ rest := by
  obtain ⟨hlen, hp⟩ := hdrLen_hdrBytes h1 wf.sig (pad ++ (hdrBytes res2 m.header ++ rest))
  have z1 := zeroReserved_hdrBytes m.signature h1 []
  rw [List.append_nil, List.append_nil] at z1
  simp only [metaBytes, List.append_assoc]
  rw [canon_segments (writeLead_length wf.lead) (hlen.trans (hdrBytes_length h1 wf.sig).symm) (hp.trans hpad.symm), z1,
    zeroReserved_hdrBytes m.header h2 rest, hpad]
  simp only [List.append_assoc]
/-- **write ∘ parse = canon** for package metadata: whatever follows the metadata is untouched. -/
theorem metadata_write_parse {bs m rest} (hp : parseMetadata bs = .ok (m, rest)) :
    writeMetadata m ++ rest = canon bs := by
  obtain ⟨res1, pad, res2, h1, hpad, h2, hbs, wf⟩ := parseMetadata_ok hp
  rw [hbs, canon_metaBytes wf h1 hpad h2, writeMetadata_eq]

theorem metadata_fixpoint {bs m rest} (hp : parseMetadata bs = .ok (m, rest)) :
    parseMetadata (writeMetadata m ++ rest) = .ok (m, rest) := by
  obtain ⟨_, _, _, _, _, _, _, wf⟩ := parseMetadata_ok hp
  rw [writeMetadata_eq]
  exact parseMetadata_write wf rfl List.length_replicate rfl rest

/-- the written bytes of EVERY well-formed package value (parsed or not) parse to that value and re-write identically -/
theorem wf_fixpoint {p : Package} (wf : MetadataWF p.md) :
    parsePackage (writePackage p) = .ok p
    ∧ (∀ p', parsePackage (writePackage p) = .ok p' → writePackage p' = writePackage p) := by
  have hfix : parsePackage (writePackage p) = .ok p := by
    rw [writePackage, writeMetadata_eq]
    exact parsePackage_write wf rfl List.length_replicate rfl p.content
  exact ⟨hfix, fun p' hp' => by rw [hfix] at hp'; cases hp'; rfl⟩

/-- **Main theorem (packages)**: for every accepted byte string, writing the parsed package gives the
canonical bytes; those bytes parse to a value equal to the first parse result and re-write identically. -/
theorem package_roundtrip {bs p} (hp : parsePackage bs = .ok p) :
    writePackage p = canon bs
    ∧ parsePackage (writePackage p) = .ok p
    ∧ (∀ p', parsePackage (writePackage p) = .ok p' → writePackage p' = writePackage p) := by
  obtain ⟨res1, pad, res2, h1, hpad, h2, hbs, wf⟩ := parsePackage_ok hp
  refine ⟨?_, wf_fixpoint wf⟩
  rw [hbs, canon_metaBytes wf h1 hpad h2, writePackage, writeMetadata_eq]

theorem canon_idem {bs p} (hp : parsePackage bs = .ok p) : canon (canon bs) = canon bs := by
  obtain ⟨h1, h2, _⟩ := package_roundtrip hp
  have := (package_roundtrip h2).1
  rw [h1] at this
  exact this.symm

theorem canon_accepted {bs p} (hp : parsePackage bs = .ok p) : parsePackage (canon bs) = .ok p := by
  obtain ⟨h1, h2, _⟩ := package_roundtrip hp
  rw [← h1]; exact h2

/-- **the parser loses nothing but the permitted difference**: two accepted byte strings with the same parsed value
have the same canonical bytes (they differ at most in the reserved bytes and the signature padding) -/
theorem parse_injective_mod_canon {a b p} (ha : parsePackage a = .ok p) (hb : parsePackage b = .ok p) :
    canon a = canon b := by
  rw [← (package_roundtrip ha).1, ← (package_roundtrip hb).1]

theorem parse_eq_of_canon_eq {a b p q} (ha : parsePackage a = .ok p) (hb : parsePackage b = .ok q)
    (h : canon a = canon b) : p = q := by
  have h1 := canon_accepted ha
  have h2 := canon_accepted hb
  rw [h, h2] at h1
  simpa using h1.symm

theorem roundtrip_exact_iff {bs p} (hp : parsePackage bs = .ok p) : writePackage p = bs ↔ canon bs = bs := by
  rw [(package_roundtrip hp).1]

theorem lead_roundtrip {b l} (hp : parseLead b = .ok l) : writeLead l = b ∧ parseLead (writeLead l) = .ok l := by
  obtain ⟨rfl, wf⟩ := parseLead_ok hp
  exact ⟨rfl, parseLead_write wf⟩

theorem header_roundtrip {bs h rest} (hp : parseHeader bs = .ok (h, rest)) :
    writeHeader h ++ rest = zeroReserved bs ∧ parseHeader (writeHeader h ++ rest) = .ok (h, rest) := by
  obtain ⟨res, hr, rfl, wf⟩ := parseHeader_ok hp
  rw [zeroReserved_hdrBytes h hr rest, writeHeader_eq]
  exact ⟨rfl, parseHeader_write wf rfl rest⟩

theorem write_injective {p q : Package} (wp : MetadataWF p.md) (wq : MetadataWF q.md)
    (h : writePackage p = writePackage q) : p = q := by
  have h1 := (wf_fixpoint wp).1
  have h2 := (wf_fixpoint wq).1
  rw [h, h2] at h1
  simpa using h1.symm

/-- **a parsed package whose signature header was cleared (`clear()`) or replaced by `new_empty()`**: what is written is
the lead, the 16-byte empty intro, the main header and the payload; those bytes are a fixpoint -/
theorem cleared_fixpoint {bs p} (hp : parsePackage bs = .ok p) :
    let p' : Package := ⟨{ p.md with signature := p.md.signature.clear }, p.content⟩
    p'.md.signature = Header.empty
    ∧ writePackage p' = writeLead p.md.lead ++ writeIntro 0 0 ++ writeHeader p.md.header ++ p.content
    ∧ parsePackage (writePackage p') = .ok p'
    ∧ (∀ p'', parsePackage (writePackage p') = .ok p'' → writePackage p'' = writePackage p') := by
  intro p'
  have wf := parsePackage_wf hp
  have wf' : MetadataWF p'.md := ⟨wf.lead, headerWF_empty, wf.hdr⟩
  refine ⟨rfl, ?_, wf_fixpoint wf'⟩
  have e : writeSignature Header.empty = writeIntro 0 0 := rfl
  show writeLead p.md.lead ++ writeSignature Header.empty ++ writeHeader p.md.header ++ p.content = _
  rw [e]

/-! ### non-vacuity: a concrete accepted package with non-zero reserved bytes, non-zero padding,
a BIN entry in the signature header, a STRING and an INT32 entry in the main header, 2 payload bytes -/
def sample : Bytes := [237, 171, 238, 219, 3, 0, 0, 0, 0, 1, 116, 0, 0, 0, 0, 0, 0, 0, 0, 0, 0, 0, 0, 0, 0, 0, 0, 0, 0, 0, 0, 0, 0, 0, 0, 0, 0, 0, 0, 0, 0, 0, 0, 0, 0, 0, 0, 0, 0, 0, 0, 0, 0, 0, 0, 0, 0, 0, 0, 0, 0, 0, 0, 0, 0, 0, 0, 0, 0, 0, 0, 0, 0, 0, 0, 0, 0, 1, 0, 5, 0, 0, 0, 0, 0, 0, 0, 0, 0, 0, 0, 0, 0, 0, 0, 0, 142, 173, 232, 1, 170, 187, 204, 221, 0, 0, 0, 1, 0, 0, 0, 5, 0, 0, 3, 232, 0, 0, 0, 7, 0, 0, 0, 0, 0, 0, 0, 5, 104, 101, 108, 108, 111, 7, 7, 7, 142, 173, 232, 1, 1, 2, 3, 4, 0, 0, 0, 2, 0, 0, 0, 8, 0, 0, 3, 232, 0, 0, 0, 6, 0, 0, 0, 0, 0, 0, 0, 1, 0, 0, 3, 233, 0, 0, 0, 4, 0, 0, 0, 4, 0, 0, 0, 1, 97, 98, 99, 0, 0, 0, 0, 7, 9, 9]

def samplePkg : Package :=
  ⟨⟨⟨3, 0, 0, 1, 116 :: List.replicate 65 0, 1, 5, List.replicate 16 0⟩,
    ⟨1, 5, [⟨1000, .bin [104, 101, 108, 108, 111], 0, 5⟩], [104, 101, 108, 108, 111]⟩,
    ⟨2, 8, [⟨1000, .str [97, 98, 99], 0, 1⟩, ⟨1001, .int32 [7], 4, 1⟩], [97, 98, 99, 0, 0, 0, 0, 7]⟩⟩, [9, 9]⟩

theorem sample_parsed : parsePackage sample = .ok samplePkg := by decide +kernel

example : (parsePackage sample).isOk = true := by rw [sample_parsed]; rfl
-- the permitted difference is real: the canonical bytes differ from the input (reserved bytes, padding)
example : canon sample ≠ sample := by decide +kernel
example : (parsePackage sample).map (fun p => p.md.header.entries.map (·.data)) =
    .ok [.str [97, 98, 99], .int32 [7]] := by rw [sample_parsed]; rfl

-- clearing the signature header of the sample changes what is written (16 bytes instead of 40) and the result is still a fixpoint
example : (parsePackage sample).map (fun p => (writePackage ⟨{ p.md with signature := p.md.signature.clear }, p.content⟩).length) = .ok 170 := by
  rw [sample_parsed]; decide +kernel
example : sample.length = 194 := by decide +kernel

end RpmVerif.C01
