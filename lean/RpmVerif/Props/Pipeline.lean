import RpmVerif.Lemmas.Pipeline
import RpmVerif.Props.C01
import RpmVerif.Props.C07
import RpmVerif.Props.C08
/-!
# Pipeline — end-to-end guarantees for packages made by the library's own builder

The per-property files prove one layer each (C01 / C06 header codec and read-back, C07 cpio, C08 recorded
digests, C03 / C10 `verify_digests`, `sign`, `verify_signature`, C09 validity, C16 offsets). This file COMPOSES
them at the package `PackageBuilder::build` returns — `Bld.build c now (hexOf sha256) archive payload`, written `𝐁`
below, with `𝐱 = mkCtx c now (hexOf sha256 payload) (hexOf sha256 archive)` its header context — for EVERY
configuration `c`, clock value `now`, archive and payload bytes, EVERY hash functions `md5 sha1 sha256` (the builder
is given `hexOf sha256 = hex ∘ sha256`, which is what `hex::encode(Sha256::digest(..))` is) and EVERY signature
scheme `S` satisfying C10's named laws. No layer is re-proved here.

`built_package_sound` collects the clauses about `𝐁` in one statement. Besides: `section stacked` (the archive written the
way the code writes it, through the hashing writer into the compressor: `build_with_spec`, `built_item_digests`) and
`history_header_digest_fresh` (the header digest after sign / clear from ANY start package).

Hypotheses (all explicit): `C06.Valid 𝐱` (canonical strings / integers, main header below 2 GiB — needed for
everything that goes through the written bytes, not for `build_verifies_digests`); `DigestFits` (the hex digest
of the main header is shorter than 2 GiB — an ARBITRARY function `sha256` may return anything; any real digest
has 64 characters; implied by C10's `SigRecsOk`); C10's scheme laws.
-/
namespace RpmVerif.Pipeline
open RpmVerif.Hdr RpmVerif.Gen RpmVerif.Bld RpmVerif.Digest RpmVerif.Sign RpmVerif.Cpio

section built
variable (md5 sha1 sha256 : Bytes → Bytes) (c : Cfg) (now : Nat) (archive payload : Bytes)

/-- the package `PackageBuilder::build` returns -/
local notation "𝐁" => build c now (hexOf sha256) archive payload
/-- the context of its main header: build time and the two payload digests -/
local notation "𝐱" => mkCtx c now (hexOf sha256 payload) (hexOf sha256 archive)

theorem build_header : (𝐁).md.header = C06.hdrOf 𝐱 := rfl
theorem build_lead : (𝐁).md.lead = leadNew c.name := rfl
theorem build_content : (𝐁).content = payload := rfl
/-- the signature header of `build` is the one `clear_signatures` installs: the header digest only -/
theorem build_fresh : Fresh sha256 𝐁 := rfl

/-- the payload block of `verify_digests` accepts: PAYLOADDIGEST = [hex sha256 payload] (C08), algorithm 8 = SHA-256 -/
theorem build_payload_digest_ok : C10.PayloadDigestOk sha256 𝐁 := by
  have h1 := C08.payload_digest 𝐱
  have h2 := C08.payload_digest_algo 𝐱
  show checkPayload sha256 ⟨⟨_, _, C06.hdrOf 𝐱⟩, payload⟩ = .ok ()
  simp only [checkPayload, h1, h2, algo8]
  simp [mkCtx]

/-- **build_verifies_digests**: no MD5 / SHA1 tag, SHA256 = hex digest of the written main header, payload digest
= hex digest of the payload under algorithm 8 — for every configuration, valid or not -/
theorem build_verifies_digests : verifyDigests md5 sha1 sha256 𝐁 = .ok () :=
  fresh_verifies md5 sha1 (build_fresh sha256 c now archive payload) (build_payload_digest_ok sha256 c now archive payload)

/-- nothing `verify_signature` looks at is present: an unsigned package verifies with no key -/
theorem build_unsigned : C10.Unsigned (𝐁).md.signature :=
  fresh_unsigned (build_fresh sha256 c now archive payload)

/-- the built metadata is well formed (so C01 / C06 / C10 / C16 apply) -/
theorem build_metadata_wf (v : C06.Valid 𝐱) (hfit : DigestFits sha256 (writeHeader (C06.hdrOf 𝐱))) : MetadataWF (𝐁).md :=
  fresh_wf (build_fresh sha256 c now archive payload) (C06.leadNew_wf _) (C06.hdr_wf v) hfit

theorem build_reparse (v : C06.Valid 𝐱) (hfit : DigestFits sha256 (writeHeader (C06.hdrOf 𝐱))) :
    parsePackage (writePackage 𝐁) = .ok 𝐁 :=
  C06.build_reparse v (clearRecs_ok (sigRecsOk_noKey hfit)) payload

/-- **build_reparse_verifies**: what `Package::parse` returns for the written package is the built value, and it
passes `verify_digests`; the written bytes are already canonical (C01: reserved bytes and signature padding
zero), so parse → write reproduces the file byte for byte -/
theorem build_reparse_verifies (v : C06.Valid 𝐱) (hfit : DigestFits sha256 (writeHeader (C06.hdrOf 𝐱))) :
    ∃ p', parsePackage (writePackage 𝐁) = .ok p' ∧ p' = 𝐁 ∧ verifyDigests md5 sha1 sha256 p' = .ok ()
      ∧ writePackage p' = writePackage 𝐁 ∧ Canon.canon (writePackage 𝐁) = writePackage 𝐁 :=
  ⟨_, build_reparse sha256 c now archive payload v hfit, rfl, build_verifies_digests md5 sha1 sha256 c now archive payload, rfl,
   (C01.package_roundtrip (build_reparse sha256 c now archive payload v hfit)).1.symm⟩

section history
variable {S : SigScheme}

/-- **no history fails**; its result is the built package with the signature header of the final signature state -/
theorem built_history_total (hl : S.LegacyOk) (v : C06.Valid 𝐱) (ok : SigRecsOk S sha256 (writeHeader (C06.hdrOf 𝐱)))
    (ops : List (Op S.Key)) :
    run S sha256 ops 𝐁 = .ok (C10.stateOf S sha256 𝐁 (stateAfter .initial ops)) :=
  C10.run_total hl (build_metadata_wf sha256 c now archive payload v ok.sha) ok ops

/-- **digests verify after every history** (the empty one and write + re-parse only included) -/
theorem built_history_digests (hl : S.LegacyOk) (v : C06.Valid 𝐱) (ok : SigRecsOk S sha256 (writeHeader (C06.hdrOf 𝐱)))
    (ops : List (Op S.Key)) {p : Package} (h : run S sha256 ops 𝐁 = .ok p) :
    verifyDigests md5 sha1 sha256 p = .ok () :=
  fresh_history_digests (build_fresh sha256 c now archive payload) hl (build_metadata_wf sha256 c now archive payload v ok.sha) ok
    (build_payload_digest_ok sha256 c now archive payload) ops h

/-- **exactly the last signer's key verifies** -/
theorem built_history_verify (hl : S.LegacyOk) (hc : S.Correct) (hbind : S.Binds) (hb64 : S.B64) (v : C06.Valid 𝐱)
    (ok : SigRecsOk S sha256 (writeHeader (C06.hdrOf 𝐱))) (ops : List (Op S.Key)) (k : S.Key)
    (hs : lastSigner ops = some k) {p : Package} (h : run S sha256 ops 𝐁 = .ok p) (k' : S.Key) :
    verifyWith S md5 sha1 sha256 k' p = .ok () ↔ k' = k :=
  C10.history_verify hl hc hbind hb64 (build_metadata_wf sha256 c now archive payload v ok.sha) ok
    (build_payload_digest_ok sha256 c now archive payload) ops k hs h k'

/-- never signed, or cleared since the last signature: no key verifies -/
theorem built_history_verify_none (hl : S.LegacyOk) (v : C06.Valid 𝐱)
    (ok : SigRecsOk S sha256 (writeHeader (C06.hdrOf 𝐱))) (ops : List (Op S.Key))
    (hs : lastSigner ops = none) {p : Package} (h : run S sha256 ops 𝐁 = .ok p) (k' : S.Key) :
    verifyWith S md5 sha1 sha256 k' p ≠ .ok () :=
  C10.history_verify_none hl (build_metadata_wf sha256 c now archive payload v ok.sha) ok
    (build_unsigned sha256 c now archive payload) ops hs h k'

/-- **exactly the last signer's key id is reported** -/
theorem built_history_keyids (hl : S.LegacyOk) (hi : S.IssuerOk) (hb64 : S.B64) (v : C06.Valid 𝐱)
    (ok : SigRecsOk S sha256 (writeHeader (C06.hdrOf 𝐱))) (ops : List (Op S.Key)) (k : S.Key)
    (hs : lastSigner ops = some k) {p : Package} (h : run S sha256 ops 𝐁 = .ok p) :
    keyIds S p = .ok [S.keyId k] :=
  C10.history_keyids hl hi hb64 (build_metadata_wf sha256 c now archive payload v ok.sha) ok ops k hs h

/-- after a clear no signer is reported -/
theorem built_history_keyids_cleared (hl : S.LegacyOk) (v : C06.Valid 𝐱)
    (ok : SigRecsOk S sha256 (writeHeader (C06.hdrOf 𝐱))) (ops : List (Op S.Key))
    (hs : stateAfter .initial ops = .cleared) {p : Package} (h : run S sha256 ops 𝐁 = .ok p) :
    keyIds S p = .err "nosig" :=
  C10.history_keyids_cleared hl (build_metadata_wf sha256 c now archive payload v ok.sha) ok ops hs h

/-- **main header, lead and payload are the built ones** — as values and as serialised bytes -/
theorem built_history_bytes (hl : S.LegacyOk) (v : C06.Valid 𝐱) (ok : SigRecsOk S sha256 (writeHeader (C06.hdrOf 𝐱)))
    (ops : List (Op S.Key)) {p : Package} (h : run S sha256 ops 𝐁 = .ok p) :
    writeHeader p.md.header = writeHeader (C06.hdrOf 𝐱) ∧ p.content = payload
    ∧ p.md.header = C06.hdrOf 𝐱 ∧ p.md.lead = leadNew c.name :=
  C10.history_bytes (p0 := 𝐁) hl (build_metadata_wf sha256 c now archive payload v ok.sha) ok ops h

/-- every reachable package is well formed and write + re-parse is the identity on it -/
theorem built_history_reparse (hl : S.LegacyOk) (v : C06.Valid 𝐱) (ok : SigRecsOk S sha256 (writeHeader (C06.hdrOf 𝐱)))
    (ops : List (Op S.Key)) {p : Package} (h : run S sha256 ops 𝐁 = .ok p) :
    MetadataWF p.md ∧ parsePackage (writePackage p) = .ok p :=
  ⟨C10.history_wf hl (build_metadata_wf sha256 c now archive payload v ok.sha) ok ops h,
   C10.history_writeParse hl (build_metadata_wf sha256 c now archive payload v ok.sha) ok ops h⟩

end history

section buildAndSign
variable (S : SigScheme)

/-- `PackageBuilder::build_and_sign(signer of k)`: the signature time is the clock read `now'` taken before `build`
reads the clock itself (`now`), clamped by the source date like the build time; then `build`, then
`sign_with_timestamp` -/
def buildAndSign (now' : Nat) (k : S.Key) : Package :=
  signOp S sha256 k (clampNow c.sourceDate now') 𝐁

variable {S}

/-- **build_sign_verifies**: the package `build_and_sign` returns verifies with the signer's key and with no other -/
theorem build_sign_verifies (hl : S.LegacyOk) (hc : S.Correct) (hbind : S.Binds) (hb64 : S.B64) (v : C06.Valid 𝐱)
    (ok : SigRecsOk S sha256 (writeHeader (C06.hdrOf 𝐱))) (now' : Nat) (k k' : S.Key) :
    verifyWith S md5 sha1 sha256 k' (buildAndSign sha256 c now archive payload S now' k) = .ok () ↔ k' = k :=
  built_history_verify md5 sha1 sha256 c now archive payload hl hc hbind hb64 v ok [.sign k (clampNow c.sourceDate now')] k
    (lastSigner_sign _ _) (run_sign S sha256 _ _ _) k'

/-- … reports exactly the signer's key id … -/
theorem build_sign_keyids (hl : S.LegacyOk) (hi : S.IssuerOk) (hb64 : S.B64) (v : C06.Valid 𝐱)
    (ok : SigRecsOk S sha256 (writeHeader (C06.hdrOf 𝐱))) (now' : Nat) (k : S.Key) :
    keyIds S (buildAndSign sha256 c now archive payload S now' k) = .ok [S.keyId k] :=
  built_history_keyids sha256 c now archive payload hl hi hb64 v ok [.sign k (clampNow c.sourceDate now')] k
    (lastSigner_sign _ _) (run_sign S sha256 _ _ _)

/-- … passes `verify_digests` … -/
theorem build_sign_digests (hl : S.LegacyOk) (v : C06.Valid 𝐱)
    (ok : SigRecsOk S sha256 (writeHeader (C06.hdrOf 𝐱))) (now' : Nat) (k : S.Key) :
    verifyDigests md5 sha1 sha256 (buildAndSign sha256 c now archive payload S now' k) = .ok () :=
  built_history_digests md5 sha1 sha256 c now archive payload hl v ok [.sign k (clampNow c.sourceDate now')]
    (run_sign S sha256 _ _ _)

/-- … and survives write → parse unchanged, with the main header and payload of the unsigned build -/
theorem build_sign_reparse (hl : S.LegacyOk) (v : C06.Valid 𝐱)
    (ok : SigRecsOk S sha256 (writeHeader (C06.hdrOf 𝐱))) (now' : Nat) (k : S.Key) :
    parsePackage (writePackage (buildAndSign sha256 c now archive payload S now' k))
        = .ok (buildAndSign sha256 c now archive payload S now' k)
    ∧ (buildAndSign sha256 c now archive payload S now' k).md.header = C06.hdrOf 𝐱
    ∧ (buildAndSign sha256 c now archive payload S now' k).content = payload :=
  ⟨(built_history_reparse sha256 c now archive payload hl v ok [.sign k (clampNow c.sourceDate now')]
      (run_sign S sha256 _ _ _)).2, rfl, rfl⟩

end buildAndSign

/-- **build_offsets**: C16 `offsets_exact` at the built package — the offsets `get_package_segment_offsets`
reports are the real boundaries of lead, signature header, main header and payload in the written file -/
theorem build_offsets (v : C06.Valid 𝐱) (hfit : DigestFits sha256 (writeHeader (C06.hdrOf 𝐱))) :
    let o := offsets (𝐁).md
    let w := writePackage 𝐁
    o.lead = 0 ∧ o.sig = (writeLead (leadNew c.name)).length
    ∧ w.drop o.sig = writeSignature (𝐁).md.signature ++ writeHeader (C06.hdrOf 𝐱) ++ payload
    ∧ w.drop o.hdr = writeHeader (C06.hdrOf 𝐱) ++ payload
    ∧ w.drop o.payload = payload
    ∧ w.length - o.payload = payload.length
    ∧ 0 < o.sig ∧ o.sig < o.hdr ∧ o.hdr < o.payload :=
  C16.offsets_exact (build_metadata_wf sha256 c now archive payload v hfit) payload

end built

section files

/-- the size list as `get_file_entries` reads it: LONGFILESIZES when present, else FILESIZES -/
def fileSizes (h : Header) : Out (List Nat) :=
  match getU64Array h IndexTag.RPMTAG_LONGFILESIZES with
  | .ok v => .ok v
  | _ => getU32Array h IndexTag.RPMTAG_FILESIZES

/-- `Package::files()` as far as paths, sizes and contents go: `get_file_entries` returns no entries when
FILEMODES is absent, else paths come from `get_file_paths` and sizes from the size tags; the payload goes
through the decompressor and the cpio iterator (C07's `Cpio.files`) -/
def pkgFiles (decompress : Bytes → Out Bytes) (p : Package) : Out (List (Out (Nat × Bytes))) :=
  if Acc.isNotFound (getU16Array p.md.header IndexTag.RPMTAG_FILEMODES) then Cpio.files decompress p.content [] []
  else do
    let paths ← Acc.getFilePaths p.md.header
    let sizes ← fileSizes p.md.header
    Cpio.files decompress p.content paths sizes

theorem fileSizes_hdrOf (x : Ctx) (he : x.c.files.isEmpty = false) :
    fileSizes (C06.hdrOf x) = .ok (x.c.files.map (·.size)) := by
  unfold fileSizes
  rcases C06.readback_sizes x he with ⟨_, h⟩ | ⟨_, h1, h2⟩
  · rw [h]
  · rw [h1]; exact h2

variable (sha256 : Bytes → Bytes) (c : Cfg) (now : Nat)

/-- what `files()` reads from the built header: the builder's paths (`dir ++ base name`) and sizes, in file order -/
theorem build_file_lists (archive payload : Bytes) (hd : DirsOk c) (decompress : Bytes → Out Bytes) :
    pkgFiles decompress (build c now (hexOf sha256) archive payload) =
      Cpio.files decompress payload (c.files.map fun f => Acc.pathJoin f.dir f.baseName) (c.files.map (·.size)) := by
  let x := mkCtx c now (hexOf sha256 payload) (hexOf sha256 archive)
  show pkgFiles decompress ⟨⟨_, _, C06.hdrOf x⟩, payload⟩ = _
  cases he : c.files.isEmpty with
  | true =>
    have hemp : c.files = [] := List.isEmpty_iff.mp he
    have e : getU16Array (C06.hdrOf x) IndexTag.RPMTAG_FILEMODES = .err "notfound" :=
      C06.getter_of_empty_slot IndexData.asU16Array (x := x) (C06.mem_slot_first rfl (i := 21) rfl) (if_pos he)
    simp only [pkgFiles, e, Acc.isNotFound, if_true, hemp, List.map_nil]
  | false =>
    have e : getU16Array (C06.hdrOf x) IndexTag.RPMTAG_FILEMODES = .ok (c.files.map (·.mode)) := C06.readback_modes x he
    have ep : Acc.getFilePaths (C06.hdrOf x) = .ok (c.files.map fun f => Acc.pathJoin f.dir f.baseName) :=
      C06.readback_paths x he hd
    simp only [pkgFiles, e, Acc.isNotFound, Bool.false_eq_true, if_false, fileSizes_hdrOf x he, ep]
    rfl

/-- **build_files_roundtrip**: the builder's files `fes` (entry + content, in `BTreeMap` = path order; `add_data`
guarantees `FileOk`, `DirShape`, `DirsOk` — C17), archived by `prepare_data` (standard or large-file form), compressed
by ANY codec that round-trips: `files()` on the built package yields exactly these files, in that order, each under
its own index with its exact content -/
theorem build_files_roundtrip (fes : List (FileE × Bytes)) (hfiles : c.files = fes.map (·.1)) (hd : DirsOk c)
    (hf : ∀ p ∈ fes, C09.FileOk p) (hs : ∀ p ∈ fes, DirShape p.1) (hnd : (fes.map (·.1.cpioPath)).Nodup)
    (hn : fes.length < 4294967295) {uid gid : Nat} (hu : uid < 4294967296) (hg : gid < 4294967296)
    (compress : Bytes → Bytes) (decompress : Bytes → Out Bytes) (hcd : ∀ b, decompress (compress b) = .ok b) :
    pkgFiles decompress (build c now (hexOf sha256) (C09.archiveFor c uid gid fes) (compress (C09.archiveFor c uid gid fes)))
      = .ok (fes.zipIdx.map fun x => .ok (x.2, x.1.2)) := by
  rw [build_file_lists sha256 c now _ _ hd, hfiles, header_paths_eq hf hs, header_sizes_eq hf]
  have hok : ∀ f ∈ fes.map C09.toFileIn, f.OK := by
    intro f hfm; obtain ⟨p, hp, rfl⟩ := List.mem_map.mp hfm; exact (hf p hp).ok
  have hout : ((fes.map C09.toFileIn).zipIdx.map fun x => (Out.ok (x.2, x.1.content) : Out (Nat × Bytes)))
      = fes.zipIdx.map fun x => .ok (x.2, x.1.2) := by
    rw [List.zipIdx_map, List.map_map]
    rfl
  unfold C09.archiveFor
  split
  · rw [C07.files_of_build_large compress decompress hcd (fes.map C09.toFileIn) (by simp; omega), hout]
  · rw [C07.files_of_build compress decompress hcd hu hg (fes.map C09.toFileIn) hok (by simp; omega)
      (header_paths_nodup hf hs hnd), hout]

/-- **build_valid** (C09 at the built package): it re-parses to itself and satisfies every structural rule of
`PackageValid` — lead, both headers, signature-header limits, tag types, signature padding, compressor magic, PAYLOADFLAGS,
rpmlib() features (all thirteen), cpio archive -/
theorem build_valid (archive payload : Bytes) {fes : List (FileE × Bytes)}
    (ok : C09.CfgOk (mkCtx c now (hexOf sha256 payload) (hexOf sha256 archive)) fes)
    (hsha : (shaHex sha256 (writeHeader (C06.hdrOf (mkCtx c now (hexOf sha256 payload) (hexOf sha256 archive))))).length < 67108000)
    {uid gid : Nat} (hu : uid < 4294967296) (hg : gid < 4294967296)
    (hc : C09.CodecMagic c.compression payload (C09.archiveFor c uid gid fes)) :
    parsePackage (writePackage (build c now (hexOf sha256) archive payload)) = .ok (build c now (hexOf sha256) archive payload)
    ∧ RpmValid.PackageValid (writePackage (build c now (hexOf sha256) archive payload)) (build c now (hexOf sha256) archive payload)
        (C09.archiveFor c uid gid fes) :=
  C09.build_valid ok (sigsOk_nil hsha) hu hg payload hc

/-- **build_file_entries**: `get_file_entries()` on the package `build` returns lists exactly the builder's files, in
path order — destination path, mode, owner, group, `min(mtime, source_date)`, size, flags, SHA-256 digest,
capabilities, link target (`C06.entryOf`). `DirsOk`: `add_data` registers every file's directory; `DigestsOk`:
every stored digest text is empty or 64 characters (`add_data` stores a hex SHA-256). No validity hypothesis. -/
theorem build_file_entries (archive payload : Bytes) (hd : DirsOk c) (hdig : C06.DigestsOk c) :
    Acc.getFileEntries (build c now (hexOf sha256) archive payload).md.signature
        (build c now (hexOf sha256) archive payload).md.header =
      .ok (c.files.map (C06.entryOf (mkCtx c now (hexOf sha256 payload) (hexOf sha256 archive)))) :=
  C06.readback_file_entries_build c now (hexOf sha256) archive payload hd hdig

/-- … and on what `Package::parse` returns for the written package -/
theorem build_file_entries_reparsed (archive payload : Bytes)
    (v : C06.Valid (mkCtx c now (hexOf sha256 payload) (hexOf sha256 archive)))
    (hfit : DigestFits sha256 (writeHeader (C06.hdrOf (mkCtx c now (hexOf sha256 payload) (hexOf sha256 archive)))))
    (hd : DirsOk c) (hdig : C06.DigestsOk c) :
    ∃ p', parsePackage (writePackage (build c now (hexOf sha256) archive payload)) = .ok p'
      ∧ Acc.getFileEntries p'.md.signature p'.md.header =
          .ok (c.files.map (C06.entryOf (mkCtx c now (hexOf sha256 payload) (hexOf sha256 archive)))) :=
  ⟨_, build_reparse sha256 c now archive payload v hfit, build_file_entries sha256 c now archive payload hd hdig⟩

/-- no signature header the library installs (by `build`, `sign`, `clear_signatures`) carries IMA file signatures -/
theorem sigFor_no_ima {S : SigScheme} (hl : S.LegacyOk) (archive payload : Bytes) (s : SigState S.Key) :
    getStringArray (C10.sigFor S sha256 (build c now (hexOf sha256) archive payload) s) SigTag.RPMSIGTAG_FILESIGNATURES
      = .err "notfound" := by
  cases s with
  | initial => exact C06.signatureHeader_no_ima [] _ (fun _ h => by cases h)
  | cleared => exact C06.signatureHeader_no_ima [] _ (fun _ h => by cases h)
  | signed k t =>
    refine C06.signatureHeader_no_ima _ _ (fun s h => ?_)
    simp only [List.getLast?_singleton, Option.some.injEq] at h
    subst h
    exact legacyTag_elim hl k (P := (· ≠ SigTag.RPMSIGTAG_FILESIGNATURES)) (by decide) (by decide)

/-- **built_history_file_entries**: build, then ANY sequence of sign / clear / write + re-parse — `get_file_entries()`
on the result still lists exactly the builder's files -/
theorem built_history_file_entries {S : SigScheme} (archive payload : Bytes) (hl : S.LegacyOk)
    (v : C06.Valid (mkCtx c now (hexOf sha256 payload) (hexOf sha256 archive)))
    (ok : SigRecsOk S sha256 (writeHeader (C06.hdrOf (mkCtx c now (hexOf sha256 payload) (hexOf sha256 archive)))))
    (hd : DirsOk c) (hdig : C06.DigestsOk c) (ops : List (Op S.Key)) {p : Package}
    (h : run S sha256 ops (build c now (hexOf sha256) archive payload) = .ok p) :
    Acc.getFileEntries p.md.signature p.md.header =
      .ok (c.files.map (C06.entryOf (mkCtx c now (hexOf sha256 payload) (hexOf sha256 archive)))) := by
  rw [built_history_total sha256 c now archive payload hl v ok ops] at h
  cases h
  exact C06.readback_file_entries (mkCtx c now (hexOf sha256 payload) (hexOf sha256 archive)) _
    (sigFor_no_ima sha256 c now hl archive payload _) hd hdig

end files

/-! ### archive, payload and file digests of `build`, with the archive written the way the code writes it

Everything above takes `archive` and `payload` as given.  `ShaSink.buildWith` (Model/ShaSink.lean) is `build` with the
archive part of `prepare_data` spelled out: the cpio writer on top of `Sha256Writer` on top of the compressor (any
behaviour `comp`, any `finish_compression` = `fin`).  When it returns a package, that package IS `Bld.build` at the cpio
archive of the builder's files and at the payload the compressor handed back for exactly that input — so every theorem of
this file applies to it with `archive := C09.archiveFor c uid gid fes`. -/
section stacked
open RpmVerif.ShaSink

theorem archiveOfFiles_eq (c : Cfg) (uid gid : Nat) (fes : List (FileE × Bytes)) :
    C08.archiveOfFiles (usesLargeFiles c) uid gid (fes.map C09.toFileIn) = C09.archiveFor c uid gid fes := rfl

/-- the large-file switch off ⇒ every content fits a `u32` (`entry.size` = `content.len()`, threshold ≤ `u32::MAX`) -/
theorem contents_fit (c : Cfg) (fes : List (FileE × Bytes)) (hfiles : c.files = fes.map (·.1))
    (hsz : ∀ p ∈ fes, p.1.size = p.2.length) (hthr : c.largeFileThreshold ≤ 4294967295) (hl : usesLargeFiles c = false) :
    ∀ f ∈ fes.map C09.toFileIn, f.content.length ≤ 4294967295 := by
  intro f hf
  obtain ⟨p, hp, rfl⟩ := List.mem_map.mp hf
  have h1 : p.1.size ∈ c.files.map (·.size) := by
    rw [hfiles, List.map_map]; exact List.mem_map.mpr ⟨p, hp, rfl⟩
  have h2 := mem_le_sum h1
  have h3 : ¬ (combinedSize c > c.largeFileThreshold) := by simpa [usesLargeFiles] using hl
  unfold combinedSize at h3
  show p.2.length ≤ 4294967295
  rw [← hsz p hp]; omega

variable (sha256 : Bytes → Bytes) (c : Cfg) (now : Nat)

/-- **build_with_spec** — the package `build` returns, with the archive written through the hashing writer into the
compressor, is `Bld.build` at
* `archive` = the cpio archive of the builder's files (standard or large-file form), which is what was HASHED for
  PAYLOADDIGESTALT and what the compressor was FED, and
* `payload` = what `finish_compression` returned for the compressor after exactly that input (`comp` fresh: `out = []`).
Hypotheses: `c.files` are the header-side entries of `fes`, sizes are content lengths (`add_data`; C08
`file_digest_is_content_digest`), the large-file threshold is at most `u32::MAX` (it is `u32::MAX`, or the hook's value). -/
theorem build_with_spec (fin : PWriter.Sink → Out Bytes) {uid gid : Nat} (fes : List (FileE × Bytes)) (comp : PWriter.Sink)
    (hfiles : c.files = fes.map (·.1)) (hsz : ∀ p ∈ fes, p.1.size = p.2.length)
    (hthr : c.largeFileThreshold ≤ 4294967295) (hfresh : comp.out = []) {p : Package}
    (h : buildWith fin c now (hexOf sha256) uid gid (fes.map C09.toFileIn) comp = .ok p) :
    p = build c now (hexOf sha256) (C09.archiveFor c uid gid fes) p.content
    ∧ ∃ comp', comp'.out = C09.archiveFor c uid gid fes ∧ fin comp' = .ok p.content := by
  unfold buildWith at h
  cases hd : prepareDigests fin (hexOf sha256) (usesLargeFiles c) uid gid (fes.map C09.toFileIn) comp with
  | ok d =>
    rw [hd] at h
    simp only [Out.ok.injEq] at h
    obtain ⟨e1, e2, comp', e3, e4⟩ := C08.prepare_digests_spec fin (hexOf sha256) (usesLargeFiles c) uid gid
      (fes.map C09.toFileIn) comp (fun hl => contents_fit c fes hfiles hsz hthr hl) d hd
    rw [archiveOfFiles_eq] at e1 e3
    rw [hfresh, List.nil_append] at e3
    subst h
    refine ⟨?_, comp', e3, e4⟩
    simp only [build, e1, e2]
  | err x => rw [hd] at h; cases h
  | panic x => rw [hd] at h; cases h

/-- **build_with_digests** — the three recorded digests of that package: PAYLOADDIGESTALT is the digest of the cpio
archive of the files, PAYLOADDIGEST the digest of the payload (the compressor's output for that archive), RPMSIGTAG_SHA256
the digest of the serialised main header -/
theorem build_with_digests (fin : PWriter.Sink → Out Bytes) {uid gid : Nat} (fes : List (FileE × Bytes)) (comp : PWriter.Sink)
    (hfiles : c.files = fes.map (·.1)) (hsz : ∀ p ∈ fes, p.1.size = p.2.length)
    (hthr : c.largeFileThreshold ≤ 4294967295) (hfresh : comp.out = []) {p : Package}
    (h : buildWith fin c now (hexOf sha256) uid gid (fes.map C09.toFileIn) comp = .ok p) :
    getStringArray p.md.header IndexTag.RPMTAG_PAYLOADDIGESTALT = .ok [hexOf sha256 (C09.archiveFor c uid gid fes)]
    ∧ getStringArray p.md.header IndexTag.RPMTAG_PAYLOADDIGEST = .ok [hexOf sha256 p.content]
    ∧ getString p.md.signature SigTag.RPMSIGTAG_SHA256 = .ok (hexOf sha256 (writeHeader p.md.header))
    ∧ ∃ comp', comp'.out = C09.archiveFor c uid gid fes ∧ fin comp' = .ok p.content := by
  obtain ⟨e, hc⟩ := build_with_spec sha256 c now fin fes comp hfiles hsz hthr hfresh h
  have hb := C08.build_digests c now (hexOf sha256) (C09.archiveFor c uid gid fes) p.content
  simp only at hb
  rw [← e] at hb
  exact ⟨hb.2.2, hb.2.1, hb.1, hc⟩

/-- `files()` on a package whose payload DECOMPRESSES to the builder's archive (no compressor function needed) -/
theorem build_files_of_decompressed (fes : List (FileE × Bytes)) (hfiles : c.files = fes.map (·.1)) (hd : DirsOk c)
    (hf : ∀ p ∈ fes, C09.FileOk p) (hs : ∀ p ∈ fes, DirShape p.1) (hnd : (fes.map (·.1.cpioPath)).Nodup)
    (hn : fes.length < 4294967295) {uid gid : Nat} (hu : uid < 4294967296) (hg : gid < 4294967296)
    (decompress : Bytes → Out Bytes) (payload : Bytes) (hdec : decompress payload = .ok (C09.archiveFor c uid gid fes)) :
    pkgFiles decompress (build c now (hexOf sha256) (C09.archiveFor c uid gid fes) payload)
      = .ok (fes.zipIdx.map fun x => .ok (x.2, x.1.2)) := by
  have h := build_files_roundtrip sha256 c now fes hfiles hd hf hs hnd hn hu hg id .ok (fun _ => rfl)
  rw [build_file_lists sha256 c now _ _ hd] at h ⊢
  simp only [Cpio.files, id, Out.bind_ok, hdec] at h ⊢
  exact h

/-- **built_item_digests** — the digest and size clauses of C07 for packages built by the library, end to end: the
archive written through the hashing writer and ANY compressor whose output decompresses to its input, `files()` on the
package `build` returns. Every item `(k, content)` it yields — `content` handed out with the metadata of header file `k` —
satisfies: RPMTAG_FILEDIGESTS[k] is the digest of `content`, and the recorded size of file `k` is `content.len()`.
`hinv` is what C08 `file_digest_is_content_digest` proves for every sequence of `with_file` calls. -/
theorem built_item_digests (fin : PWriter.Sink → Out Bytes) (decompress : Bytes → Out Bytes)
    (hcd : ∀ s q, fin s = .ok q → decompress q = .ok s.out)
    {uid gid : Nat} (hu : uid < 4294967296) (hg : gid < 4294967296)
    (fes : List (FileE × Bytes)) (comp : PWriter.Sink) (hfiles : c.files = fes.map (·.1)) (hd : DirsOk c)
    (hf : ∀ p ∈ fes, C09.FileOk p) (hs : ∀ p ∈ fes, DirShape p.1) (hnd : (fes.map (·.1.cpioPath)).Nodup)
    (hn : fes.length < 4294967295) (hne : fes ≠ [])
    (hinv : ∀ p ∈ fes, p.1.shaHex = hexOf sha256 p.2 ∧ p.1.size = p.2.length)
    (hthr : c.largeFileThreshold ≤ 4294967295) (hfresh : comp.out = []) {p : Package}
    (h : buildWith fin c now (hexOf sha256) uid gid (fes.map C09.toFileIn) comp = .ok p) :
    ∃ digests sizes items,
      getStringArray p.md.header IndexTag.RPMTAG_FILEDIGESTS = .ok digests
      ∧ fileSizes p.md.header = .ok sizes
      ∧ pkgFiles decompress p = .ok items
      ∧ items.length = fes.length
      ∧ ∀ k content, .ok (k, content) ∈ items →
          digests[k]? = some (hexOf sha256 content) ∧ sizes[k]? = some content.length := by
  obtain ⟨e, comp', hc1, hc2⟩ := build_with_spec sha256 c now fin fes comp hfiles (fun p hp => (hinv p hp).2) hthr hfresh h
  have hdec : decompress p.content = .ok (C09.archiveFor c uid gid fes) := by rw [hcd comp' _ hc2, hc1]
  have hitems := build_files_of_decompressed sha256 c now fes hfiles hd hf hs hnd hn hu hg decompress p.content hdec
  have hnemp : c.files.isEmpty = false := by
    rw [hfiles, List.isEmpty_map]
    exact List.isEmpty_eq_false_iff.mpr hne
  obtain ⟨hdig, hsizes⟩ := C08.file_digests_of_contents
    (mkCtx c now (hexOf sha256 p.content) (hexOf sha256 (C09.archiveFor c uid gid fes))) (hexOf sha256) fes hfiles hnemp hinv
  have hfs := (fileSizes_hdrOf _ hnemp).trans (congrArg Out.ok hsizes)
  rw [e]
  refine ⟨_, _, _, hdig, hfs, hitems, by rw [List.length_map, List.length_zipIdx], ?_⟩
  intro k content hmem
  obtain ⟨⟨q, j⟩, hq, heq⟩ := List.mem_map.mp hmem
  cases heq
  simp only [List.getElem?_map, List.mem_zipIdx_iff_getElem?.mp hq, Option.map_some, and_self]

end stacked

section anyStart
variable {S : SigScheme} (sha256 : Bytes → Bytes)

/-- **history_header_digest_fresh** — start from ANY package with a well-formed lead and main header (whatever
`Package::parse` returns; its signature header, its recorded digests and its payload may be anything — no
`PayloadDigestOk`, nothing about RPMSIGTAG_SHA256 of the start): after any history that begins with a sign or a clear
(then any sequence of sign / clear / write + re-parse) the header digest in the signature header IS the digest of the
serialised main header, which is still the start package's -/
theorem history_header_digest_fresh {p0 p : Package} (hl : S.LegacyOk) (wl : LeadWF p0.md.lead) (wh : HeaderWF p0.md.header)
    (ok : SigRecsOk S sha256 (writeHeader p0.md.header)) (o : Op S.Key) (ho : (SigState.initial).after o ≠ .initial)
    (os : List (Op S.Key)) (h : run S sha256 (o :: os) p0 = .ok p) :
    getString p.md.signature SigTag.RPMSIGTAG_SHA256 = .ok (shaHex sha256 (writeHeader p.md.header))
    ∧ p.md.header = p0.md.header ∧ p.content = p0.content := by
  rw [C10.run_total_any hl wl wh ok o ho os] at h
  cases h
  refine ⟨?_, rfl, rfl⟩
  cases hst : stateAfter (SigState.initial (K := S.Key)) (o :: os) with
  | initial => exact absurd (C10.stateAfter_eq_initial (s := (SigState.initial).after o) hst) ho
  | cleared => exact cleared_sha256 sha256 _
  | signed k t => exact signed_sha256 sha256 hl k t _

end anyStart

/-- **built_package_sound**: for every valid configuration, clock value, archive, payload, hash functions and
signature scheme (C10's laws), the package `𝐁` that `build` returns
1. passes `verify_digests`;
2. written and parsed again is the same value (which therefore passes as well), and no key verifies it;
3. reports segment offsets that are the real boundaries in the written bytes;
4. under ANY history of sign / clear / write + re-parse: the history does not fail, the result re-parses to itself,
   passes `verify_digests`, carries the built main header, lead and payload byte for byte, verifies with exactly the last
   signer's key (with none if there is none) and reports exactly that signer's key id;
5. in particular `build_and_sign` with key `k` verifies with `k` only and reports `k`'s id;
6. when every file's directory is registered and every digest text is empty or 64 characters (both guaranteed by
   `add_data`), `get_file_entries()` after ANY such history (the empty one included) lists exactly the builder's files
   with their exact attributes. -/
theorem built_package_sound (md5 sha1 sha256 : Bytes → Bytes) (c : Cfg) (now : Nat) (archive payload : Bytes)
    {S : SigScheme} (hl : S.LegacyOk) (hc : S.Correct) (hbind : S.Binds) (hi : S.IssuerOk) (hb64 : S.B64)
    (v : C06.Valid (mkCtx c now (hexOf sha256 payload) (hexOf sha256 archive)))
    (ok : SigRecsOk S sha256 (writeHeader (C06.hdrOf (mkCtx c now (hexOf sha256 payload) (hexOf sha256 archive))))) :
    let B := build c now (hexOf sha256) archive payload
    let hb := writeHeader (C06.hdrOf (mkCtx c now (hexOf sha256 payload) (hexOf sha256 archive)))
    -- 1
    verifyDigests md5 sha1 sha256 B = .ok ()
    -- 2
    ∧ parsePackage (writePackage B) = .ok B
    ∧ (∀ k', verifyWith S md5 sha1 sha256 k' B ≠ .ok ())
    -- 3
    ∧ ((writePackage B).drop (offsets B.md).sig = writeSignature B.md.signature ++ hb ++ payload
       ∧ (writePackage B).drop (offsets B.md).hdr = hb ++ payload
       ∧ (writePackage B).drop (offsets B.md).payload = payload
       ∧ (offsets B.md).lead = 0 ∧ (offsets B.md).sig < (offsets B.md).hdr ∧ (offsets B.md).hdr < (offsets B.md).payload)
    -- 4
    ∧ (∀ ops : List (Op S.Key), ∃ p, run S sha256 ops B = .ok p
        ∧ parsePackage (writePackage p) = .ok p
        ∧ verifyDigests md5 sha1 sha256 p = .ok ()
        ∧ writeHeader p.md.header = hb ∧ p.md.lead = leadNew c.name ∧ p.content = payload
        ∧ (∀ k, lastSigner ops = some k →
            (∀ k', verifyWith S md5 sha1 sha256 k' p = .ok () ↔ k' = k) ∧ keyIds S p = .ok [S.keyId k])
        ∧ (lastSigner ops = none → ∀ k', verifyWith S md5 sha1 sha256 k' p ≠ .ok ()))
    -- 5
    ∧ (∀ now' k, (∀ k', verifyWith S md5 sha1 sha256 k' (buildAndSign sha256 c now archive payload S now' k) = .ok () ↔ k' = k)
        ∧ keyIds S (buildAndSign sha256 c now archive payload S now' k) = .ok [S.keyId k]
        ∧ verifyDigests md5 sha1 sha256 (buildAndSign sha256 c now archive payload S now' k) = .ok ())
    -- 6
    ∧ (DirsOk c → C06.DigestsOk c → ∀ (ops : List (Op S.Key)) (p : Package), run S sha256 ops B = .ok p →
        Acc.getFileEntries p.md.signature p.md.header =
          .ok (c.files.map (C06.entryOf (mkCtx c now (hexOf sha256 payload) (hexOf sha256 archive))))) := by
  intro B hb
  have hoff := build_offsets sha256 c now archive payload v ok.sha
  obtain ⟨o1, _, o3, o4, o5, _, _, o8, o9⟩ := hoff
  refine ⟨build_verifies_digests md5 sha1 sha256 c now archive payload, build_reparse sha256 c now archive payload v ok.sha,
    fun k' => C10.verify_unsigned (build_unsigned sha256 c now archive payload) k', ⟨o3, o4, o5, o1, o8, o9⟩, ?_, ?_,
    fun hd hdig ops p h => built_history_file_entries sha256 c now archive payload hl v ok hd hdig ops h⟩
  · intro ops
    have h := built_history_total sha256 c now archive payload hl v ok ops
    obtain ⟨b1, b2, _, b4⟩ := built_history_bytes sha256 c now archive payload hl v ok ops h
    exact ⟨_, h, (built_history_reparse sha256 c now archive payload hl v ok ops h).2,
      built_history_digests md5 sha1 sha256 c now archive payload hl v ok ops h, b1, b4, b2,
      fun k hs => ⟨fun k' => built_history_verify md5 sha1 sha256 c now archive payload hl hc hbind hb64 v ok ops k hs h k',
        built_history_keyids sha256 c now archive payload hl hi hb64 v ok ops k hs h⟩,
      fun hs k' => built_history_verify_none md5 sha1 sha256 c now archive payload hl v ok ops hs h k'⟩
  · intro now' k
    exact ⟨fun k' => build_sign_verifies md5 sha1 sha256 c now archive payload hl hc hbind hb64 v ok now' k k',
      build_sign_keyids sha256 c now archive payload hl hi hb64 v ok now' k,
      build_sign_digests md5 sha1 sha256 c now archive payload hl v ok now' k⟩

/-! ### non-vacuity: C06's sample configuration (one file, a scriptlet, gzip), the real cpio archive of its file,
C10's toy hash functions and symbolic signature scheme -/
section nonvacuity
open RpmVerif.Sign.Sym

/-- the builder's file with its content (C09's sample: `/a`, mode 0100644, three bytes) -/
def sFes : List (FileE × Bytes) := [(C09.sampleFile, [1, 2, 3])]
/-- the cpio archive `prepare_data` writes for it (uid = gid = 0), and a toy codec that puts gzip's magic in front -/
def sArchive : Bytes := C09.archiveFor C06.sampleCfg 0 0 sFes
def sCompress (b : Bytes) : Bytes := [0x1f, 0x8b] ++ b
def sDecompress (b : Bytes) : Out Bytes := .ok (b.drop 2)
def sPayload : Bytes := sCompress sArchive
def sNow : Nat := 1700000123
def sCtx : Ctx := mkCtx C06.sampleCfg sNow (hexOf C10.tSha256 sPayload) (hexOf C10.tSha256 sArchive)
def sBuilt : Package := build C06.sampleCfg sNow (hexOf C10.tSha256) sArchive sPayload

example : sArchive.length = 244 := by decide +kernel
example : sCtx.bt = 1600000000 := by decide +kernel

theorem s_size : 32 + 16 * ((recordsOf sCtx).length + 1) + ((recordsOf sCtx).map (fun r => r.2.enc.length + 7)).sum < 100000 := by
  decide +kernel

theorem s_valid : C06.Valid sCtx := by
  have hrec : (∀ r ∈ recordsOf sCtx, r.2.Canon) ∧ (∀ r ∈ recordsOf sCtx, r.1 < 4294967296)
      ∧ (recordsOf sCtx).length + 1 < 4294967296 := by decide +kernel
  refine ⟨hrec.1, hrec.2.1, by decide, hrec.2.2, ?_⟩
  have h := Hdr.fromEntries_store_le (recordsOf sCtx) IndexTag.RPMTAG_HEADERIMMUTABLE
  have := s_size
  omega

theorem s_sha_len : (shaHex C10.tSha256 (writeHeader (C06.hdrOf sCtx))).length = 6 := by
  unfold shaHex; rw [Build.hexLower_length]; rfl

theorem s_recs : SigRecsOk C10.T C10.tSha256 (writeHeader (C06.hdrOf sCtx)) :=
  sigRecsOk C10.ids C10.tSha256 _ (by have h1 := written_header_le s_valid; have h2 := s_size; have h3 := s_sha_len; omega)

theorem s_fits : DigestFits C10.tSha256 (writeHeader (C06.hdrOf sCtx)) := s_recs.sha

theorem s_cfgOk : C09.CfgOk sCtx sFes :=
  ⟨s_valid, by intro f hf; simp only [sCtx, mkCtx, C06.sampleCfg, List.mem_singleton] at hf; subst hf; decide,
   by
    have h := Hdr.fromEntries_store_le (recordsOf sCtx) IndexTag.RPMTAG_HEADERIMMUTABLE
    have := s_size
    show (C06.hdrOf sCtx).store.length < 268435456
    unfold C06.hdrOf
    omega,
   rfl,
   by intro p hp; simp only [sFes, List.mem_singleton] at hp; subst hp
      exact ⟨rfl, by decide, by decide⟩,
   by decide⟩

theorem s_shape : ∀ p ∈ sFes, DirShape p.1 := by
  intro p hp; simp only [sFes, List.mem_singleton] at hp; subst hp; constructor <;> decide
example : C09.CodecMagic C06.sampleCfg.compression sPayload sArchive := ⟨sArchive, rfl⟩
example : ∀ b, sDecompress (sCompress b) = .ok b := fun _ => rfl


-- every hypothesis used above holds for these values; the theorems, instantiated:
example : 40 < (recordsOf sCtx).length := by decide +kernel
example : verifyDigests C10.tMd5 C10.tSha1 C10.tSha256 sBuilt = .ok () :=
  build_verifies_digests C10.tMd5 C10.tSha1 C10.tSha256 C06.sampleCfg sNow sArchive sPayload
example : parsePackage (writePackage sBuilt) = .ok sBuilt :=
  build_reparse C10.tSha256 C06.sampleCfg sNow sArchive sPayload s_valid s_fits
example : (writePackage sBuilt).drop (offsets sBuilt.md).payload = sPayload :=
  (build_offsets C10.tSha256 C06.sampleCfg sNow sArchive sPayload s_valid s_fits).2.2.2.2.1
/-- C10's sample history (key 2 signs, write + parse, key 0 signs, clear, key 3 signs, write + parse) on the built package -/
example (p : Package) (h : run C10.T C10.tSha256 C10.hist sBuilt = .ok p) (k' : UInt8) :
    (verifyWith C10.T C10.tMd5 C10.tSha1 C10.tSha256 k' p = .ok () ↔ k' = 3) ∧ keyIds C10.T p = .ok [[3]]
    ∧ verifyDigests C10.tMd5 C10.tSha1 C10.tSha256 p = .ok () ∧ p.content = sPayload :=
  ⟨built_history_verify C10.tMd5 C10.tSha1 C10.tSha256 C06.sampleCfg sNow sArchive sPayload (legacyOk C10.ids) (correct C10.ids)
      (binds C10.ids) (b64 C10.ids) s_valid s_recs C10.hist (3 : UInt8) (by decide) h k',
   built_history_keyids C10.tSha256 C06.sampleCfg sNow sArchive sPayload (legacyOk C10.ids) (issuerOk C10.ids) (b64 C10.ids)
      s_valid s_recs C10.hist (3 : UInt8) (by decide) h,
   built_history_digests C10.tMd5 C10.tSha1 C10.tSha256 C06.sampleCfg sNow sArchive sPayload (legacyOk C10.ids) s_valid s_recs
      C10.hist h,
   (built_history_bytes C10.tSha256 C06.sampleCfg sNow sArchive sPayload (legacyOk C10.ids) s_valid s_recs C10.hist h).2.1⟩
/-- `build_and_sign` with key 2 at a later clock reading: key 2 verifies, key 3 does not -/
example : verifyWith C10.T C10.tMd5 C10.tSha1 C10.tSha256 (2 : UInt8)
        (buildAndSign C10.tSha256 C06.sampleCfg sNow sArchive sPayload C10.T 1700000200 (2 : UInt8)) = .ok ()
    ∧ verifyWith C10.T C10.tMd5 C10.tSha1 C10.tSha256 (3 : UInt8)
        (buildAndSign C10.tSha256 C06.sampleCfg sNow sArchive sPayload C10.T 1700000200 (2 : UInt8)) ≠ .ok () :=
  ⟨(build_sign_verifies C10.tMd5 C10.tSha1 C10.tSha256 C06.sampleCfg sNow sArchive sPayload (legacyOk C10.ids) (correct C10.ids)
      (binds C10.ids) (b64 C10.ids) s_valid s_recs 1700000200 (2 : UInt8) (2 : UInt8)).mpr rfl,
   fun h => absurd ((build_sign_verifies C10.tMd5 C10.tSha1 C10.tSha256 C06.sampleCfg sNow sArchive sPayload (legacyOk C10.ids)
      (correct C10.ids) (binds C10.ids) (b64 C10.ids) s_valid s_recs 1700000200 (2 : UInt8) (3 : UInt8)).mp h)
      (show ¬ (3 : UInt8) = 2 by decide)⟩
/-- `files()` on the built package: the one file, index 0, its three bytes -/
example : pkgFiles sDecompress sBuilt = .ok [.ok (0, [1, 2, 3])] :=
  build_files_roundtrip C10.tSha256 C06.sampleCfg sNow sFes rfl s_cfgOk.dirs s_cfgOk.fileOk s_shape (by decide) (by decide)
    (uid := 0) (gid := 0) (by decide) (by decide) sCompress sDecompress (fun _ => rfl)
example : RpmValid.PackageValid (writePackage sBuilt) sBuilt sArchive :=
  (build_valid C10.tSha256 C06.sampleCfg sNow sArchive sPayload s_cfgOk (by show (shaHex C10.tSha256 (writeHeader (C06.hdrOf sCtx))).length < _; rw [s_sha_len]; decide) (uid := 0) (gid := 0)
    (by decide) (by decide) ⟨sArchive, rfl⟩).2
/-- the summary theorem at the sample: all its hypotheses are discharged -/
example := built_package_sound C10.tMd5 C10.tSha1 C10.tSha256 C06.sampleCfg sNow sArchive sPayload (S := C10.T)
  (legacyOk C10.ids) (correct C10.ids) (binds C10.ids) (issuerOk C10.ids) (b64 C10.ids) s_valid s_recs

/-! `get_file_entries()` at C06's second sample (three files in two directories, capabilities, a symbolic link) -/
def sCtx2 : Ctx := mkCtx C06.sampleCfg2 sNow (hexOf C10.tSha256 [4, 5]) (hexOf C10.tSha256 [1, 2, 3])
def sBuilt2 : Package := build C06.sampleCfg2 sNow (hexOf C10.tSha256) [1, 2, 3] [4, 5]

theorem s2_size :
    32 + 16 * ((recordsOf sCtx2).length + 1) + ((recordsOf sCtx2).map (fun r => r.2.enc.length + 7)).sum < 100000 := by
  decide +kernel

theorem s2_valid : C06.Valid sCtx2 := by
  have hrec : (∀ r ∈ recordsOf sCtx2, r.2.Canon) ∧ (∀ r ∈ recordsOf sCtx2, r.1 < 4294967296)
      ∧ (recordsOf sCtx2).length + 1 < 4294967296 := by decide +kernel
  refine ⟨hrec.1, hrec.2.1, by decide, hrec.2.2, ?_⟩
  have h := Hdr.fromEntries_store_le (recordsOf sCtx2) IndexTag.RPMTAG_HEADERIMMUTABLE
  have := s2_size
  omega

theorem s2_recs : SigRecsOk C10.T C10.tSha256 (writeHeader (C06.hdrOf sCtx2)) := by
  have h1 := Nat.lt_of_le_of_lt (written_header_le s2_valid) s2_size
  have h2 : (shaHex C10.tSha256 (writeHeader (C06.hdrOf sCtx2))).length = 6 := by
    unfold shaHex; rw [Build.hexLower_length]; rfl
  exact sigRecsOk C10.ids C10.tSha256 _ (by omega)

theorem s2_dirs : DirsOk C06.sampleCfg2 := by unfold DirsOk; decide
example : C06.DigestsOk C06.sampleCfg2 := by decide
example : C06.sampleCfg2.files.map (C06.entryOf sCtx2) = C06.sampleEntries2 := by decide +kernel
example : Acc.getFileEntries sBuilt2.md.signature sBuilt2.md.header = .ok (C06.sampleCfg2.files.map (C06.entryOf sCtx2)) :=
  build_file_entries C10.tSha256 C06.sampleCfg2 sNow [1, 2, 3] [4, 5] s2_dirs (by decide)
example : ∃ p', parsePackage (writePackage sBuilt2) = .ok p' ∧
    Acc.getFileEntries p'.md.signature p'.md.header = .ok (C06.sampleCfg2.files.map (C06.entryOf sCtx2)) :=
  build_file_entries_reparsed C10.tSha256 C06.sampleCfg2 sNow [1, 2, 3] [4, 5] s2_valid s2_recs.sha s2_dirs (by decide)
/-- after C10's sample history (sign, write + parse, sign, clear, sign, write + parse) -/
example (p : Package) (h : run C10.T C10.tSha256 C10.hist sBuilt2 = .ok p) :
    Acc.getFileEntries p.md.signature p.md.header = .ok (C06.sampleCfg2.files.map (C06.entryOf sCtx2)) :=
  built_history_file_entries C10.tSha256 C06.sampleCfg2 sNow [1, 2, 3] [4, 5] (legacyOk C10.ids) s2_valid s2_recs
    s2_dirs (by decide) C10.hist h

/-! the stacked writers at a sample whose stored digest is the toy hash of the stored content, through a compressor
that takes 5 bytes, is interrupted, takes 1 byte and then everything; and `history_header_digest_fresh` at an ill-formed
signature header -/
def sFin (s : PWriter.Sink) : Out Bytes := .ok (sCompress s.out)
/-- the sample file with the digest `add_data` stores under the toy hash -/
def dFile : FileE := { C09.sampleFile with shaHex := hexOf C10.tSha256 [1, 2, 3] }
def dFes : List (FileE × Bytes) := [(dFile, [1, 2, 3])]
def dCfg : Cfg := { C06.sampleCfg with files := [dFile] }
def dComp : PWriter.Sink := { script := [.ok 5, .intr, .ok 1] }
theorem d_prepared : ShaSink.prepareDigests sFin (hexOf C10.tSha256) (usesLargeFiles dCfg) 0 0 (dFes.map C09.toFileIn) dComp
    = .ok ⟨hexOf C10.tSha256 sArchive, hexOf C10.tSha256 sPayload, sPayload⟩ := by decide +kernel
theorem d_buildWith : ShaSink.buildWith sFin dCfg sNow (hexOf C10.tSha256) 0 0 (dFes.map C09.toFileIn) dComp
    = .ok (build dCfg sNow (hexOf C10.tSha256) sArchive sPayload) := by
  unfold ShaSink.buildWith; rw [d_prepared]; rfl
example : ∀ p ∈ dFes, p.1.shaHex = hexOf C10.tSha256 p.2 ∧ p.1.size = p.2.length := by decide +kernel
example := build_with_digests C10.tSha256 dCfg sNow sFin (uid := 0) (gid := 0) dFes dComp rfl (by decide) (by decide) rfl d_buildWith
/-- every hypothesis of `built_item_digests` is discharged at the sample -/
example := built_item_digests C10.tSha256 dCfg sNow sFin sDecompress (fun s q h => by cases h; rfl) (uid := 0) (gid := 0)
  (by decide) (by decide) dFes dComp rfl (by unfold DirsOk; decide)
  (by intro p hp; simp only [dFes, List.mem_singleton] at hp; subst hp; exact ⟨rfl, by decide, by decide⟩)
  (by intro p hp; simp only [dFes, List.mem_singleton] at hp; subst hp; constructor <;> decide)
  (by decide) (by decide) (by decide) (by decide +kernel)
  (by decide) rfl d_buildWith
/-- a start package whose signature header is NOT the library's (empty: no RPMSIGTAG_SHA256 at all) and whose payload
digest is not checked by anything: clear, write + parse, sign with key 2 — the recorded header digest is the true one -/
def dStart : Package := ⟨⟨leadNew C06.sampleCfg.name, ⟨0, 0, [], []⟩, C06.hdrOf sCtx⟩, [9, 9, 9]⟩
example (p : Package) (h : run C10.T C10.tSha256 [.clear, .writeParse, .sign (2 : UInt8) 1600000000] dStart = .ok p) :
    getString p.md.signature SigTag.RPMSIGTAG_SHA256 = .ok (shaHex C10.tSha256 (writeHeader p.md.header)) :=
  (history_header_digest_fresh (S := C10.T) (p0 := dStart) C10.tSha256 (legacyOk C10.ids) (C06.leadNew_wf _)
    (C06.hdr_wf s_valid) s_recs .clear (fun e => by cases e) _ h).1
example : getString dStart.md.signature SigTag.RPMSIGTAG_SHA256 = .err "notfound" := by decide +kernel

end nonvacuity

end RpmVerif.Pipeline
