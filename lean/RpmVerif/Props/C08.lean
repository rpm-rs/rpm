import RpmVerif.Model.ShaWriter
import RpmVerif.Lemmas.Io
import RpmVerif.Props.C06
import RpmVerif.Lemmas.ShaSink
import RpmVerif.Model.WithFileContent
import RpmVerif.Lemmas.Sign
/-!
# C08 — every digest the builder records is the true digest

Hash functions are parameters (`H`, `sha256hex`): the theorems hold for any function, so they say the
builder feeds the RIGHT BYTES to the hasher and stores the result under the right tag.
-/
namespace RpmVerif.C08
open RpmVerif.Hdr RpmVerif.Bld RpmVerif.Gen RpmVerif.Io RpmVerif.ShaW

/-- one `write_all` through the (fixed) `Sha256Writer`: what was hashed is exactly what the inner writer
accepted, and the inner writer saw the same as without the hashing wrapper -/
theorem writeAllH_hashed_eq_accepted (buf : Bytes) (rs : List Resp) :
    (writeAllH false buf rs).2.1 = (writeAllH false buf rs).1
    ∧ ((writeAllH false buf rs).1, (writeAllH false buf rs).2.2.1, (writeAllH false buf rs).2.2.2) = writeAll buf rs := by
  fun_induction writeAllH false buf rs with
  | case1 rs => exact ⟨rfl, by simp [writeAll]⟩
  | case2 b bs => exact ⟨rfl, by simp [writeAll]⟩
  | case3 b bs rs r ih =>
    obtain ⟨i1, i2⟩ := ih
    refine ⟨by simpa using i1, ?_⟩
    simp only [writeAll]; exact i2
  | case4 b bs rs => exact ⟨rfl, by simp [writeAll]⟩
  | case5 b bs rs => exact ⟨rfl, by simp [writeAll]⟩
  | case6 b bs n rs hn r ih =>
    obtain ⟨i1, i2⟩ := ih
    refine ⟨by simp only [Bool.false_eq_true, if_false]; rw [i1], ?_⟩
    simp only [writeAll, hn, if_false]
    rw [← i2]

theorem runH_spec (bufs : List Bytes) (rs : List Resp) :
    (runH false bufs rs).2.1 = (runH false bufs rs).1 ∧
    ((runH false bufs rs).2.2.1 = .ok → (runH false bufs rs).1 = bufs.flatten) := by
  induction bufs generalizing rs with
  | nil => exact ⟨rfl, fun _ => rfl⟩
  | cons a as ih =>
    obtain ⟨h1, h2⟩ := writeAllH_hashed_eq_accepted a rs
    have hall := (Io.writeAll_spec a rs).2.1
    rw [← h2] at hall
    simp only [runH]
    generalize writeAllH false a rs = w at h1 hall
    obtain ⟨e, hh, st, rs'⟩ := w
    cases st with
    | ok =>
      simp only at h1 hall ⊢
      rw [h1, (ih rs').1, hall trivial]
      exact ⟨rfl, fun hok => by rw [(ih rs').2 hok, List.flatten_cons]⟩
    | err => exact ⟨h1, nofun⟩
    | starved => exact ⟨h1, nofun⟩

/-- the whole archive written as any sequence of `write_all` calls, against ANY inner-sink behaviour:
the digest is taken over exactly the bytes the compressor accepted -/
theorem runH_hashed_eq_accepted (bufs : List Bytes) (rs : List Resp) :
    (runH false bufs rs).2.1 = (runH false bufs rs).1 :=
  (runH_spec bufs rs).1

/-- **alternate payload digest**: when every `write_all` succeeded, the hashed bytes are the whole
archive (the concatenation of all buffers), so `PAYLOADDIGESTALT = H(uncompressed archive)` for any `H` -/
theorem alt_digest (H : Bytes → Bytes) (bufs : List Bytes) (rs : List Resp)
    (hok : (runH false bufs rs).2.2.1 = .ok) : H (runH false bufs rs).2.1 = H bufs.flatten := by
  rw [(runH_spec bufs rs).1, (runH_spec bufs rs).2 hok]

/-- the former code (hash the whole buffer, then forward) is wrong as soon as the inner writer accepts
only part of a buffer: one byte accepted per call on a 2-byte buffer hashes 3 bytes -/
theorem old_writer_witness :
    (writeAllH true [1, 2] [.ok 1, .ok 1]).2.1 = [1, 2, 2] ∧ (writeAllH true [1, 2] [.ok 1, .ok 1]).1 = [1, 2] := by
  decide

section recorded
variable (x : Ctx)

/-- `RPMTAG_PAYLOADDIGEST` holds the digest handed in for the compressed payload -/
theorem payload_digest : getStringArray (C06.hdrOf x) IndexTag.RPMTAG_PAYLOADDIGEST = .ok [x.payloadShaHex] :=
  C06.getter_of_slot IndexData.asStringArray (C06.mem_slots_block rfl (j := 1) rfl _ (List.mem_of_getElem? (i := 0) rfl)) rfl rfl
theorem payload_digest_algo : getU32 (C06.hdrOf x) IndexTag.RPMTAG_PAYLOADDIGESTALGO = .ok 8 :=
  C06.getter_of_slot IndexData.asU32 (C06.mem_slots_block rfl (j := 1) rfl _ (List.mem_of_getElem? (i := 1) rfl)) rfl rfl
/-- `RPMTAG_PAYLOADDIGESTALT` holds the digest of the uncompressed archive -/
theorem archive_digest : getStringArray (C06.hdrOf x) IndexTag.RPMTAG_PAYLOADDIGESTALT = .ok [x.archiveShaHex] :=
  C06.getter_of_slot IndexData.asStringArray (C06.mem_slots_block rfl (j := 1) rfl _ (List.mem_of_getElem? (i := 2) rfl)) rfl rfl
/-- file digests: one per file, in file order, each the digest `add_data` computed over that file's content -/
theorem file_digests (hne : x.c.files.isEmpty = false) :
    getStringArray (C06.hdrOf x) IndexTag.RPMTAG_FILEDIGESTS = .ok (x.c.files.map (·.shaHex))
    ∧ getU32 (C06.hdrOf x) IndexTag.RPMTAG_FILEDIGESTALGO = .ok 8 :=
  ⟨C06.readback_digests x hne, C06.readback_whenFiles x IndexData.asU32 (C06.mem_slot_first rfl (i := 33) rfl) hne rfl⟩

end recorded

/-- the signature header built by `build`, `sign` and `clear_signatures` records the digest passed in
under RPMSIGTAG_SHA256, whatever signatures accompany it -/
theorem sig_header_sha256 (sigs : List (Nat × Bytes × Bytes)) (d : Bytes)
    (hs : ∀ s ∈ sigs, s.1 ≠ SigTag.RPMSIGTAG_SHA256 ∧ s.1 ≠ SigTag.RPMSIGTAG_OPENPGP ∧ s.1 ≠ SigTag.HEADER_SIGNATURES) :
    getString (signatureHeader sigs (some d)) SigTag.RPMSIGTAG_SHA256 = .ok d := by
  unfold signatureHeader
  cases hl : sigs.getLast? with
  | none =>
    exact fromEntries_get IndexData.asStr (recs := [(SigTag.RPMSIGTAG_SHA256, .str d)]) (d := .str d) (by simp)
      (fun r hr => by rw [List.mem_singleton.mp hr]; exact (by decide : SigTag.RPMSIGTAG_SHA256 ≠ SigTag.HEADER_SIGNATURES))
      (by simp) rfl
  | some s =>
    obtain ⟨tag, raw, b64⟩ := s
    obtain ⟨h1, h2, h3⟩ := hs _ (List.mem_of_getLast? hl)
    refine fromEntries_get IndexData.asStr (t := SigTag.RPMSIGTAG_SHA256) (d := .str d) ?_ ?_ (by simp) rfl
    · simp only [List.map_cons, List.map_nil, List.cons_append, List.nil_append, List.nodup_cons, List.mem_cons,
        List.not_mem_nil, or_false, not_or, List.nodup_nil, and_true]
      exact ⟨⟨Ne.symm h2, by decide⟩, h1, id⟩
    · intro r hr
      simp only [List.cons_append, List.nil_append, List.mem_cons, List.not_mem_nil, or_false] at hr
      rcases hr with rfl | rfl | rfl
      · exact (by decide : SigTag.RPMSIGTAG_OPENPGP ≠ SigTag.HEADER_SIGNATURES)
      · exact h3
      · exact (by decide : SigTag.RPMSIGTAG_SHA256 ≠ SigTag.HEADER_SIGNATURES)

/-- **`build`**: the header digest recorded in the signature header is the digest of the serialised main
header; RPMTAG_PAYLOADDIGEST / PAYLOADDIGESTALT hold the digests of the two arguments `payload` / `archive` (that the payload
IS the compressed archive is `prepare_digests_spec`) -/
theorem build_digests (c : Cfg) (now : Nat) (sha256hex : Bytes → Bytes) (archive payload : Bytes) :
    let p := build c now sha256hex archive payload
    getString p.md.signature SigTag.RPMSIGTAG_SHA256 = .ok (sha256hex (writeHeader p.md.header))
    ∧ getStringArray p.md.header IndexTag.RPMTAG_PAYLOADDIGEST = .ok [sha256hex p.content]
    ∧ getStringArray p.md.header IndexTag.RPMTAG_PAYLOADDIGESTALT = .ok [sha256hex archive] := by
  intro p
  refine ⟨sig_header_sha256 [] _ (by simp), ?_, ?_⟩
  · exact payload_digest (mkCtx c now (sha256hex payload) (sha256hex archive))
  · exact archive_digest (mkCtx c now (sha256hex payload) (sha256hex archive))

/-! ### the stack `prepare_data` builds: cpio `Writer` → `Sha256Writer` → compressor (Model/ShaSink.lean)

`alt_digest` above is about `Sha256Writer` under an abstract list of buffers.  Here the buffers are the ones the cpio
writer really produces for the builder's files, written through the hashing writer into a compressor of ANY behaviour
(response script, failing `flush`); C07 `builder_archive_writer` (the same loop over a bare sink) is reached through the
projection lemmas of Lemmas/ShaSink.lean. -/
section stacked
open RpmVerif.ShaSink RpmVerif.PWriter RpmVerif.Cpio

/-- the archive `prepare_data` writes for the files (in `BTreeMap` order): stripped entries in large-file mode -/
def archiveOfFiles (large : Bool) (uid gid : Nat) (files : List FileIn) : Bytes :=
  if large then builderArchiveLarge files else builderArchive uid gid files

/-- **one `Sha256Writer::write`**: outcome and compressor state are those of the bare `inner.write(buf)`; after
`Ok(n)` the hasher has been fed exactly `buf[..n]` more — the bytes by which the compressor's input grew —, after an
error nothing; the slice `&buf[..n]` adds no panic -/
theorem sha_writer_write (h : HSink) (buf : Bytes) :
    (h.write buf).1 = (h.inner.write buf).1 ∧ (h.write buf).2.inner = (h.inner.write buf).2
    ∧ (∀ n, (h.write buf).1 = .ok n →
        (h.write buf).2.hashed = h.hashed ++ buf.take n ∧ (h.write buf).2.inner.out = h.inner.out ++ buf.take n)
    ∧ (∀ c, (h.write buf).1 = .err c → (h.write buf).2.hashed = h.hashed ∧ (h.write buf).2.inner.out = h.inner.out) := by
  obtain ⟨a1, a2, _, a4, a5⟩ := HSink.write_proj [] h buf
  obtain ⟨_, _, _, _, s5⟩ := Sink.write_spec h.inner buf
  refine ⟨a1, a2, fun n hn => ⟨a4 n hn, ?_⟩, fun c hc => ⟨a5 c hc, ?_⟩⟩
  · rw [a2]; rw [a1] at hn
    rcases s5 with ⟨m, e1, _, e3⟩ | ⟨e1, _⟩
    · rw [e1] at hn; cases hn; exact e3
    · rcases e1 with e1 | e1 <;> rw [e1] at hn <;> cases hn
  · rw [a2]; rw [a1] at hc
    rcases s5 with ⟨m, e1, _, _⟩ | ⟨_, e3⟩
    · rw [e1] at hc; cases hc
    · exact e3

/-- **what is hashed for PAYLOADDIGESTALT** — the two loops of `prepare_data` plus the trailer, through
`Sha256Writer::new(&mut compressor)`, for EVERY compressor behaviour `comp` (in standard mode every content fits a `u32`,
which the large-file switch guarantees: C07 `standard_mode_sizes_fit_u32`):
* the outcome is `Ok` or an I/O error of the compressor — no panic, no `UnexpectedEof` of the cpio writer;
* when `Ok`, the hasher was fed exactly `archiveOfFiles …` — the cpio archive of the files — and the compressor accepted
  exactly the same bytes, in this order, after what it held before;
* a compressor that accepts everything and whose `flush` works gives `Ok`. -/
theorem prepare_archive_hashed (large : Bool) (uid gid : Nat) (files : List FileIn) (comp : Sink)
    (hfit : large = false → ∀ f ∈ files, f.content.length ≤ 4294967295) :
    ((prepareArchive large uid gid files ⟨comp, []⟩).1 = .ok ()
      ∨ (prepareArchive large uid gid files ⟨comp, []⟩).1 = .err "io"
      ∨ (prepareArchive large uid gid files ⟨comp, []⟩).1 = .err "write-zero")
    ∧ ((prepareArchive large uid gid files ⟨comp, []⟩).1 = .ok () →
        (prepareArchive large uid gid files ⟨comp, []⟩).2.hashed = archiveOfFiles large uid gid files
        ∧ (prepareArchive large uid gid files ⟨comp, []⟩).2.inner.out = comp.out ++ archiveOfFiles large uid gid files)
    ∧ (comp.script = [] → comp.flushFails = false → (prepareArchive large uid gid files ⟨comp, []⟩).1 = .ok ()) := by
  have hi : ShaSink.Inv comp.out (⟨comp, []⟩ : HSink) := by simp [ShaSink.Inv]
  -- the loop keeps "accepted = what was there ++ hashed", and is a writing step for the archive
  obtain ⟨hinv, _, _, hacc, hout⟩ : ShaSink.Inv comp.out (prepareArchive large uid gid files ⟨comp, []⟩).2 ∧
      Emits comp (archiveOfFiles large uid gid files) (prepareArchive large uid gid files ⟨comp, []⟩).1
        (prepareArchive large uid gid files ⟨comp, []⟩).2.inner := by
    cases large with
    | true => exact largeEntriesH_spec comp.out (files.map (·.content)) 0 ⟨comp, []⟩ hi
    | false =>
      refine entriesH_spec comp.out _ (fun x hx => ?_) ⟨comp, []⟩ hi
      obtain ⟨f, hf, e⟩ := builderEntriesFrom_content uid gid files 1 x hx
      rw [e]
      exact Nat.lt_succ_of_le (hfit rfl f hf)
  refine ⟨hout.imp_left And.left, fun hok => ?_, hacc⟩
  rcases hout with ⟨_, e2⟩ | e | e
  · exact ⟨List.append_cancel_left (hinv.symm.trans e2), e2⟩
  · rw [hok] at e; cases e
  · rw [hok] at e; cases e

theorem prepareDigests_eq (fin : Sink → Out Bytes) (sha256hex : Bytes → Bytes) (large : Bool) (uid gid : Nat)
    (files : List FileIn) (comp : Sink) :
    prepareDigests fin sha256hex large uid gid files comp =
      (prepareArchive large uid gid files ⟨comp, []⟩).1 >>= fun _ =>
        (fin (prepareArchive large uid gid files ⟨comp, []⟩).2.inner).map fun payload =>
          ⟨sha256hex (prepareArchive large uid gid files ⟨comp, []⟩).2.hashed, sha256hex payload, payload⟩ := by
  unfold prepareDigests
  rcases prepareArchive large uid gid files ⟨comp, []⟩ with ⟨⟨⟨⟩⟩ | _ | _, h⟩
  · dsimp only
    cases fin h.inner <;> rfl
  · rfl
  · rfl

/-- **the two payload digests** — when `prepare_data`'s archive part ends `Ok(d)`:
* `d.archiveShaHex` (PAYLOADDIGESTALT) is the digest of the cpio archive of the files — the compressor's INPUT;
* `d.payload` is what `finish_compression` returned for the compressor after it had accepted exactly that archive, and
  nothing else, since it was made;
* `d.payloadShaHex` (PAYLOADDIGEST) is the digest of that payload — the compressor's OUTPUT.
For every hash function, every compressor behaviour and every `finish_compression`. -/
theorem prepare_digests_spec (fin : Sink → Out Bytes) (sha256hex : Bytes → Bytes) (large : Bool) (uid gid : Nat)
    (files : List FileIn) (comp : Sink) (hfit : large = false → ∀ f ∈ files, f.content.length ≤ 4294967295)
    (d : Prepared) (hd : prepareDigests fin sha256hex large uid gid files comp = .ok d) :
    d.archiveShaHex = sha256hex (archiveOfFiles large uid gid files)
    ∧ d.payloadShaHex = sha256hex d.payload
    ∧ ∃ comp', comp'.out = comp.out ++ archiveOfFiles large uid gid files ∧ fin comp' = .ok d.payload := by
  obtain ⟨_, hok, hd⟩ := Out.bind_eq_ok.mp (prepareDigests_eq .. ▸ hd)
  obtain ⟨payload, hf, rfl⟩ := Out.map_eq_ok.mp hd
  obtain ⟨e1, e2⟩ := (prepare_archive_hashed large uid gid files comp hfit).2.1 hok
  exact ⟨congrArg sha256hex e1, rfl, _, e2, hf⟩

/-- the archive part of `prepare_data` panics only if `finish_compression` does -/
theorem prepare_digests_total (fin : Sink → Out Bytes) (sha256hex : Bytes → Bytes) (large : Bool) (uid gid : Nat)
    (files : List FileIn) (comp : Sink) (hfit : large = false → ∀ f ∈ files, f.content.length ≤ 4294967295)
    (hfin : ∀ s p, fin s ≠ .panic p) (p : String) : prepareDigests fin sha256hex large uid gid files comp ≠ .panic p := by
  rw [prepareDigests_eq]
  rcases (prepare_archive_hashed large uid gid files comp hfit).1 with h | h | h <;> rw [h]
  · cases hf : fin (prepareArchive large uid gid files ⟨comp, []⟩).2.inner with
    | ok payload => nofun
    | err c => nofun
    | panic q => exact absurd hf (hfin _ _)
  · nofun
  · nofun

/-- into a `Vec` (`CompressionType::None`: a sink that accepts everything, `finish_compression` = the bytes): the
payload IS the archive, both digests are the digest of the cpio archive of the files -/
theorem prepare_digests_none (sha256hex : Bytes → Bytes) (large : Bool) (uid gid : Nat) (files : List FileIn)
    (hfit : large = false → ∀ f ∈ files, f.content.length ≤ 4294967295) :
    prepareDigests (fun s => .ok s.out) sha256hex large uid gid files {}
      = .ok ⟨sha256hex (archiveOfFiles large uid gid files), sha256hex (archiveOfFiles large uid gid files),
             archiveOfFiles large uid gid files⟩ := by
  obtain ⟨_, h2, h3⟩ := prepare_archive_hashed large uid gid files {} hfit
  obtain ⟨e1, e2⟩ := h2 (h3 rfl rfl)
  rw [prepareDigests_eq, h3 rfl rfl, e1, e2]
  rfl

end stacked

section fileDigests
open RpmVerif.WithFile

theorem insertFileC_eq (p : FileC) (l : List FileC) : insertFileC p l = insertKeyed (·.1.cpioPath) p l := by
  induction l with
  | nil => rfl
  | cons g r ih => rw [insertFileC, insertKeyed, ih]

/-- forgetting the contents gives the builder state of Model/WithFile.lean (the one the header records are made of) -/
theorem insertFileC_fst (p : FileC) (l : List FileC) : (insertFileC p l).map (·.1) = insertFileE p.1 (l.map (·.1)) := by
  rw [insertFileC_eq, insertFileE_eq]
  exact map_insertKeyed _ _ _ (fun _ => rfl) p l

theorem runCallC_eq (sha256hex : Bytes → Bytes) (valid : Bytes → Bool) (c : Call) :
    runCallC sha256hex valid c = (runCall sha256hex valid c).map fun e => (e, c.src.content) := by
  rw [runCallC, runCall]
  cases applySetters valid c.setters (FileOpts.new c.dest) with
  | ok o => simp only [withFileC]; cases withFile sha256hex c.src o <;> rfl
  | err x => rfl
  | panic x => rfl

theorem buildFilesC_cons (sha256hex : Bytes → Bytes) (valid : Bytes → Bool) (c : Call) (r : List Call) (s : List FileC) :
    buildFilesC sha256hex valid (c :: r) s =
      runCall sha256hex valid c >>= fun e => buildFilesC sha256hex valid r (insertFileC (e, c.src.content) s) := by
  rw [buildFilesC, runCallC_eq]; cases runCall sha256hex valid c <;> rfl

theorem buildFilesC_fst (sha256hex : Bytes → Bytes) (valid : Bytes → Bool) (calls : List Call) (s : List FileC) (d : List Bytes) :
    (buildFilesC sha256hex valid calls s).map (fun l => l.map (·.1))
      = (buildState sha256hex valid calls ⟨s.map (·.1), d⟩).map (·.files) := by
  induction calls generalizing s d with
  | nil => rfl
  | cons c r ih =>
    rw [buildFilesC_cons, buildState_cons]
    cases runCall sha256hex valid c with
    | ok e => rw [Out.bind_ok, Out.bind_ok, ih, BState.add, insertFileC_fst]
    | err x => rfl
    | panic x => rfl

/-- `or_insert`, not `insert`: an entry that is in the map stays in it, with its content, whatever is added later —
in particular when the same destination is handed to `with_file` again -/
theorem insertFileC_keeps_entries (p g : FileC) (l : List FileC) (hg : g ∈ l) : g ∈ insertFileC p l :=
  insertFileC_eq .. ▸ mem_insertKeyed_of_mem _ p hg

/-- … and a second entry for a path whose entry is at the front of the walk is dropped (the first one wins) -/
theorem insertFileC_same_key_head (p g : FileC) (r : List FileC) (hk : p.1.cpioPath = g.1.cpioPath) :
    insertFileC p (g :: r) = g :: r := by
  simp [insertFileC, hk]

/-- **file_digest_is_content_digest** — after ANY sequence of `with_file` calls (`FileOptions` setters of any kind,
sources of any kind, the same destination any number of times), every entry of the builder's file map carries
* as `sha_checksum` the digest of the content stored in the same entry — the bytes `prepare_data` will archive under this
  entry's cpio path —, and
* as `size` the length of that content.
For every hash function. -/
theorem file_digest_is_content_digest (sha256hex : Bytes → Bytes) (valid : Bytes → Bool) (calls : List Call)
    (s fes : List FileC) (hs : ∀ p ∈ s, p.1.shaHex = sha256hex p.2 ∧ p.1.size = p.2.length)
    (h : buildFilesC sha256hex valid calls s = .ok fes) :
    ∀ p ∈ fes, p.1.shaHex = sha256hex p.2 ∧ p.1.size = p.2.length := by
  induction calls generalizing s with
  | nil => cases h; exact hs
  | cons c r ih =>
    obtain ⟨e, he, h⟩ := Out.bind_eq_ok.mp (buildFilesC_cons .. ▸ h)
    refine ih _ (fun p hp => ?_) h
    rcases mem_insertKeyed _ (insertFileC_eq .. ▸ hp) with rfl | hp
    · -- the new entry: `add_data` hashed the content it stores
      obtain ⟨o, _, hw⟩ := Out.bind_eq_ok.mp (runCall_eq .. ▸ he)
      obtain ⟨f, cpio, dir, base, hsrc, _, _, _, rfl⟩ := withFile_ok hw
      rw [hsrc]
      exact ⟨rfl, rfl⟩
    · exact hs p hp

/-- … hence RPMTAG_FILEDIGESTS of the header built from these entries lists, file by file, the digest of the content
archived for that file (`fes.map (·.2)` are the contents `prepare_data` writes, `archiveOfFiles` over
`fes.map fun p => ⟨p.1.cpioPath, p.1.mode, p.2⟩`) and RPMTAG_FILESIZES / LONGFILESIZES its length -/
theorem file_digests_of_contents (x : Ctx) (sha256hex : Bytes → Bytes) (fes : List FileC) (hfiles : x.c.files = fes.map (·.1))
    (hne : x.c.files.isEmpty = false) (hinv : ∀ p ∈ fes, p.1.shaHex = sha256hex p.2 ∧ p.1.size = p.2.length) :
    getStringArray (C06.hdrOf x) IndexTag.RPMTAG_FILEDIGESTS = .ok (fes.map fun p => sha256hex p.2)
    ∧ x.c.files.map (·.size) = fes.map (·.2.length) := by
  refine ⟨?_, ?_⟩
  · rw [(file_digests x hne).1, hfiles, List.map_map]
    exact congrArg Out.ok (List.map_congr_left fun p hp => (hinv p hp).1)
  · rw [hfiles, List.map_map]
    exact List.map_congr_left fun p hp => (hinv p hp).2

end fileDigests

section signClear
open RpmVerif.Sign

/-- **clear_header_digest_fresh** — `clear_signatures()` on ANY package value (no well-formedness, no digest of the
start package assumed): RPMSIGTAG_SHA256 of the result is the digest of the result's serialised main header -/
theorem clear_header_digest_fresh (sha256 : Bytes → Bytes) (p : Package) :
    getString (clearOp sha256 p).md.signature SigTag.RPMSIGTAG_SHA256
      = .ok (shaHex sha256 (writeHeader (clearOp sha256 p).md.header)) :=
  cleared_sha256 sha256 _

/-- **sign_header_digest_fresh** — `sign_with_timestamp(signer, t)` on ANY package value, any signer whose legacy tag is
RPMSIGTAG_RSA or RPMSIGTAG_DSA (`pgp::Signer`: C10 `AlgOk`): the recorded header digest is the true one -/
theorem sign_header_digest_fresh (S : SigScheme) (hl : S.LegacyOk) (sha256 : Bytes → Bytes) (k : S.Key) (t : Nat) (p : Package) :
    getString (signOp S sha256 k t p).md.signature SigTag.RPMSIGTAG_SHA256
      = .ok (shaHex sha256 (writeHeader (signOp S sha256 k t p).md.header)) :=
  signed_sha256 sha256 hl k t _

end signClear

-- a sink that takes 1 byte, is interrupted, then takes the rest: hashed = accepted = everything
example : writeAllH false [1, 2, 3] [.ok 1, .intr, .ok 5] = ([1, 2, 3], [1, 2, 3], .ok, []) := rfl
-- a hard failure after two bytes: the hasher saw exactly those two bytes
example : writeAllH false [1, 2, 3] [.ok 2, .fail] = ([1, 2], [1, 2], .err, []) := rfl
example : (runH false [[1, 2], [3]] [.ok 1, .ok 1, .ok 1]).2.2.1 = .ok := rfl

section witnesses
open RpmVerif.ShaSink RpmVerif.PWriter RpmVerif.Cpio RpmVerif.WithFile RpmVerif.Sign

/-- two files, a compressor that takes 1 byte, is interrupted, takes 7, then 100 per call: `Ok`, and the hasher saw the archive -/
def wFiles : List FileIn := [⟨[46, 47, 97], 33188, [1, 2, 3]⟩, ⟨[46, 47, 98], 33261, []⟩]
def wComp : Sink := { script := [.ok 1, .intr, .ok 7] ++ List.replicate 8 (.ok 100) }
example : (prepareArchive false 0 0 wFiles ⟨wComp, []⟩).1 = .ok ()
    ∧ (prepareArchive false 0 0 wFiles ⟨wComp, []⟩).2.hashed = builderArchive 0 0 wFiles
    ∧ (prepareArchive false 0 0 wFiles ⟨wComp, []⟩).2.inner.out = builderArchive 0 0 wFiles :=
  have h : (prepareArchive false 0 0 wFiles ⟨wComp, []⟩).1 = .ok () := by decide +kernel
  ⟨h, (prepare_archive_hashed false 0 0 wFiles wComp (by decide)).2.1 h⟩
/-- the large-file form through the same compressor -/
example : (prepareArchive true 0 0 wFiles ⟨wComp, []⟩).1 = .ok ()
    ∧ (prepareArchive true 0 0 wFiles ⟨wComp, []⟩).2.hashed = builderArchiveLarge wFiles :=
  have h : (prepareArchive true 0 0 wFiles ⟨wComp, []⟩).1 = .ok () := by decide +kernel
  ⟨h, ((prepare_archive_hashed true 0 0 wFiles wComp nofun).2.1 h).1⟩
/-- a compressor whose `flush` fails: an error (the large-file branch flushes after every file), not a panic -/
example : (prepareArchive true 0 0 wFiles ⟨{ flushFails := true }, []⟩).1 = .err "io" := by decide +kernel
/-- a hard failure in the middle: an error, and what was hashed is what the compressor took (a prefix of the archive) -/
example : (prepareArchive false 0 0 wFiles ⟨{ script := [.ok 50, .fail] }, []⟩).1 = .err "io"
    ∧ (prepareArchive false 0 0 wFiles ⟨{ script := [.ok 50, .fail] }, []⟩).2.hashed = (builderArchive 0 0 wFiles).take 50 := by
  decide +kernel
/-- a toy codec (prefix the gzip magic) and a toy hash (length and first byte) -/
def wFin (s : Sink) : Out Bytes := .ok ([0x1f, 0x8b] ++ s.out)
def wHash (b : Bytes) : Bytes := [b.length.toUInt8, b.headD 0]
example : prepareDigests wFin wHash false 0 0 wFiles wComp
    = .ok ⟨wHash (builderArchive 0 0 wFiles), wHash ([0x1f, 0x8b] ++ builderArchive 0 0 wFiles), [0x1f, 0x8b] ++ builderArchive 0 0 wFiles⟩ := by
  have h : (prepareArchive false 0 0 wFiles ⟨wComp, []⟩).1 = .ok () := by decide +kernel
  obtain ⟨e1, e2⟩ := (prepare_archive_hashed false 0 0 wFiles wComp (by decide)).2.1 h
  rw [prepareDigests_eq, h, wFin, e1, e2]
  rfl
example : wHash (builderArchive 0 0 wFiles) ≠ wHash ([0x1f, 0x8b] ++ builderArchive 0 0 wFiles) := by decide +kernel
example : ∀ f ∈ wFiles, f.content.length ≤ 4294967295 := by decide

/-- the same destination handed to `with_file` twice with different contents, and a second file: the map keeps the
FIRST entry for `/a` — its digest and its content —, sorted by path -/
def wSrc (c : Bytes) : Source := .readable ⟨c, 0o100644, ⟨1500000000, 0, by decide⟩⟩
def wCalls : List Call := [⟨wSrc [7, 8], [47, 98], []⟩, ⟨wSrc [1, 2, 3], [47, 97], []⟩, ⟨wSrc [9], [47, 97], [.user [120]]⟩]
example : (buildFilesC wHash (fun _ => true) wCalls []).map (fun l => l.map fun p => (p.1.cpioPath, p.1.shaHex, p.1.size, p.2))
    = .ok [([46, 47, 97], [3, 1], 3, [1, 2, 3]), ([46, 47, 98], [2, 7], 2, [7, 8])] := by decide +kernel
example : ∀ p ∈ ([] : List FileC), p.1.shaHex = wHash p.2 ∧ p.1.size = p.2.length := by simp

/-- sign / clear on a package that is NOT well formed and whose recorded digest is stale (a main header with an entry
but an empty store; RPMSIGTAG_SHA256 absent): the operations install the true digest -/
def wBad : Package := ⟨⟨Bld.leadNew [120], ⟨0, 0, [], []⟩, ⟨1, 7, [⟨1000, .str [120], 5, 1⟩], []⟩⟩, [1, 2]⟩
example : getString wBad.md.signature SigTag.RPMSIGTAG_SHA256 = .err "notfound" := by decide +kernel
example : getString (clearOp wHash wBad).md.signature SigTag.RPMSIGTAG_SHA256
    = .ok (shaHex wHash (writeHeader wBad.md.header)) := clear_header_digest_fresh wHash wBad
example : getString (signOp (Sym.scheme fun k => [k]) wHash (3 : UInt8) 1600000000 wBad).md.signature SigTag.RPMSIGTAG_SHA256
    = .ok (shaHex wHash (writeHeader wBad.md.header)) :=
  sign_header_digest_fresh _ (Sym.legacyOk _) wHash (3 : UInt8) 1600000000 wBad

end witnesses

end RpmVerif.C08
