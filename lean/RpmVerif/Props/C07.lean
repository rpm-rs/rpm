import RpmVerif.Lemmas.Cpio
import RpmVerif.Lemmas.FileIter
import RpmVerif.Lemmas.PayloadWriter
import RpmVerif.Lemmas.CpioPrefix
/-!
# C07 — payload iteration returns every file's exact content under its own metadata

Model: `Model/Cpio.lean` (`payload.rs` writer + reader, `FileIterator`, the archive loop of `prepare_data`),
`Model/FileIter.lean` (`FileIterator::next` as a state machine over an arbitrary stream), `Model/PayloadWriter.lean`
(`payload::Writer` with its `UnexpectedEof` / `u32`-overflow / short-write branches).  Compression is a parameter:
`decompress (compress x) = .ok x` is a hypothesis, and a streaming decoder is any function that hands out a prefix and then
stops; the real codecs are exercised by the correspondence run, not proved.

The theorems hold for ALL file lists (any number of files, any content, every size mod 4 including empty files, any NUL-free
UTF-8 name below 4096 bytes); the pairing, size and termination theorems for ANY archive bytes and ANY header.  The iterator
before `fix: 3cfa908` (pairing by position) is kept as `iterateEOld` with proved negative witnesses.
`files_of_build` speaks of the archive, paths and sizes of a file list; that the header `Bld.build` writes has exactly these
paths and sizes is Props/Pipeline `build_files_roundtrip`.
-/
namespace RpmVerif.C07
open RpmVerif.Cpio RpmVerif.Gen

/-- `u32::from_str_radix(format!("{:08x}", n), 16) == n` for every `u32` -/
theorem hex_roundtrip (n : Nat) (h : n < 4294967296) (rest : Bytes) :
    parseHex8 (fmtHex8 n) = some n ∧ readHex8 (fmtHex8 n ++ rest) = .ok (n, rest) :=
  ⟨parseHex8_fmtHex8 h, readHex8_fmt h rest⟩

/-- header padding: header + name + NUL + padding is a multiple of 4, so data starts aligned and the
writer's `pad(header_size + file_size)` equals the reader's `pad(file_size)` -/
theorem padding_arith (m : EntryMeta) (fs : Nat) (ck : Option Nat) (n : Nat) :
    (intoHeader m fs ck).length % 4 = 0 ∧ (n + padLen n) % 4 = 0 ∧ padLen n < 4
    ∧ padLen ((intoHeader m fs ck).length + n) = padLen n ∧ strippedDataPad n = pad n :=
  ⟨intoHeader_length m fs ck, padLen_add_self n, padLen_lt n, padLen_add_mul4 n (intoHeader_length m fs ck),
   strippedDataPad_eq n⟩

/-- **per-entry round trip** (newc and crc magic): `Reader::new` returns the written metadata and size,
`read_to_end` the exact content, `finish` leaves the stream at the next entry — for every content
length (hence every length mod 4, and the empty file) and every admissible name. -/
theorem entry_roundtrip (sizes : List Nat) {m : EntryMeta} (hm : m.WF) {c : Bytes} (hc : c.length < 4294967296)
    (ck : Option Nat) (hck : ck.getD 0 < 4294967296) (rest : Bytes) :
    readerNew sizes (writeEntry m c ck ++ rest)
        = .ok (.cpio (entryOf m c.length ck), c.length, c ++ (pad c.length ++ rest))
    ∧ readData c.length (c ++ (pad c.length ++ rest)) = .ok (c, rest) :=
  ⟨readerNew_writeEntry sizes hm hc ck hck rest, readData_append c rest⟩

/-- the stripped (large-file) entry: size taken from the header's file list by index -/
theorem entry_roundtrip_stripped (sizes : List Nat) {idx : Nat} (hi : idx < 4294967295) (c rest : Bytes)
    (hs : sizes[idx]? = some c.length) :
    readerNew sizes (strippedHeader idx ++ (c ++ (strippedDataPad c.length ++ rest)))
        = .ok (.stripped idx, c.length, c ++ (pad c.length ++ rest))
    ∧ readData c.length (c ++ (pad c.length ++ rest)) = .ok (c, rest) := by
  rw [strippedDataPad_eq]
  exact ⟨readerNew_strippedHeader sizes hi hs _, readData_append c rest⟩

/-- **foreign_archive_pairing** — "whatever the order of the archive and whichever files it omits", for
written archives: `es` is ANY list of admissible entries (any order, repetitions allowed) each naming some
file of the header `paths` (ANY list; files not named by any entry — `%ghost` files — are simply not
yielded).  Every entry comes back, in archive order, with its exact content under the index of the
header file it names.  With an entry that names no header file the items before it are unchanged and
the iteration ends with an error item. -/
theorem foreign_archive_pairing (paths : List Bytes) (sizes : List Nat) (es : List (EntryMeta × Bytes))
    (hes : ∀ x ∈ es, EntryOK x) (rest : Bytes) (fuel : Nat) :
    ((∀ x ∈ es, namePath x.1.name ∈ paths) →
      iterateE paths sizes fuel (archiveOf es ++ rest)
        = (es.take fuel).map fun x => .ok (paths.idxOf (namePath x.1.name), readOf x, x.2))
    ∧ (∀ known x t, es = known ++ x :: t → known.length < fuel → (∀ y ∈ known, namePath y.1.name ∈ paths) →
        namePath x.1.name ∉ paths →
        iterateE paths sizes fuel (archiveOf es ++ rest)
          = (known.map fun y => .ok (paths.idxOf (namePath y.1.name), readOf y, y.2)) ++ [.err "no-such-file"]) := by
  have h := iterateE_archiveOf paths sizes es hes rest fuel
  constructor
  · intro hk
    rw [h, expectItems_known _ _ (fun x hx => hk x (List.mem_of_mem_take hx))]
  · intro known x t he hlt hk hx
    obtain ⟨n, rfl⟩ : ∃ n, fuel = known.length + (n + 1) := ⟨fuel - known.length - 1, by omega⟩
    rw [h, he, List.take_length_add_append, List.take_succ_cons, expectItems_unknown paths known x _ hk hx]

/-- **cpio_roundtrip** — iterating a standard archive of ANY list of admissible entries with pairwise
distinct paths (the header listing exactly these paths, in this order) yields exactly the written
contents, in order, each with the metadata (name, mode, ino, size …) it was written with and under its own
index; the iterator makes one step per header file entry (`sizes.length`), so with as many header entries
as archive entries everything is returned.  Bytes after the trailer are never touched. -/
theorem cpio_roundtrip (es : List (EntryMeta × Bytes)) (hes : ∀ x ∈ es, EntryOK x) (hnd : (pathsOf es).Nodup)
    (sizes : List Nat) (rest : Bytes) :
    iterateE (pathsOf es) sizes sizes.length (archiveOf es ++ rest)
        = ((es.take sizes.length).zipIdx.map fun x => .ok (x.2, readOf x.1, x.1.2))
    ∧ iterate (archiveOf es ++ rest) (pathsOf es) sizes = ((es.take sizes.length).zipIdx.map fun x => .ok (x.2, x.1.2)) := by
  have h : iterateE (pathsOf es) sizes sizes.length (archiveOf es ++ rest)
      = ((es.take sizes.length).zipIdx.map fun x => .ok (x.2, readOf x.1, x.1.2)) := by
    rw [(foreign_archive_pairing _ sizes es hes rest _).1 fun x hx => List.mem_map.mpr ⟨x, hx, rfl⟩]
    -- with distinct paths the first file with an entry's path is the one at the entry's own position
    apply List.ext_getElem
    · simp
    · intro i h1 h2
      have hi : i < es.length := by simp only [List.length_map, List.length_take] at h1; omega
      have := hnd.idxOf_getElem i (by simpa using hi)
      simp only [pathsOf, List.getElem_map] at this
      simp only [List.getElem_map, List.getElem_zipIdx, Nat.zero_add, List.getElem_take, this]
  refine ⟨h, ?_⟩
  rw [iterate, iterateFrom, h, List.map_map]
  rfl

theorem cpio_roundtrip_all (es : List (EntryMeta × Bytes)) (hes : ∀ x ∈ es, EntryOK x) (hnd : (pathsOf es).Nodup)
    (sizes : List Nat) (hl : sizes.length = es.length) (rest : Bytes) :
    iterate (archiveOf es ++ rest) (pathsOf es) sizes = es.zipIdx.map fun x => .ok (x.2, x.1.2) := by
  rw [(cpio_roundtrip es hes hnd sizes rest).2, hl, List.take_length]

/-- **cpio_roundtrip_stripped** — the large-file form: entry `i` carries index `i`, its size is the
header's `sizes[i]`; any contents (no 4 GiB bound), at most 2^32 - 1 files, any header paths. -/
theorem cpio_roundtrip_stripped (cs : List Bytes) (hn : cs.length ≤ 4294967295) (paths : List Bytes)
    (hp : paths.length = cs.length) (rest : Bytes) :
    iterateE paths (cs.map List.length) cs.length (archiveStripped cs ++ rest)
        = (cs.zipIdx.map fun x => .ok (x.2, .stripped x.2, x.1))
    ∧ iterate (archiveStripped cs ++ rest) paths (cs.map List.length) = cs.zipIdx.map fun x => .ok (x.2, x.1) := by
  have h := iterateE_stripped paths (cs.map List.length) rest cs 0 cs.length (by omega) (by omega)
    (fun j hj => by simp [hj])
  rw [List.take_length] at h
  refine ⟨h, ?_⟩
  simp only [iterate, iterateFrom, List.length_map, archiveStripped, h, List.map_map]
  rfl

/-- **files_of_build** — `Package::files()` on a package whose payload is the compressed standard-mode
archive of `fs` (the builder's sorted file list) and whose header lists these files: every file's exact
content under its own metadata (index), in the builder's order.  Holds for every compressor that round-trips. -/
theorem files_of_build (compress : Bytes → Bytes) (decompress : Bytes → Out Bytes)
    (hcd : ∀ x, decompress (compress x) = .ok x)
    {uid gid : Nat} (hu : uid < 4294967296) (hg : gid < 4294967296)
    (fs : List FileIn) (hfs : ∀ f ∈ fs, f.OK) (hn : fs.length < 4294967296) (hnd : (headerPaths fs).Nodup) :
    files decompress (compress (builderArchive uid gid fs)) (headerPaths fs) (fs.map (·.content.length))
      = .ok (fs.zipIdx.map fun x => .ok (x.2, x.1.content)) := by
  have hc := builderEntriesFrom_contents uid gid fs 1
  have hp := builder_pathsOf uid gid fs 1
  have h := cpio_roundtrip_all (builderEntriesFrom uid gid 1 fs) (builderEntriesFrom_ok hu hg fs hfs 1 (by omega))
    (hp ▸ hnd) (fs.map (·.content.length)) (by simpa using (congrArg List.length hc).symm) []
  have e := zipIdx_map_map (builderEntriesFrom uid gid 1 fs) (·.2) fun x => (.ok (x.2, x.1) : Out (Nat × Bytes))
  rw [hc, zipIdx_map_map] at e
  rw [hp, List.append_nil, ← e] at h
  simp only [files, hcd, Out.bind_ok, Out.pure_eq, builderArchive, h]

theorem files_of_build_large (compress : Bytes → Bytes) (decompress : Bytes → Out Bytes)
    (hcd : ∀ x, decompress (compress x) = .ok x) (fs : List FileIn) (hn : fs.length ≤ 4294967295) :
    files decompress (compress (builderArchiveLarge fs)) (headerPaths fs) (fs.map (·.content.length))
      = .ok (fs.zipIdx.map fun x => .ok (x.2, x.1.content)) := by
  have h := (cpio_roundtrip_stripped (fs.map (·.content)) (by simpa using hn) (headerPaths fs) (by simp) []).2
  rw [List.append_nil, List.map_map, zipIdx_map_map] at h
  simp only [files, hcd, Out.bind_ok, Out.pure_eq, builderArchiveLarge]
  exact congrArg Out.ok h

theorem built_item (fs : List FileIn) {k : Nat} {c : Bytes}
    (h : (Out.ok (k, c) : Out (Nat × Bytes)) ∈ fs.zipIdx.map fun x => .ok (x.2, x.1.content)) :
    ∃ f, fs[k]? = some f ∧ f.content = c := by
  obtain ⟨⟨f, j⟩, hq, heq⟩ := List.mem_map.mp h
  obtain ⟨rfl, rfl⟩ := Prod.mk.inj (Out.ok.inj heq)
  obtain ⟨_, hlt, hget⟩ := List.mem_zipIdx hq
  have hj : j < fs.length := by omega
  exact ⟨f, by rw [hget]; exact List.getElem?_eq_getElem hj, rfl⟩

theorem built_lengths (fs : List FileIn) {l : List (Out (Nat × Bytes))}
    (h : l = fs.zipIdx.map fun x => .ok (x.2, x.1.content)) {k i : Nat} {c : Bytes} (hk : k < l.length)
    (hc : l[k] = .ok (i, c)) : (fs.map (·.content.length))[i]? = some c.length ∧ (fs.map (·.content))[i]? = some c := by
  obtain ⟨f, hf, rfl⟩ := built_item fs (k := i) (c := c) (by rw [← h, ← hc]; exact List.getElem_mem hk)
  simp [hf]

theorem built_digests (H : Bytes → Bytes) (fs : List FileIn) (recorded : List Bytes)
    (hrec : recorded = fs.map fun f => H f.content) :
    (fs.zipIdx.map fun x => (.ok (x.2, x.1.content) : Out (Nat × Bytes))).length = fs.length
      ∧ ∀ k c, .ok (k, c) ∈ (fs.zipIdx.map fun x => (.ok (x.2, x.1.content) : Out (Nat × Bytes))) →
          recorded[k]? = some (H c) ∧ (fs.map (·.content.length))[k]? = some c.length := by
  refine ⟨by simp, fun k c hm => ?_⟩
  obtain ⟨f, hf, rfl⟩ := built_item fs hm
  simp [hrec, hf]

/-- **iterate_lengths** — every content yielded from a library-made standard archive has exactly the
size recorded for the file whose metadata it is paired with (and it is that file's content) -/
theorem iterate_lengths {uid gid : Nat} (hu : uid < 4294967296) (hg : gid < 4294967296)
    (fs : List FileIn) (hfs : ∀ f ∈ fs, f.OK) (hn : fs.length < 4294967296) (hnd : (headerPaths fs).Nodup)
    (k i : Nat) (c : Bytes)
    (hk : k < (iterate (builderArchive uid gid fs) (headerPaths fs) (fs.map (·.content.length))).length)
    (hc : (iterate (builderArchive uid gid fs) (headerPaths fs) (fs.map (·.content.length)))[k] = .ok (i, c)) :
    (fs.map (·.content.length))[i]? = some c.length ∧ (fs.map (·.content))[i]? = some c :=
  built_lengths fs (Out.ok.inj (files_of_build id .ok (fun _ => rfl) hu hg fs hfs hn hnd)) hk hc

theorem iterate_lengths_large (fs : List FileIn) (hn : fs.length ≤ 4294967295) (k i : Nat) (c : Bytes)
    (hk : k < (iterate (builderArchiveLarge fs) (headerPaths fs) (fs.map (·.content.length))).length)
    (hc : (iterate (builderArchiveLarge fs) (headerPaths fs) (fs.map (·.content.length)))[k] = .ok (i, c)) :
    (fs.map (·.content.length))[i]? = some c.length ∧ (fs.map (·.content))[i]? = some c :=
  built_lengths fs (Out.ok.inj (files_of_build_large id .ok (fun _ => rfl) fs hn)) hk hc

/-- **read_length** (full strength since `fix: c887b00`) — for ANY stream: when reading an entry's data
succeeds, the content has exactly the announced size and the stream was content ++ padding ++ rest;
a stream that ends inside the data is an error (`truncated_archive_witness`). -/
theorem read_length {fileSize : Nat} {r c r' : Bytes} (h : readData fileSize r = .ok (c, r')) :
    c.length = fileSize ∧ ∃ p, p.length = padLen fileSize ∧ r = c ++ (p ++ r') :=
  readData_ok h

/-- **iterate_lengths_any** — for ANY archive bytes and ANY header: every yielded content has exactly
the size the reader took for its entry — the cpio header's `filesize`, or, for a stripped entry, the
recorded size `sizes[idx]` of the header file the entry names. -/
theorem iterate_lengths_any (paths : List Bytes) (sizes : List Nat) (fuel : Nat) (archive : Bytes) (i : Nat)
    (e : PayloadEntry) (c : Bytes) (h : .ok (i, e, c) ∈ iterateE paths sizes fuel archive) :
    entrySize sizes e = some c.length :=
  (iterateE_item paths sizes fuel archive i e c h).2

theorem item_not_trailer (paths : List Bytes) (sizes : List Nat) : ∀ (fuel : Nat) (bs : Bytes) (i : Nat)
    (e : PayloadEntry) (c : Bytes), .ok (i, e, c) ∈ iterateE paths sizes fuel bs → isTrailer e = false :=
  iterateE_forall_ok fun _ hnt _ _ => hnt

/-- **item_length_eq_recorded_iff** — "its length equals the recorded size", for ANY archive bytes and ANY header: an
item `(i, e, c)` — content `c` read from archive entry `e`, handed out with the metadata of header file `i` — has the
length recorded for file `i` (`sizes[i]`, FILESIZES / LONGFILESIZES) EXACTLY WHEN the `filesize` field of the cpio header of
`e` says so; a stripped entry has no size of its own, so there the clause always holds.  The iterator does not compare the
two numbers itself (`recorded_size_not_compared_witness`). -/
theorem item_length_eq_recorded_iff (paths : List Bytes) (sizes : List Nat) (fuel : Nat) (archive : Bytes) (i : Nat)
    (e : PayloadEntry) (c : Bytes) (h : .ok (i, e, c) ∈ iterateE paths sizes fuel archive) :
    (sizes[i]? = some c.length) ↔
      (match e with
       | .cpio ce => sizes[i]? = some ce.fileSize
       | .stripped _ => True) := by
  obtain ⟨hfi, hsz⟩ := iterateE_item paths sizes fuel archive i e c h
  have hnt := item_not_trailer paths sizes fuel archive i e c h
  cases e with
  | cpio ce =>
    simp only [entrySize, Option.some.injEq] at hsz
    simp only [hsz]
  | stripped idx =>
    have hi := fileIndex_stripped hfi
    subst hi
    simp only [isTrailer, beq_eq_false_iff_ne, ne_eq] at hnt
    simp only [entrySize, hnt, if_false] at hsz
    simp only [hsz]

/-- **recorded_size_not_compared_witness** — a (foreign) package whose header records 5 bytes for `/a` while the cpio
entry `./a` says `filesize` = 1: the iterator hands out an `Ok` item for file 0 whose content has 1 byte — the bytes stored
in the archive — under metadata that says 5.  (`Package::files` never looks at `FileEntry.size` for newc / crc entries.) -/
theorem recorded_size_not_compared_witness :
    iterate (archiveOf [({ name := [46, 47, 97], ino := 1, mode := 33188 }, [65])]) [[47, 97]] [5] = [.ok (0, [65])] := by
  decide +kernel

/-- **item_digest_matches** — "its digest equals the recorded file digest", for packages built by the library, standard
form, ANY hash function `H` and ANY round-tripping codec: when the header records for file `k` the digest of the `k`-th
builder file's content (`recorded`; that it does is C08 `file_digest_is_content_digest` + `file_digests`), every item
`(k, c)` that `Package::files()` yields satisfies `recorded[k] = H c` — and `c.len()` is the recorded size -/
theorem item_digest_matches (H : Bytes → Bytes) (compress : Bytes → Bytes) (decompress : Bytes → Out Bytes)
    (hcd : ∀ x, decompress (compress x) = .ok x) {uid gid : Nat} (hu : uid < 4294967296) (hg : gid < 4294967296)
    (fs : List FileIn) (hfs : ∀ f ∈ fs, f.OK) (hn : fs.length < 4294967296) (hnd : (headerPaths fs).Nodup)
    (recorded : List Bytes) (hrec : recorded = fs.map fun f => H f.content) :
    ∃ items, files decompress (compress (builderArchive uid gid fs)) (headerPaths fs) (fs.map (·.content.length)) = .ok items
      ∧ items.length = fs.length
      ∧ ∀ k c, .ok (k, c) ∈ items → recorded[k]? = some (H c) ∧ (fs.map (·.content.length))[k]? = some c.length :=
  ⟨_, files_of_build compress decompress hcd hu hg fs hfs hn hnd, built_digests H fs recorded hrec⟩

theorem item_digest_matches_large (H : Bytes → Bytes) (compress : Bytes → Bytes) (decompress : Bytes → Out Bytes)
    (hcd : ∀ x, decompress (compress x) = .ok x) (fs : List FileIn) (hn : fs.length ≤ 4294967295)
    (recorded : List Bytes) (hrec : recorded = fs.map fun f => H f.content) :
    ∃ items, files decompress (compress (builderArchiveLarge fs)) (headerPaths fs) (fs.map (·.content.length)) = .ok items
      ∧ items.length = fs.length
      ∧ ∀ k c, .ok (k, c) ∈ items → recorded[k]? = some (H c) ∧ (fs.map (·.content.length))[k]? = some c.length :=
  ⟨_, files_of_build_large compress decompress hcd fs hn, built_digests H fs recorded hrec⟩

example : ∃ items, files .ok (builderArchive 0 0 [⟨[46, 47, 97], 33188, [1, 2, 3]⟩, ⟨[46, 47, 98], 33261, []⟩])
      [[47, 97], [47, 98]] [3, 0] = .ok items ∧ items = [.ok (0, [1, 2, 3]), .ok (1, [])] :=
  ⟨_, files_of_build id .ok (fun _ => rfl) (by decide) (by decide) _
    (by decide) (by decide) (by decide), rfl⟩

/-- `item_length_eq_recorded_iff` is not vacuous, in either direction: an entry whose `filesize` agrees, and one whose does not -/
example : .ok (0, .cpio ⟨false, [46, 47, 97], 1, 33188, 0, 0, 1, 0, 1, 0, 0, 0, 0, 0⟩, [65])
    ∈ iterateE [[47, 97]] [1] 1 (archiveOf [({ name := [46, 47, 97], ino := 1, mode := 33188 }, [65])]) := by
  rw [← List.append_nil (archiveOf _), iterateE_archiveOf]
  · decide
  · decide
example : .ok (0, .cpio ⟨false, [46, 47, 97], 1, 33188, 0, 0, 1, 0, 1, 0, 0, 0, 0, 0⟩, [65])
    ∈ iterateE [[47, 97]] [5] 1 (archiveOf [({ name := [46, 47, 97], ino := 1, mode := 33188 }, [65])]) := by
  rw [← List.append_nil (archiveOf _), iterateE_archiveOf]
  · decide
  · decide

/-- header file `i` is the one the archive entry designates: for a newc / crc entry the file whose path
is the one the entry's name stands for (`"." + path`, or the plain path), for a stripped entry the file
at the index the entry carries.  Stated on the header's path list alone — independent of `fileIndex`. -/
def Designates (paths : List Bytes) : PayloadEntry → Nat → Prop
  | .cpio e, i => paths[i]? = some (namePath e.name)
  | .stripped idx, i => i = idx ∧ idx < paths.length

/-- `Reader::file_index` is sound and complete for `Designates`: it returns the FIRST designated file,
and `None` exactly when the entry designates no file -/
theorem fileIndex_spec (paths : List Bytes) (e : PayloadEntry) :
    (∀ i, fileIndex paths e = some i → Designates paths e i ∧ ∀ j, Designates paths e j → i ≤ j)
    ∧ (fileIndex paths e = none ↔ ∀ i, ¬ Designates paths e i) := by
  cases e with
  | cpio ce =>
    refine ⟨fun i h => ⟨fileIndex_cpio h, fileIndex_cpio_first h⟩, ?_⟩
    rw [fileIndex_cpio_none, List.mem_iff_getElem?, not_exists]
    rfl
  | stripped idx =>
    refine ⟨fun i h => ?_, ?_⟩
    · obtain ⟨hlt, rfl⟩ := fileIndex_stripped_iff.mp h
      exact ⟨⟨rfl, hlt⟩, fun j hj => Nat.le_of_eq hj.1.symm⟩
    · rw [fileIndex_stripped_none]
      exact ⟨fun h i hi => Nat.not_lt.mpr h hi.2, fun h => Nat.le_of_not_lt fun hlt => h idx ⟨rfl, hlt⟩⟩

theorem designates_unique (paths : List Bytes) (hnd : paths.Nodup) (e : PayloadEntry) (i j : Nat)
    (hi : Designates paths e i) (hj : Designates paths e j) : i = j := by
  cases e with
  | cpio ce =>
    simp only [Designates] at hi hj
    obtain ⟨hil, hie⟩ := List.getElem?_eq_some_iff.mp hi
    obtain ⟨hjl, hje⟩ := List.getElem?_eq_some_iff.mp hj
    exact (List.getElem_inj hnd).mp (hie.trans hje.symm)
  | stripped idx => exact hi.1.trans hj.1.symm

/-- **pairing_by_name** — the property at full strength (after `fix: 3cfa908`).  For EVERY archive (any
bytes: any order of entries, any files left out, newc, crc or stripped entries, damaged or not), EVERY
header file list with pairwise distinct paths, and every `ok` item `(i, e, c)` the iterator yields — the
content `c` read from archive entry `e`, handed out with the metadata of header file `i`:
* `i` is a file of the header and it is the one entry `e` itself designates (its path is the one the
  name of `e` stands for; for a stripped entry `i` is the index `e` carries),
* no other header file is designated by `e`,
* `c` has exactly the size the reader took for `e` (`iterate_lengths_any`). -/
theorem pairing_by_name (paths : List Bytes) (hnd : paths.Nodup) (sizes : List Nat) (fuel : Nat) (archive : Bytes)
    (i : Nat) (e : PayloadEntry) (c : Bytes) (h : .ok (i, e, c) ∈ iterateE paths sizes fuel archive) :
    i < paths.length ∧ Designates paths e i ∧ (∀ j, Designates paths e j → j = i)
    ∧ entrySize sizes e = some c.length := by
  obtain ⟨hfi, hsz⟩ := iterateE_item paths sizes fuel archive i e c h
  have hd := ((fileIndex_spec paths e).1 i hfi).1
  exact ⟨fileIndex_lt hfi, hd, fun j hj => designates_unique paths hnd e j i hj hd, hsz⟩

/-- without the distinctness hypothesis: the FIRST header file the entry designates (`position`) -/
theorem pairing_first_match (paths : List Bytes) (sizes : List Nat) (fuel : Nat) (archive : Bytes)
    (i : Nat) (e : PayloadEntry) (c : Bytes) (h : .ok (i, e, c) ∈ iterateE paths sizes fuel archive) :
    i < paths.length ∧ Designates paths e i ∧ ∀ j, Designates paths e j → i ≤ j := by
  obtain ⟨hfi, _⟩ := iterateE_item paths sizes fuel archive i e c h
  exact ⟨fileIndex_lt hfi, (fileIndex_spec paths e).1 i hfi⟩

/-- **unknown_entry_is_error** — a (non-trailer) archive entry that designates no file of the header is
answered with an error item — never with some file's metadata — wherever in the archive it stands
(`bs` is the stream at that entry). -/
theorem unknown_entry_is_error (paths : List Bytes) (sizes : List Nat) (fuel : Nat) (bs : Bytes) (e : PayloadEntry)
    (fs : Nat) (r : Bytes) (hr : readerNew sizes bs = .ok (e, fs, r)) (hnt : isTrailer e = false)
    (hno : ∀ i, ¬ Designates paths e i) :
    iterateE paths sizes (fuel + 1) bs = [.err "no-such-file"] := by
  have := (fileIndex_spec paths e).2.mpr hno
  simp only [iterateE, hr, hnt, this]
  simp

theorem ok_item_designates (paths : List Bytes) (sizes : List Nat) (fuel : Nat) (archive : Bytes)
    (i : Nat) (e : PayloadEntry) (c : Bytes) (h : .ok (i, e, c) ∈ iterateE paths sizes fuel archive) :
    ∃ j, Designates paths e j :=
  ⟨i, (pairing_first_match paths sizes fuel archive i e c h).2.1⟩

/-- the library's own standard archives: every yielded item carries the index of the file the entry
names, that index is the entry's position (the builder writes the header's files in header order), and
the content is that file's (`headerPaths` of the BTreeMap keys are distinct: `headerPaths_nodup`) -/
theorem builder_pairing {uid gid : Nat} (hu : uid < 4294967296) (hg : gid < 4294967296)
    (fs : List FileIn) (hfs : ∀ f ∈ fs, f.OK) (hn : fs.length < 4294967296) (hnd : (headerPaths fs).Nodup) :
    ∃ es : List (Nat × PayloadEntry × Bytes),
      iterateE (headerPaths fs) (fs.map (·.content.length)) fs.length (builderArchive uid gid fs) = es.map .ok
      ∧ es.map (·.2.2) = fs.map (·.content)
      ∧ es.map (·.1) = List.range fs.length
      ∧ ∀ k (h : k < es.length), Designates (headerPaths fs) es[k].2.1 k := by
  have hc := builderEntriesFrom_contents uid gid fs 1
  have hp := builder_pathsOf uid gid fs 1
  have hlen : (builderEntriesFrom uid gid 1 fs).length = fs.length := by simpa using congrArg List.length hc
  have h := (cpio_roundtrip (builderEntriesFrom uid gid 1 fs) (builderEntriesFrom_ok hu hg fs hfs 1 (by omega))
    (hp ▸ hnd) (fs.map (·.content.length)) []).1
  rw [hp, List.append_nil, List.length_map, ← hlen, List.take_length] at h
  refine ⟨(builderEntriesFrom uid gid 1 fs).zipIdx.map fun x => (x.2, readOf x.1, x.1.2), ?_, ?_, ?_, ?_⟩
  · rw [← hlen, builderArchive, h, List.map_map]; rfl
  · rw [List.map_map, ← hc]
    exact map_zipIdx_fst Prod.snd (builderEntriesFrom uid gid 1 fs) 0
  · rw [List.map_map, ← hlen, List.range_eq_range']
    exact List.zipIdx_map_snd ..
  · intro k hk
    simp only [List.length_map, List.length_zipIdx] at hk
    rw [← hp]
    simp only [List.getElem_map, List.getElem_zipIdx, Nat.zero_add, Designates, pathsOf, List.getElem?_map,
      List.getElem?_eq_getElem hk]
    rfl

/-- the pre-fix `FileIterator::next`: the i-th `next()` hands out `file_entries[i]` with whatever the i-th
archive entry holds (the list position is the metadata index) -/
def iterateEOld (sizes : List Nat) : Nat → Bytes → List (Out (PayloadEntry × Bytes))
  | 0, _ => []
  | fuel + 1, bs =>
    match readerNew sizes bs with
    | .ok (e, fileSize, r) =>
      if isTrailer e then [] else
      match readData fileSize r with
      | .ok (content, r') => .ok (e, content) :: iterateEOld sizes fuel r'
      | .err c => [.err c]
      | .panic s => [.panic s]
    | .err c => [.err c]
    | .panic s => [.panic s]

def okItems {α} (l : List (Out α)) : List α := l.filterMap fun o => match o with | .ok x => some x | _ => none

/-- **same_entries_as_before** — the repair changed which METADATA an item carries, nothing else: the
(entry, content) pairs the iterator yields are the archive's entries in archive order with the contents
the pre-fix iterator read for them — all of them, or those before the first entry that designates no
header file. -/
theorem same_entries_as_before (paths : List Bytes) (sizes : List Nat) (fuel : Nat) (bs : Bytes) :
    ∃ n, (okItems (iterateE paths sizes fuel bs)).map (fun x => (x.2.1, x.2.2))
      = (okItems (iterateEOld sizes fuel bs)).take n := by
  induction fuel generalizing bs with
  | zero => exact ⟨0, rfl⟩
  | succ k ih =>
    -- wherever the new iterator stops it has no further `ok` item: `n = 0`; otherwise both hand out the same item
    rw [iterateE, iterateEOld]
    split
    · split
      · exact ⟨0, rfl⟩
      · split
        · exact ⟨0, rfl⟩
        · split
          · rename_i _ e fs r hr hnt _ i _ _ c r' hd
            obtain ⟨n, hn⟩ := ih r'
            simp only [hr, hnt, hd]
            exact ⟨n + 1, congrArg (List.cons _) hn⟩
          · exact ⟨0, rfl⟩
          · exact ⟨0, rfl⟩
    · exact ⟨0, rfl⟩
    · exact ⟨0, rfl⟩

def oldPairedByPath (paths : List Bytes) (ys : List (Out (PayloadEntry × Bytes))) : Bool :=
  ys.zipIdx.all fun y => match y.1 with
    | .ok (e, _) => fileIndex paths e == some y.2
    | _ => true

def pairedByPath (paths : List Bytes) (ys : List (Out (Nat × PayloadEntry × Bytes))) : Bool :=
  ys.all fun y => match y with
    | .ok (i, e, _) => fileIndex paths e == some i
    | _ => true

/-- header of a foreign package: `/a` (1 byte), `/g` (a %ghost file, not archived), `/b` (1 byte) -/
def wPaths : List Bytes := [[47, 97], [47, 103], [47, 98]]
def wSizes : List Nat := [1, 0, 1]

/-- its archive, as rpm writes it: `./a` = "A", `./b` = "B"; the ghost is omitted -/
def wArchive : Bytes := archiveOf [({ name := [46, 47, 97], ino := 1, mode := 33188 }, [65]),
                                   ({ name := [46, 47, 98], ino := 3, mode := 33188 }, [66])]

/-- an archive that lists `./b` before `./a` for the header `/a`, `/b` -/
def wArchiveReordered : Bytes := archiveOf [({ name := [46, 47, 98], ino := 2, mode := 33188 }, [66]),
                                            ({ name := [46, 47, 97], ino := 1, mode := 33188 }, [65])]

/-- an archive with an entry `./x` that no header file corresponds to, between `./a` and `./b` -/
def wArchiveUnknown : Bytes := archiveOf [({ name := [46, 47, 97], ino := 1, mode := 33188 }, [65]),
                                          ({ name := [46, 47, 120], ino := 9, mode := 33188 }, [88]),
                                          ({ name := [46, 47, 98], ino := 3, mode := 33188 }, [66])]

/-- **old_position_pairing_ghost_witness** — an archive that omits a `%ghost` file: the OLD iterator
yielded "A" and "B" and paired "B" (the content of `/b`, header file 2) with the metadata of header file 1
(`/g`); the repaired iterator yields "B" under index 2. -/
theorem old_position_pairing_ghost_witness :
    (iterateEOld wSizes 3 wArchive).map (fun y => y.map fun x => (fileIndex wPaths x.1, x.2))
        = [.ok (some 0, [65]), .ok (some 2, [66])]
    ∧ oldPairedByPath wPaths (iterateEOld wSizes 3 wArchive) = false
    ∧ iterate wArchive wPaths wSizes = [.ok (0, [65]), .ok (2, [66])] := by
  decide +kernel

/-- an archive ordered differently from the header: the OLD iterator handed both contents out under the
other file's metadata; the repaired one gives "B" to `/b` (1) and "A" to `/a` (0) -/
theorem old_position_pairing_reordered_witness :
    (iterateEOld [1, 1] 2 wArchiveReordered).map (fun y => y.map (·.2)) = [.ok [66], .ok [65]]
    ∧ oldPairedByPath [[47, 97], [47, 98]] (iterateEOld [1, 1] 2 wArchiveReordered) = false
    ∧ iterate wArchiveReordered [[47, 97], [47, 98]] [1, 1] = [.ok (1, [66]), .ok (0, [65])] := by
  decide +kernel

/-- an entry that names no header file: the OLD iterator handed its content ("X") out as `/g`'s; the
repaired one stops with an error item -/
theorem old_position_pairing_unknown_witness :
    (iterateEOld wSizes 3 wArchiveUnknown).map (fun y => y.map (·.2)) = [.ok [65], .ok [88], .ok [66]]
    ∧ iterate wArchiveUnknown wPaths wSizes = [.ok (0, [65]), .err "no-such-file"] := by
  decide +kernel

/-- a truncated archive: the entry announces 4 bytes, the stream ends after 2 — an error, no short file -/
theorem truncated_archive_witness :
    iterate ((writeEntry { name := [46, 47, 97], ino := 1, mode := 33188 } [65, 66, 67, 68]).dropLast.dropLast) [[47, 97]] [4]
      = [.err "eof"] := by
  decide +kernel

/-- **build_order** — the files the builder iterates over (`self.files`, a BTreeMap keyed by cpio path,
filled by `or_insert`) are strictly ascending by path (byte-lexicographic, as `String: Ord`), each is one
of the given files, every given path is present, and when the given paths are distinct the result is a
permutation of what was given: "the sequence given to the builder ordered by path". Together with
`files_of_build` (applied to `buildFiles given`) this is the last sentence of the property. -/
theorem build_order (given : List FileIn) :
    SortedByPath (buildFiles given)
    ∧ (∀ x ∈ buildFiles given, x ∈ given)
    ∧ (∀ g ∈ given, g.path ∈ (buildFiles given).map (·.path))
    ∧ ((given.map (·.path)).Nodup → (buildFiles given).Perm given) := by
  refine ⟨foldl_insert_sorted given [] List.Pairwise.nil, ?_, foldl_insert_paths given [], ?_⟩
  · intro x hx
    rcases foldl_insert_mem given [] x hx with h | h
    · exact h
    · cases h
  · intro hnd
    have := foldl_insert_perm given [] (by simpa using hnd)
    simpa [buildFiles] using this

/-- a strictly ascending list has no duplicate paths (so, with `headerPaths_nodup`, `builder_pairing` and
`files_of_build` apply to `buildFiles _`) -/
theorem sorted_nodup {l : List FileIn} (h : SortedByPath l) : (l.map (·.path)).Nodup := by
  refine List.pairwise_map.mpr (h.imp ?_)
  intro a b hab heq
  rw [heq, bytesLt_irrefl] at hab
  cases hab

/-! ## the iterator as a state machine: what `next()` answers AFTER an error item (Model/FileIter.lean)

`FileIterator::next` is neither fused nor stopped by an error.  The theorems of this section hold for every stream
state type `σ` and every `step : σ → Step σ`, i.e. for every behaviour of the `Box<dyn Read>` behind the iterator
(an in-memory cursor, a decompressor inside a damaged frame, a stream whose position after an error is arbitrary). -/

section StateMachine
open RpmVerif.FileIter

/-- **next_none_after_n** — once `count` has reached `file_entries.len()` the iterator answers `None` and does not
touch the stream any more -/
theorem next_none_after_n {σ : Type} (step : σ → Step σ) (n : Nat) (st : St σ) (h : st.count ≥ n) :
    next step n st = (none, st) :=
  next_of_ge step n st h

example : next (stepMem [[47, 97]] [1]) 1 ⟨1, [1, 2, 3]⟩ = (none, ⟨1, [1, 2, 3]⟩) := rfl

/-- **items_le_entries** — for EVERY stream behaviour: a consumer that pulls until the first `None` (`for`,
`collect()`, `count()`, at most `fuel` pulls) sees at most `file_entries.len() - count` items, errors included;
and a consumer that keeps calling `next()` after a `None` gets at most that many `Some(_)` answers in ANY number
`k` of calls (this is what `count += 1` BEFORE the read buys: seeds C04-4 / C04-8 moved it behind the read) -/
theorem items_le_entries {σ : Type} (step : σ → Step σ) (n : Nat) (st : St σ) :
    (∀ fuel, (drain step n fuel st).length ≤ n - st.count)
    ∧ (∀ k, ((answers step n k st).filter Option.isSome).length ≤ n - st.count) :=
  ⟨fun fuel => drain_length step n fuel st, fun k => answers_some_le step n k st⟩

theorem collect_le_entries {σ : Type} (step : σ → Step σ) (n : Nat) (s : σ) : (collect step n s).length ≤ n :=
  drain_length step n (n + 1) ⟨0, s⟩

/-- the bound is attained, and attained by errors: a header with three files over an empty payload makes
`collect()` return three error items -/
example : collectMem [] [[47, 97], [47, 98], [47, 99]] [1, 1, 1] = [.err "eof", .err "eof", .err "eof"] := by decide +kernel

/-- **iterate_terminates** — for EVERY stream behaviour the loop `while let Some(x) = it.next()` ends: more than
`file_entries.len() - count` pulls change nothing (so `collect`'s `n + 1` pulls see the whole iteration), and after
that many calls every further call answers `None` -/
theorem iterate_terminates {σ : Type} (step : σ → Step σ) (n : Nat) (st : St σ) :
    (∀ fuel, n - st.count ≤ fuel → drain step n fuel st = drain step n (n - st.count) st)
    ∧ (∀ k, n - st.count ≤ k → (next step n (stateAfter step n k st)).1 = none) := by
  refine ⟨fun fuel hf => drain_fuel step n fuel st hf, fun k hk => ?_⟩
  have := stateAfter_count_ge step n k st (by omega)
  rw [next_of_ge step n _ this]

example : drain (stepMem [] []) 2 7 ⟨0, [9, 9]⟩ = drain (stepMem [] []) 2 2 ⟨0, [9, 9]⟩
    ∧ drain (stepMem [] []) 2 2 ⟨0, [9, 9]⟩ = [.err "eof", .err "eof"] := by decide +kernel

/-- **iterateE_is_prefix** — `Cpio.iterateE` (the iterator of all pairing / round-trip theorems above, which ends
its list at the first error) is exactly what a `collect()` of the real iteration shows up to and including the
first error item — whatever position `after` the stream is left at by an error (`stepAfter`), in particular for the
positions the in-memory stream really has (`stepMem`, `after = id`) -/
theorem iterateE_is_prefix (after : Bytes → Bytes) (paths : List Bytes) (sizes : List Nat) (archive : Bytes) :
    uptoErr (collect (stepAfter after paths sizes) sizes.length archive) = iterateE paths sizes sizes.length archive := by
  unfold collect
  rw [drain_fuel _ _ _ _ (by simp)]
  exact iterateE_is_prefix_gen after paths sizes sizes.length sizes.length 0 archive (by omega)

theorem iterateE_is_prefix_mem (paths : List Bytes) (sizes : List Nat) (archive : Bytes) :
    uptoErr (collectMem archive paths sizes) = iterateE paths sizes sizes.length archive := by
  have := iterateE_is_prefix id paths sizes archive
  rw [stepAfter_id] at this
  exact this

/-- no error item in `iterateE` (every archive the builder writes: `cpio_roundtrip`, `foreign_archive_pairing`):
then `collect()` returns exactly the items of `iterateE` — nothing comes after them -/
theorem collect_eq_iterateE_of_no_error (paths : List Bytes) (sizes : List Nat) (archive : Bytes)
    (h : ∀ o ∈ iterateE paths sizes sizes.length archive, o.isOk = true) :
    collectMem archive paths sizes = iterateE paths sizes sizes.length archive := by
  have hp := iterateE_is_prefix_mem paths sizes archive
  rw [← hp] at h
  rw [← hp, uptoErr_eq_self _ h]

example : collectMem (archiveOf [({ name := [46, 47, 97], ino := 1, mode := 33188 }, [65])]) [[47, 97]] [1]
    = [.ok (0, .cpio ⟨false, [46, 47, 97], 1, 33188, 0, 0, 1, 0, 1, 0, 0, 0, 0, 0⟩, [65])] := by decide +kernel

/-- on a stream that is used up every remaining call is an `UnexpectedEof` item: a payload cut anywhere makes
`collect()` return one error per header file that is left -/
theorem drained_stream_only_errors (paths : List Bytes) (sizes : List Nat) (n fuel c : Nat) :
    drain (stepMem paths sizes) n fuel ⟨c, []⟩ = List.replicate (min fuel (n - c)) (.err "eof") :=
  drain_nil paths sizes n fuel c

/-- **after_error_keeps_answering_witness** — the archive ends inside the second of three files: `iterateE` (and a
consumer using `?`) stops at the error, `collect()` gets a second error item for the third header file -/
theorem after_error_keeps_answering_witness :
    let archive := writeEntry { name := [46, 47, 97], ino := 1, mode := 33188 } [65]
                   ++ (writeEntry { name := [46, 47, 98], ino := 2, mode := 33188 } [66, 66, 66, 66]).dropLast
    (iterate archive [[47, 97], [47, 98], [47, 99]] [1, 4, 0] = [.ok (0, [65]), .err "eof"])
    ∧ (collectMem archive [[47, 97], [47, 98], [47, 99]] [1, 4, 0]).map (Out.map fun x => (x.1, x.2.2))
        = [.ok (0, [65]), .err "eof", .err "eof"] := by
  decide +kernel

/-- **after_error_resumes_witness** — an entry that names no file of the header is an error item that leaves the
stream behind the entry's header; its data is empty here, so the next call finds the next entry and hands out an
`Ok` item AFTER the error (then `count` has reached the two header files and the trailer is never read) -/
theorem after_error_resumes_witness :
    let archive := archiveOf [({ name := [46, 47, 120], ino := 1, mode := 33188 }, []),
                              ({ name := [46, 47, 97], ino := 2, mode := 33188 }, [65])]
    (iterate archive [[47, 97], [47, 103]] [1, 0] = [.err "no-such-file"])
    ∧ (collectMem archive [[47, 97], [47, 103]] [1, 0]).map (Out.map fun x => (x.1, x.2.2))
        = [.err "no-such-file", .ok (0, [65])] := by
  decide +kernel

/-- the iterator is not fused: after the `None` of a trailer a further call reads on behind the trailer's header -/
theorem not_fused_witness :
    answers (stepMem [[47, 97], [47, 98]] [1, 1]) 2 3 ⟨0, trailer ++ writeEntry { name := [46, 47, 97] } [65]⟩
      = [none, some (.ok (0, .cpio ⟨false, [46, 47, 97], 0, 0, 0, 0, 1, 0, 1, 0, 0, 0, 0, 0⟩, [65])), none] := by
  decide +kernel

end StateMachine

/-! ## `payload::Writer` as a state machine (Model/PayloadWriter.lean)

The inner sink is an arbitrary response script (short writes, `Interrupted`, hard errors, a failing `flush`); all
theorems quantify over it. -/

section WriterMachine
open RpmVerif.PWriter

/-- **prepare_data_invariant** — a `Writer` that has exactly `buf` left to take (`written + buf.len() == file_size`,
`file_size <= u32::MAX`): the call `write(buf)` passes the guard `written + buf.len() as u32 <= file_size` without
overflow, does not return `UnexpectedEof`, and leaves the `Writer` with exactly the rest of `buf` to take (after
`Ok(n)`: `buf[n..]`; after `Interrupted`: `buf` again) — so the invariant holds along the whole `write_all(buf)`,
which for EVERY sink behaviour ends without panic, without the `Writer`'s `UnexpectedEof` (and without running out
of the model's fuel), and if `Ok` with `written == file_size`, the state in which `finish` pads. -/
theorem prepare_data_invariant (w : Writer) (buf : Bytes)
    (hinv : w.written + buf.length = w.fileSize) (hfs : w.fileSize ≤ 4294967295) :
    ((∀ p, (w.write buf).1 ≠ .panic p) ∧ (w.write buf).1 ≠ .err "unexpected-eof"
      ∧ (∀ n, (w.write buf).1 = .ok n →
          n ≤ buf.length ∧ (w.write buf).2.written + (buf.drop n).length = (w.write buf).2.fileSize
          ∧ (w.write buf).2.fileSize = w.fileSize)
      ∧ ((w.write buf).1 = .err "interrupted" →
          (w.write buf).2.written + buf.length = (w.write buf).2.fileSize ∧ (w.write buf).2.fileSize = w.fileSize))
    ∧ ((∀ p, (w.writeAll buf).1 ≠ .panic p) ∧ (w.writeAll buf).1 ≠ .err "unexpected-eof"
      ∧ (w.writeAll buf).1 ≠ .err "fuel"
      ∧ ((w.writeAll buf).1 = .ok () → (w.writeAll buf).2.written = (w.writeAll buf).2.fileSize)) := by
  have hfs' : w.fileSize < 4294967296 := by omega
  constructor
  · obtain ⟨h1, _, _, _, _, h6⟩ := Writer.write_spec w buf hinv hfs'
    rcases h6 with ⟨n, e1, e2, e3, _, _, _⟩ | ⟨e1, e3, _⟩ | e1 | e1
    · rw [e1]
      refine ⟨nofun, nofun, fun k hk => ?_, nofun⟩
      cases hk
      exact ⟨e2, by rw [e3, h1, List.length_drop]; omega, h1⟩
    · rw [e1]
      refine ⟨nofun, (by simp), nofun, fun _ => ?_⟩
      exact ⟨by rw [e3, h1]; exact hinv, h1⟩
    · rw [e1]
      exact ⟨nofun, (by simp), nofun, fun h => (by simp at h)⟩
    · rw [e1]
      exact ⟨nofun, (by simp), nofun, fun h => (by simp at h)⟩
  · obtain ⟨_, _, _, h4, _, h6⟩ := Writer.writeAll_spec w buf hinv hfs'
    rcases h6 with ⟨e1, e2, _⟩ | e1 | e1
    · rw [e1]
      exact ⟨nofun, nofun, nofun, fun _ => (by rw [e2, h4])⟩
    · rw [e1]
      exact ⟨nofun, (by simp), (by simp), nofun⟩
    · rw [e1]
      exact ⟨nofun, (by simp), (by simp), nofun⟩

/-- the hypotheses of `prepare_data_invariant` hold for the `Writer` the builder makes for a content that fits a
`u32` (`write_cpio(&mut archive, content.len() as u32)` followed by `write_all(&content)`) -/
theorem builder_writer_announces_content (m : EntryMeta) (content : Bytes) (check : Option Nat) (s : Sink)
    (hc : content.length ≤ 4294967295) :
    (Writer.new m (content.length % 4294967296) check s).written + content.length
      = (Writer.new m (content.length % 4294967296) check s).fileSize
    ∧ (Writer.new m (content.length % 4294967296) check s).fileSize ≤ 4294967295 := by
  rw [Nat.mod_eq_of_lt (by omega)]
  exact ⟨by simp [Writer.new], hc⟩

example : (Writer.new { name := [46, 47, 97] } 3 none {}).written + [7, 8, 9].length
    = (Writer.new { name := [46, 47, 97] } 3 none {}).fileSize := rfl

/-- **standard_mode_sizes_fit_u32** — the connection to the builder's large-file switch: the `Writer` is only used
when `combined_file_sizes > u32::MAX` is false, and then every single content fits a `u32`, so `content.len() as u32`
is exact and `builder_writer_announces_content` applies to every file of the loop -/
theorem standard_mode_sizes_fit_u32 (files : List FileIn) (h : usesLargeFiles files = false) :
    ∀ f ∈ files, f.content.length ≤ 4294967295 := by
  intro f hf
  have h1 : f.content.length ∈ files.map (·.content.length) := List.mem_map.mpr ⟨f, hf, rfl⟩
  have h2 := le_sum_of_mem h1
  unfold usesLargeFiles at h
  have h3 : ¬ ((files.map (·.content.length)).sum > 4294967295) := by simpa using h
  omega

example : usesLargeFiles [⟨[46, 47, 97], 33188, [1, 2, 3]⟩, ⟨[46, 47, 98], 33188, []⟩] = false := by decide

/-- **writer_eq_writeEntry** — one file through the state machine (`write_cpio`, `write_all`, `finish`), content
fitting a `u32`, EVERY sink: the outcome is `Ok` or an error of the sink (never a panic, never `UnexpectedEof`); when
`Ok`, exactly `Cpio.writeEntry` — header, content, padding — went out (the model of all theorems above); a sink that
accepts everything gives `Ok` -/
theorem writer_eq_writeEntry (m : EntryMeta) (content : Bytes) (s : Sink) (hc : content.length ≤ 4294967295) :
    (((entryW m content s).1 = .ok () ∧ (entryW m content s).2.out = s.out ++ writeEntry m content)
       ∨ (entryW m content s).1 = .err "io" ∨ (entryW m content s).1 = .err "write-zero")
    ∧ (s.script = [] → s.flushFails = false → (entryW m content s).1 = .ok ()) := by
  obtain ⟨_, _, h3, h4⟩ := entryW_spec m content s (by omega)
  exact ⟨h4, h3⟩

example : entryW { name := [46, 47, 97], ino := 1, mode := 33188 } [65, 66, 67] {}
    = (.ok (), { out := writeEntry { name := [46, 47, 97], ino := 1, mode := 33188 } [65, 66, 67] }) :=
  have h := Emits.accepting (entryW_spec { name := [46, 47, 97], ino := 1, mode := 33188 } [65, 66, 67] {} (by decide)) rfl rfl
  Prod.ext h.1 h.2

/-- a sink that takes one byte per call, is interrupted once and fails at the end: an error, not a panic -/
example : (entryW { name := [46] } [65, 66] { script := [.ok 1, .intr, .ok 200, .ok 1, .fail] }).1 = .err "io" := by
  decide +kernel

/-- **builder_archive_writer** — the standard-mode loop of `prepare_data` plus `payload::trailer` run through the
`Writer` state machine, for a file list that does not trip the large-file switch: `Ok` means the archive is exactly
`builderArchive` (the archive of `files_of_build`, `builder_pairing`, C09's `payload_valid_std`); into a `Vec` (a sink
that accepts everything) the outcome IS `Ok` -/
theorem builder_archive_writer (uid gid : Nat) (files : List FileIn) (h : usesLargeFiles files = false) (s : Sink) :
    (((builderArchiveW uid gid files s).1 = .ok ()
        ∧ (builderArchiveW uid gid files s).2.out = s.out ++ builderArchive uid gid files)
       ∨ (builderArchiveW uid gid files s).1 = .err "io" ∨ (builderArchiveW uid gid files s).1 = .err "write-zero")
    ∧ builderArchiveW uid gid files {} = (.ok (), { out := builderArchive uid gid files }) := by
  have hes : ∀ x ∈ builderEntriesFrom uid gid 1 files, x.2.length < 4294967296 := by
    intro x hx
    obtain ⟨f, hf, e⟩ := builderEntriesFrom_content uid gid files 1 x hx
    have := standard_mode_sizes_fit_u32 files h f hf
    rw [e]; omega
  have ha := Emits.accepting (entriesW_spec _ hes {}) rfl rfl
  exact ⟨(entriesW_spec _ hes s).2.2.2, Prod.ext ha.1 (ha.2.trans (by simp [builderArchive]))⟩

example : (builderArchiveW 0 0 [⟨[46, 47, 97], 33188, [1, 2, 3]⟩, ⟨[46, 47, 98], 33261, []⟩] {}).2.out
    = builderArchive 0 0 [⟨[46, 47, 97], 33188, [1, 2, 3]⟩, ⟨[46, 47, 98], 33261, []⟩] :=
  congrArg (·.2.out) (builder_archive_writer 0 0 _ (by decide) {}).2

/-- **short_write_unpadded_witness** — the silent branch of `do_finish`: 5 bytes announced, 3 written; `write_all` and
`finish` both return `Ok`, the entry ends after the 3 bytes without padding (119 bytes: the next entry would start
off the 4-byte grid) while its header still says 5.  Not reachable from `prepare_data` (`prepare_data_invariant`). -/
theorem short_write_unpadded_witness :
    let w := Writer.new { name := [46, 47, 97] } 5 none {}
    (w.writeAll [1, 2, 3]).1 = .ok ()
    ∧ (w.writeAll [1, 2, 3]).2.finish = (.ok (), { out := intoHeader { name := [46, 47, 97] } 5 none ++ [1, 2, 3] })
    ∧ (intoHeader { name := [46, 47, 97] } 5 none ++ [1, 2, 3]).length = 119 := by
  decide +kernel

/-- the general form of the silent branch: whenever fewer (or, after an overflow-free excess, other) bytes than
announced were written, `finish` emits the pending header and nothing else, and does not fail for that reason -/
theorem finish_unpadded_when_short (w : Writer) (h : w.written ≠ w.fileSize) :
    (w.finish.1 = .ok () ∧ w.finish.2.out = w.inner.out ++ w.header)
    ∨ w.finish.1 = .err "io" ∨ w.finish.1 = .err "write-zero" := by
  obtain ⟨_, _, _, h4⟩ := Writer.finish_spec w
  rcases h4 with ⟨e1, e2⟩ | e1
  · left; refine ⟨e1, ?_⟩
    rw [e2, if_neg h, List.append_nil]
  · right; exact e1

/-- **excess_write_refused_witness** — more than announced: the whole `write` is refused with `UnexpectedEof` and
nothing goes out, not even the header; `write_all` stops there -/
theorem excess_write_refused_witness :
    let w := Writer.new { name := [46, 47, 97] } 2 none {}
    w.write [1, 2, 3] = (.err "unexpected-eof", w) ∧ w.writeAll [1, 2, 3] = (.err "unexpected-eof", w) :=
  ⟨rfl, rfl⟩

/-- **full_writer_overflows** — the `u32` addition of the guard: a `Writer` that has taken `u32::MAX` bytes answers a
further non-empty `write` not with `UnexpectedEof` but with an arithmetic overflow (a panic under
`overflow-checks`; a release build wraps to 0 and passes the guard).  The state is reachable only after 4 GiB − 1
bytes went through one `Writer`; `prepare_data` never makes a second call after the announced size is reached. -/
theorem full_writer_overflows (w : Writer) (h : w.written = 4294967295) (b : UInt8) :
    (w.write [b]).1 = .panic "u32-overflow" := by
  unfold Writer.write u32Add
  rw [h]; rfl

example : ((⟨{}, 4294967295, 4294967295, 116, []⟩ : Writer).write [7]).1 = .panic "u32-overflow" := rfl

/-- **cast_truncation_accepts_excess** — `buf.len() as u32` truncates: a buffer of exactly 2^32 bytes counts as 0, so
a `Writer` that is already full (`written == file_size`) passes it on to the sink and reports `Ok(2^32)` with
`written` unchanged.  Needs a single 4 GiB buffer; the builder hands over `content` of the announced size
(`standard_mode_sizes_fit_u32`: below 2^32 in standard mode). -/
theorem cast_truncation_accepts_excess (w : Writer) (buf : Bytes) (hb : buf.length = 4294967296)
    (hh : w.header = []) (hs : w.inner.script = []) (hw : w.written ≤ w.fileSize) (hlt : w.written < 4294967296) :
    w.write buf = (.ok 4294967296, { w with inner := { w.inner with out := w.inner.out ++ buf } }) := by
  unfold Writer.write u32Add Writer.tryWriteHeader Sink.write
  simp [hb, hh, hs, hw, hlt]

end WriterMachine

/-! ## the iterator over a STREAMING decoder: damaged and truncated compressed payloads (AUDIT2 a12) -/
section Chunked
open RpmVerif.PkgFiles

theorem atStreamEnd_of_ok {α} (f : Bool) {o : Out α} (h : o.isOk = true) : atStreamEnd f o = o := by
  cases o with
  | ok a => rfl
  | err c => cases h
  | panic s => cases h

theorem atStreamEnd_false {α} (o : Out α) : atStreamEnd false o = o := by
  unfold atStreamEnd; split <;> rfl

theorem atStreamEnd_err {α} (f : Bool) (c : String) : ∃ c', atStreamEnd f (.err c : Out α) = .err c' := by
  unfold atStreamEnd
  split
  · split <;> exact ⟨_, rfl⟩
  · exact ⟨_, rfl⟩

theorem okPrefix_map_atStreamEnd {α} (f : Bool) (l : List (Out α)) : okPrefix (l.map (atStreamEnd f)) = okPrefix l := by
  induction l with
  | nil => rfl
  | cons o r ih =>
    cases o with
    | ok a => simp only [List.map_cons, atStreamEnd, okPrefix, ih]
    | err c =>
      obtain ⟨c', hc⟩ := atStreamEnd_err (α := α) f c
      rw [List.map_cons, hc]
      rfl
    | panic s => rfl

theorem okPrefix_map_outMap {α β} (g : α → β) (l : List (Out α)) : okPrefix (l.map (Out.map g)) = (okPrefix l).map g := by
  induction l with
  | nil => rfl
  | cons o r ih => cases o <;> simp [okPrefix, Out.map, ih]

/-- the all-or-nothing `files` is the streaming `filesChunked` of a decoder that decodes everything and ends cleanly -/
theorem files_eq_filesChunked (decompress : Bytes → Out Bytes) (payload : Bytes) (paths : List Bytes) (sizes : List Nat) :
    files decompress payload paths sizes =
      filesChunked (fun p => (decompress p).map fun a => ⟨a, false⟩) payload paths sizes := by
  unfold files filesChunked
  cases h : decompress payload with
  | ok a =>
    simp only [h, Out.map, Out.bind_ok, Out.pure_eq, Out.ok.injEq]
    rw [List.map_congr_left (fun o _ => atStreamEnd_false o), List.map_id']
  | err c => simp only [h, Out.map, Out.bind_err]
  | panic s => simp only [h, Out.map, Out.bind_panic]

/-- **a damaged stream gives some of the right items, then an error — never a wrong item.** Whatever the decoder does
(`decode`), if it hands out the bytes `d.bytes` — a prefix of what an intact payload decodes to (`archive`) — and then stops,
cleanly or with an error, the `Ok` items `files()` yields before the first error are an initial segment of the `Ok` items
of the intact package: same header file, same content, same order. -/
theorem files_chunked_prefix (decode : Bytes → Out Decoded) (payload : Bytes) (paths : List Bytes) (sizes : List Nat)
    {d : Decoded} (hd : decode payload = .ok d) {archive : Bytes} (hp : d.bytes <+: archive) :
    ∃ l, filesChunked decode payload paths sizes = .ok l ∧
      okPrefix l <+: okPrefix (iterate archive paths sizes) ∧ l.length = (iterate d.bytes paths sizes).length := by
  obtain ⟨t, rfl⟩ := hp
  refine ⟨(iterate d.bytes paths sizes).map (atStreamEnd d.failed),
    by simp only [filesChunked, hd, Out.bind_ok, Out.pure_eq], ?_, by simp⟩
  rw [okPrefix_map_atStreamEnd]
  simp only [iterate, iterateFrom, okPrefix_map_outMap]
  exact (FileIter.okPrefix_iterateE_append paths sizes sizes.length d.bytes t).map _

/-- **once the cpio trailer has been read the decoder is never asked again**: when the bytes decoded so far hold the
whole archive (the iteration over them has no error item), `files()` yields exactly the items of the intact package —
whether the decoder would go on, end, or FAIL afterwards (a gzip member cut inside its CRC trailer, garbage after the
last frame): such damage is invisible to `files()` and `extract()`. -/
theorem files_chunked_clean (decode : Bytes → Out Decoded) (payload : Bytes) (paths : List Bytes) (sizes : List Nat)
    {d : Decoded} (hd : decode payload = .ok d) {archive : Bytes} (hp : d.bytes <+: archive)
    (hclean : ∀ o ∈ iterate d.bytes paths sizes, o.isOk = true) :
    filesChunked decode payload paths sizes = .ok (iterate archive paths sizes) := by
  obtain ⟨t, rfl⟩ := hp
  have hcl : ∀ o ∈ iterateE paths sizes sizes.length d.bytes, o.isOk = true := fun o ho => by
    have := hclean _ (List.mem_map_of_mem (f := Out.map fun x => (x.1, x.2.2)) ho)
    cases o with
    | ok a => rfl
    | err c => exact this
    | panic s => exact this
  have e : iterate (d.bytes ++ t) paths sizes = iterate d.bytes paths sizes := by
    rw [iterate, iterateFrom, FileIter.iterateE_append_clean paths sizes sizes.length d.bytes t hcl]
    rfl
  rw [filesChunked, hd, Out.bind_ok, e, List.map_congr_left fun o ho => atStreamEnd_of_ok d.failed (hclean o ho),
    List.map_id']
  rfl

/-- constructing the decoder fails (codec not compiled in: `UnsupportedCompressorType`): `files()` itself is the error -/
theorem files_chunked_unsupported (decode : Bytes → Out Decoded) (payload : Bytes) (paths : List Bytes) (sizes : List Nat)
    {c : String} (hd : decode payload = .err c) : filesChunked decode payload paths sizes = .err c := by
  simp only [filesChunked, hd, Out.bind_err]

end Chunked

/-- the hypotheses of the round-trip theorems are satisfiable by non-trivial values -/
example : EntryOK ({ name := [46, 47, 97], ino := 1, mode := 33188 }, [65]) := by decide
example : FileIn.OK ⟨[46, 47, 97, 47, 98], 33188, [1, 2, 3, 4, 5]⟩ := by decide
example : iterate (builderArchive 0 0 [⟨[46, 47, 97], 33188, [1, 2, 3]⟩, ⟨[46, 47, 98], 33261, []⟩]) [[47, 97], [47, 98]] [3, 0]
    = [.ok (0, [1, 2, 3]), .ok (1, [])] :=
  Out.ok.inj (files_of_build id .ok (fun _ => rfl) (by decide) (by decide) _
    (by decide) (by decide) (by decide))
example : iterate (builderArchiveLarge [⟨[46, 47, 97], 33188, [1, 2, 3]⟩, ⟨[46, 47, 98], 33261, [9]⟩]) [[47, 97], [47, 98]] [3, 1]
    = [.ok (0, [1, 2, 3]), .ok (1, [9])] :=
  Out.ok.inj (files_of_build_large id .ok (fun _ => rfl) _ (by decide))
example : (builderArchive 0 0 [⟨[46, 47, 97], 33188, [1, 2, 3]⟩]).length = 116 + 4 + 124 := by decide +kernel
example : wPaths.Nodup := by decide
example : (buildFiles [⟨[46, 47, 98], 1, []⟩, ⟨[46, 47, 97], 2, [7]⟩, ⟨[46, 47, 98], 3, [9]⟩]).map (·.mode) = [2, 1] := by decide
example : (headerPaths [⟨[46, 47, 97], 33188, [1]⟩, ⟨[46, 47, 98], 33188, []⟩]).Nodup ∧ FileIn.Rooted ⟨[46, 47, 97], 33188, [1]⟩ :=
  ⟨by decide, ⟨[97], rfl⟩⟩

/-- `pairing_by_name` is not vacuous: a reordered archive and a ghost-omitting archive on which the
iterator yields `ok` items, each under the index of the file its entry names -/
example : pairedByPath [[47, 97], [47, 98]] (iterateE [[47, 97], [47, 98]] [1, 1] 2 wArchiveReordered) = true
    ∧ (iterateE [[47, 97], [47, 98]] [1, 1] 2 wArchiveReordered).length = 2 := by
  unfold wArchiveReordered
  rw [← List.append_nil (archiveOf _), (foreign_archive_pairing _ _ _ _ [] 2).1]
  · decide
  · decide
  · decide
example : pairedByPath wPaths (iterateE wPaths wSizes 3 wArchive) = true
    ∧ (iterateE wPaths wSizes 3 wArchive).map (fun y => y.map (·.1)) = [.ok 0, .ok 2] := by
  unfold wArchive
  rw [← List.append_nil (archiveOf _), (foreign_archive_pairing wPaths wSizes _ _ [] 3).1]
  · decide
  · decide
  · decide

/-- stripped entries out of order (index 1 before index 0): paired by the carried index -/
example : iterate (strippedHeader 1 ++ ([66, 66] ++ (pad 2 ++ (strippedHeader 0 ++ ([65] ++ (pad 1 ++ trailer))))))
    [[47, 97], [47, 98]] [1, 2] = [.ok (1, [66, 66]), .ok (0, [65])] := by decide +kernel

/-- source-package style names (no `./`), one of them starting with a dot -/
example : iterate (archiveOf [({ name := [46, 104] }, [1]), ({ name := [120, 46, 115] }, [2, 3])]) [[120, 46, 115], [46, 104]] [2, 1]
    = [.ok (1, [1]), .ok (0, [2, 3])] := by
  rw [iterate, iterateFrom, ← List.append_nil (archiveOf _), (foreign_archive_pairing _ _ _ _ [] _).1]
  · decide
  · decide
  · decide
example : Designates wPaths (.stripped 2) 2 ∧ ¬ Designates wPaths (.stripped 3) 3 := by
  simp [Designates, wPaths]

/-- a two-file archive cut inside the second entry's data: the first item, then an error (class `io` when the decoder
failed, `eof` when the stream just ended); a decoder that fails only AFTER the trailer: both items, no error, the failure unseen -/
example :
    let a := builderArchive 0 0 [⟨[46, 47, 97], 33188, [1, 2, 3]⟩, ⟨[46, 47, 98], 33261, [4, 5, 6, 7, 8]⟩]
    filesChunked (fun p => .ok ⟨p.take 240, true⟩) a [[47, 97], [47, 98]] [3, 5] = .ok [.ok (0, [1, 2, 3]), .err "io"] ∧
    filesChunked (fun p => .ok ⟨p.take 240, false⟩) a [[47, 97], [47, 98]] [3, 5] = .ok [.ok (0, [1, 2, 3]), .err "eof"] ∧
    filesChunked (fun p => .ok ⟨p, true⟩) a [[47, 97], [47, 98]] [3, 5] = .ok [.ok (0, [1, 2, 3]), .ok (1, [4, 5, 6, 7, 8])] ∧
    a.length = 368 := by decide +kernel
example : namePath [46, 47, 97] = [47, 97] ∧ namePath [46, 97] = [46, 97] ∧ namePath [97] = [97] ∧ namePath [46] = [46] := by decide

end RpmVerif.C07
