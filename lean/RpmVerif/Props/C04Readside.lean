import RpmVerif.Props.C04
import RpmVerif.Props.C03
import RpmVerif.Props.C02
import RpmVerif.Props.C07
import RpmVerif.Model.Sign
/-!
# C04, second half — every read-side operation on a parsed package is panic-free

Bundles the totality results of the other models (digest verification C03, signature verification C02,
key-id extraction C10's model, payload iteration C07's cpio reader) with the accessor results of
Props/C04.lean: for ANY package value, hash functions, base64 decoder, verifier and signature scheme.
-/
namespace RpmVerif.C04
open RpmVerif.Hdr RpmVerif.Cpio RpmVerif.Sign

theorem readHex8_total (bs : Bytes) : (readHex8 bs).isPanic = false := by
  unfold readHex8
  refine Out.bind_pair_not_panic (takeN_total _ _) fun _ _ _ => ?_
  split
  split <;> rfl

/-- `payload::Reader::new` never panics: bad magic, bad hex, over-long or unterminated names, a stripped
index outside the file list are all errors -/
theorem readerNew_total (sizes : List Nat) (bs : Bytes) : (readerNew sizes bs).isPanic = false := by
  unfold readerNew
  refine Out.bind_pair_not_panic (takeN_total _ _) fun _ _ _ => ?_
  refine Out.ite_not_panic (fun _ => ?_) fun _ => Out.ite_not_panic (fun _ => ?_) fun _ => rfl
  · iterate 13 refine Out.bind_pair_not_panic (readHex8_total _) fun _ _ _ => ?_
    refine Out.ite_not_panic (fun _ => rfl) fun _ => Out.bind_pair_not_panic (takeN_total _ _) fun _ _ _ => ?_
    exact Out.ite_not_panic (fun _ => rfl) fun _ => Out.ite_not_panic (fun _ => rfl) fun _ =>
      Out.bind_not_panic (takeN_total _ _) fun _ _ => rfl
  · refine Out.bind_pair_not_panic (readHex8_total _) fun _ _ _ => Out.bind_pair_not_panic (takeN_total _ _) fun _ _ _ => ?_
    refine Out.ite_not_panic (fun _ => rfl) fun _ => ?_
    split <;> rfl

theorem readData_total (n : Nat) (r : Bytes) : (readData n r).isPanic = false :=
  Out.ite_not_panic (fun _ => rfl) fun _ => Out.bind_not_panic (takeN_total _ _) fun _ _ => rfl

/-- `Package::files()` drained past errors, as `collect()` / `filter_map(Result::ok)` do:
for EVERY behaviour `step` of the payload stream (any decompressor state, any position after an error) a fresh
iterator over a header with `n` file entries hands out at most `n` items before it answers `None`, the draining loop
ends within `n + 1` calls, and from then on every call answers `None` without touching the stream — no unbounded
work or memory on a damaged payload (the class of seeds C04-4 / C04-8, where `count += 1` was moved behind the
read).  Model/FileIter.lean `next`; the in-memory stream of uncompressed payloads is `FileIter.stepMem`, whose item
counts the correspondence run compares (`iter=<items>:<errors>`). -/
theorem iterator_no_runaway {σ : Type} (step : σ → RpmVerif.FileIter.Step σ) (n : Nat) (s : σ) :
    (RpmVerif.FileIter.collect step n s).length ≤ n
    ∧ (∀ fuel, n + 1 ≤ fuel → RpmVerif.FileIter.drain step n fuel ⟨0, s⟩ = RpmVerif.FileIter.collect step n s)
    ∧ (∀ k, ((RpmVerif.FileIter.answers step n k ⟨0, s⟩).filter Option.isSome).length ≤ n)
    ∧ (∀ k, n ≤ k → (RpmVerif.FileIter.next step n (RpmVerif.FileIter.stateAfter step n k ⟨0, s⟩)).1 = none) := by
  refine ⟨RpmVerif.C07.collect_le_entries step n s, fun fuel hf => ?_, fun k => ?_, fun k hk => ?_⟩
  · unfold RpmVerif.FileIter.collect
    rw [(RpmVerif.C07.iterate_terminates step n ⟨0, s⟩).1 fuel (by simp; omega),
        (RpmVerif.C07.iterate_terminates step n ⟨0, s⟩).1 (n + 1) (by simp)]
  · exact (RpmVerif.C07.items_le_entries step n ⟨0, s⟩).2 k
  · exact (RpmVerif.C07.iterate_terminates step n ⟨0, s⟩).2 k (by simp; omega)

theorem stepMem_item_total (paths : List Bytes) (sizes : List Nat) (bs : Bytes) (o : Out RpmVerif.FileIter.Item) (s' : Bytes)
    (h : RpmVerif.FileIter.stepMem paths sizes bs = .item o s') : o.isPanic = false := by
  have hs := RpmVerif.FileIter.stepMem_spec paths sizes bs
  split at hs
  · split at hs
    · rw [hs] at h; cases h
    · split at hs
      · rw [hs] at h; cases h; rfl
      · split at hs
        · rw [hs] at h; cases h; rfl
        · obtain ⟨s, hs⟩ := hs; rw [hs] at h; cases h; rfl
        · rename_i hd
          have := congrArg Out.isPanic hd
          rw [readData_total] at this; cases this
  · obtain ⟨s, hs⟩ := hs; rw [hs] at h; cases h; rfl
  · rename_i hr
    have := congrArg Out.isPanic hr
    rw [readerNew_total] at this; cases this

theorem drain_forall {σ : Type} (step : σ → RpmVerif.FileIter.Step σ) (P : Out RpmVerif.FileIter.Item → Prop)
    (hP : ∀ s o s', step s = .item o s' → P o) (n fuel : Nat) (st : RpmVerif.FileIter.St σ) :
    ∀ o ∈ RpmVerif.FileIter.drain step n fuel st, P o := by
  induction fuel generalizing st with
  | zero => intro o ho; simp [RpmVerif.FileIter.drain] at ho
  | succ k ih =>
    intro o ho
    unfold RpmVerif.FileIter.drain RpmVerif.FileIter.next at ho
    by_cases hc : st.count ≥ n
    · simp [hc] at ho
    · simp only [hc, if_false] at ho
      cases hs : step st.stream with
      | trailer s => rw [hs] at ho; simp at ho
      | item o' s' =>
        rw [hs] at ho
        simp only [List.mem_cons] at ho
        rcases ho with rfl | ho
        · exact hP _ _ _ hs
        · exact ih _ o ho

theorem mem_of_mem_uptoErr {α} {l : List (Out α)} {o : Out α} (h : o ∈ RpmVerif.FileIter.uptoErr l) : o ∈ l := by
  induction l with
  | nil => exact h
  | cons x r ih =>
    cases x with
    | ok a =>
      simp only [RpmVerif.FileIter.uptoErr, List.mem_cons] at h ⊢
      exact h.imp_right ih
    | err c => exact List.mem_cons.mpr (.inl (List.mem_singleton.mp h))
    | panic c => exact List.mem_cons.mpr (.inl (List.mem_singleton.mp h))

/-- iterating the payload: every item the iterator yields is a value or an error (an entry that names
no file of the header is an error) — the items up to the first error are items of the draining iteration -/
theorem iterateE_total (paths : List Bytes) (sizes : List Nat) (fuel : Nat) (bs : Bytes) :
    ∀ r ∈ iterateE paths sizes fuel bs, r.isPanic = false := by
  rw [← RpmVerif.FileIter.iterateE_is_prefix_gen id paths sizes fuel fuel 0 bs (Nat.le_of_eq (Nat.zero_add _)),
    RpmVerif.FileIter.stepAfter_id]
  exact fun r hr => drain_forall _ _ (fun bs o s' h => stepMem_item_total paths sizes bs o s' h) _ _ _ r
    (mem_of_mem_uptoErr hr)

theorem iterate_total (archive : Bytes) (paths : List Bytes) (sizes : List Nat) :
    ∀ r ∈ iterate archive paths sizes, r.isPanic = false := by
  intro r hr
  simp only [iterate, iterateFrom, List.mem_map] at hr
  obtain ⟨x, hx, rfl⟩ := hr
  exact Out.map_not_panic (iterateE_total paths sizes _ _ x hx)

/-- every item is a value or an error, also the items AFTER an error: the in-memory iteration never panics -/
theorem collectMem_total (archive : Bytes) (paths : List Bytes) (sizes : List Nat) :
    ∀ r ∈ RpmVerif.FileIter.collectMem archive paths sizes, r.isPanic = false := by
  unfold RpmVerif.FileIter.collectMem RpmVerif.FileIter.collect
  exact drain_forall _ _ (fun bs o s' h => stepMem_item_total paths sizes bs o s' h) _ _ _

/-- a header announcing two files over the payload `ff ff`: two error items, then the end -/
example : RpmVerif.FileIter.collectMem [255, 255] [[47, 97], [47, 98]] [1, 1] = [.err "eof", .err "eof"] := by
  decide +kernel

/-- `signature_key_ids` never panics — for an OpenPGP layer whose issuer lists have fewer than 2^32 entries
(`SigScheme.IssuerSmall`): the count handed to `Error::UnexpectedIssuerCount` goes through `usize → u32` with an `unwrap`
(`package.rs:309, 352`; `Sign.issuerCountErr`) -/
theorem oneIssuer_total (S : SigScheme) (hs : S.IssuerSmall) (sig : Bytes) : (oneIssuer S sig).isPanic = false := by
  unfold oneIssuer; split
  · rfl
  · rename_i ids heq
    split
    · unfold issuerCountErr; rw [if_pos (hs _ _ heq)]; rfl
    · rfl

theorem idsAll_total (S : SigScheme) (hs : S.IssuerSmall) (l : List Bytes) : (idsAll S l).isPanic = false := by
  induction l with
  | nil => rfl
  | cons b rest ih =>
    unfold idsAll
    split
    · rfl
    · exact Out.bind_not_panic (oneIssuer_total S hs _) (fun _ _ => Out.bind_not_panic ih (fun _ _ => rfl))

theorem keyIds_total (S : SigScheme) (hs : S.IssuerSmall) (p : Package) : (keyIds S p).isPanic = false := by
  unfold keyIds
  split
  · exact idsAll_total S hs _
  · dsimp only
    split
    · rfl
    · exact oneIssuer_total S hs _

/-- … and the hypothesis is not decoration: an issuer list of 2^32 or more entries makes the `unwrap` panic -/
theorem oneIssuer_u32_overflow (S : SigScheme) (sig : Bytes) (ids : List Bytes) (hi : S.issuer sig = some ids)
    (hbig : 4294967296 ≤ ids.length) : oneIssuer S sig = .panic "issuer-count-u32" := by
  unfold oneIssuer
  rw [hi]
  dsimp only
  rw [if_pos (by omega)]
  unfold issuerCountErr
  rw [if_neg (by omega)]

/-- `IssuerSmall` is satisfiable: the symbolic scheme reports at most one issuer -/
example : (Sym.scheme (fun k => [k])).IssuerSmall := by
  intro b ids h
  simp only [Sym.scheme, Option.map_eq_some_iff] at h
  obtain ⟨k, _, rfl⟩ := h
  simp

theorem readside_total (H : RpmVerif.DigestSpec.Hashes) (b64 : Bytes → Option Bytes) (v : RpmVerif.Verify.Verifier)
    (S : SigScheme) (hs : S.IssuerSmall) (p : Package) (archive : Bytes) (paths : List Bytes) (sizes : List Nat) :
    (RpmVerif.Digest.verifyDigests H.md5 H.sha1 H.sha256 p).isPanic = false
    ∧ (RpmVerif.Verify.verifySignatureS H.md5 H.sha1 H.sha256 b64 v p).1.isPanic = false
    ∧ (keyIds S p).isPanic = false
    ∧ (∀ r ∈ iterate archive paths sizes, r.isPanic = false)
    ∧ (RpmVerif.Acc.getFileEntries p.md.signature p.md.header).isPanic = false :=
  ⟨RpmVerif.C03.digests_total H p, RpmVerif.C02.verify_total H.md5 H.sha1 H.sha256 b64 v p,
   keyIds_total S hs p, iterate_total archive paths sizes, getFileEntries_total _ _⟩

end RpmVerif.C04
