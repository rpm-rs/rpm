import RpmVerif.Lemmas.FileCaps
/-!
# C19 — capability text is accepted only when every clause is well formed

All theorems quantify over **all** strings: lists of Unicode code points of any length, ASCII or not
(a Rust `String` is such a list; the statements do not even need the elements to be valid scalar
values).

* model: `RpmVerif.FileCaps.validateCapsText` etc. (`Model/FileCaps.lean`, mirrors `src/rpm/filecaps.rs`)
* spec : `RpmVerif.FileCaps.Spec` (`Spec/FileCaps.lean`): `WellFormed` (must accept), `Admissible`
  (may accept), `DontCare = Admissible ∧ ¬ WellFormed`.

What is proved, in the order of the file:
* `caps_accepts_iff_code_reading` — the one unconditional equivalence: the model accepts exactly the grammar under
  `codeReading` (`Lemmas/FileCaps.lean`; that reading is read off the code). `caps_accept_of_wellFormed`,
  `caps_admissible_of_accept` and `caps_iff` (accept ⇔ well formed, outside `DontCare` only) are its corollaries by
  monotonicity in the reading; `dontcare_where_silent` bounds the don't-care region by the three silent points.
* no panic, rejection is an error, `demand` is met (`caps_total`, `caps_reject_is_error`, `caps_meets_demand`); the public
  entry points add nothing to the validator and keep accepted text verbatim (`entry_points` and its three corollaries).
* non-ASCII text: a code point ≥ 128 that is not `White_Space` makes the text `mustReject` and rejected
  (`caps_nonascii_rejected`; `caps_nonascii_name_rejected` is the form for a name list); `wellFormed_ascii`.
* the code before `fix:` e20037b as a parameter of the model (`caps_with_ascii_upper`, `old_unicode_upper_witness`).
-/
namespace RpmVerif.C19
open RpmVerif RpmVerif.FileCaps RpmVerif.FileCaps.Spec

abbrev Str := FileCaps.Str

abbrev Accepts (s : Str) : Prop := validateCapsText s = .ok ()

/-- The code implements the grammar of the spec under one particular reading of its two ambiguous
points (a flagless last group is accepted, `all` only on its own; U+000B and the non-ASCII `White_Space`
code points separate). -/
theorem caps_accepts_iff_code_reading (s : Str) : Accepts s ↔ wf codeReading s = true :=
  validateCapsText_ok_iff_wf s

theorem caps_accept_of_wellFormed (s : Str) (h : WellFormed s) : Accepts s :=
  (validateCapsText_ok_iff_wf s).mpr (wf_mono strict_le_code h.1)

theorem caps_admissible_of_accept (s : Str) (h : Accepts s) : Admissible s :=
  wf_mono code_le_lenient ((validateCapsText_ok_iff_wf s).mp h)

theorem wellFormed_admissible (s : Str) (h : WellFormed s) : Admissible s :=
  wf_mono strict_le_lenient h.1

/-- Outside the don't-care set the model accepts exactly the well-formed texts (the property as worded; a corollary of
`caps_accepts_iff_code_reading`, which needs no side condition). -/
theorem caps_iff (s : Str) (hdc : ¬ DontCare s) : Accepts s ↔ WellFormed s := by
  constructor
  · intro h
    have ha := caps_admissible_of_accept s h
    exact Classical.byContradiction fun hn => hdc ⟨ha, hn⟩
  · exact caps_accept_of_wellFormed s

/-- The don't-care region is no larger than the three silent points of the sentence: a don't-care
text contains doubtful whitespace (U+000B or a non-ASCII `White_Space` code point), or one of its
clauses ends with an operator (flagless last group), or one of its clauses has `all` as an item of a
comma list with at least two items. -/
theorem dontcare_where_silent (s : Str) (h : DontCare s) :
    (∃ x ∈ s, isDoubtfulSpace x = true) ∨ ∃ c ∈ words s, EndsWithOp c ∨ AllInList c := by
  by_cases hvt : ∃ x ∈ s, isDoubtfulSpace x = true
  · exact .inl hvt
  · have hvt' : s.all (fun c => !isDoubtfulSpace c) = true := by
      simpa using fun x hx => Bool.eq_false_iff.mpr fun hd => hvt ⟨x, hx, hd⟩
    have hl := (wf_iff lenient s).mp h.1
    have hs : ¬ ∀ c ∈ words s, clause strict c = true := fun hall =>
      h.2 ⟨(wf_iff strict s).mpr ⟨hl.1, hall⟩, hvt'⟩
    obtain ⟨c, hcs⟩ := Classical.not_forall.mp hs
    obtain ⟨hc, hcs⟩ := Classical.not_imp.mp hcs
    exact .inr ⟨c, hc, clause_gap (hl.2 c hc) (Bool.eq_false_iff.mpr hcs)⟩

/-- no input makes `validate_caps_text` panic (in particular the `debug_assert!` of `validate_suffix`
is unreachable from it: the suffix always starts with the operator that `find` located) -/
theorem caps_total (s : Str) : (validateCapsText s).isPanic = false := by
  unfold validateCapsText; split
  · rfl
  · exact clauseLoop_not_panic _

theorem caps_reject_is_error (s : Str) (h : ¬ Accepts s) : ∃ cls, validateCapsText s = .err cls := by
  cases hv : validateCapsText s with
  | ok u => exact absurd hv h
  | err cls => exact ⟨cls, rfl⟩
  | panic p => have := caps_total s; rw [hv] at this; cases this

/-- `demand` (the three-valued form of the spec used by the driver) is met by the model -/
theorem caps_meets_demand (s : Str) :
    (demand s = .mustAccept → Accepts s) ∧ (demand s = .mustReject → ∃ cls, validateCapsText s = .err cls) :=
  ⟨fun h => caps_accept_of_wellFormed s ((demand_mustAccept_iff s).mp h),
   fun h => caps_reject_is_error s fun ha => (demand_mustReject_iff s).mp h (caps_admissible_of_accept s ha)⟩

/-- The public entry points `FileCaps::new`, `FromStr` and `FileOptionsBuilder::caps` run the validator and
nothing else: accepted text comes back verbatim, rejected text is an error. -/
theorem entry_points (s : Str) :
    (Accepts s ∧ FileCaps.new s = .ok ⟨s⟩ ∧ FileCaps.fromStr s = .ok ⟨s⟩ ∧ fileOptionsCaps s = .ok (some ⟨s⟩)) ∨
    (¬ Accepts s ∧ ∃ cls, FileCaps.new s = .err cls ∧ FileCaps.fromStr s = .err cls ∧
      fileOptionsCaps s = .err "InvalidCapabilities") := by
  by_cases h : Accepts s
  · have e : FileCaps.fromStr s = .ok ⟨s⟩ := by rw [FileCaps.fromStr, h]; rfl
    exact .inl ⟨h, e, e, by rw [fileOptionsCaps, e]⟩
  · obtain ⟨cls, hc⟩ := caps_reject_is_error s h
    have e : FileCaps.fromStr s = .err cls := by rw [FileCaps.fromStr, hc]; rfl
    exact .inr ⟨h, cls, e, e, by rw [fileOptionsCaps, e]⟩

theorem caps_total_entry_points (s : Str) :
    (FileCaps.new s).isPanic = false ∧ (FileCaps.fromStr s).isPanic = false ∧ (fileOptionsCaps s).isPanic = false := by
  rcases entry_points s with ⟨_, h1, h2, h3⟩ | ⟨_, cls, h1, h2, h3⟩ <;> rw [h1, h2, h3] <;> exact ⟨rfl, rfl, rfl⟩

theorem caps_new_ok_iff (s : Str) :
    ((∃ c, FileCaps.new s = .ok c) ↔ Accepts s) ∧ ((∃ c, FileCaps.fromStr s = .ok c) ↔ Accepts s) ∧
    ((∃ c, fileOptionsCaps s = .ok c) ↔ Accepts s) := by
  rcases entry_points s with ⟨ha, h1, h2, h3⟩ | ⟨hn, cls, h1, h2, h3⟩ <;> rw [h1, h2, h3]
  · exact ⟨iff_of_true ⟨_, rfl⟩ ha, iff_of_true ⟨_, rfl⟩ ha, iff_of_true ⟨_, rfl⟩ ha⟩
  · exact ⟨iff_of_false (fun ⟨_, h⟩ => nomatch h) hn, iff_of_false (fun ⟨_, h⟩ => nomatch h) hn,
      iff_of_false (fun ⟨_, h⟩ => nomatch h) hn⟩

/-- **Accepted text is kept verbatim**: what `Display` prints is the input, for `new`,
`from_str` and the value stored by `FileOptions::caps` -/
theorem caps_verbatim (s : Str) :
    (∀ c, FileCaps.new s = .ok c → c.display = s) ∧ (∀ c, FileCaps.fromStr s = .ok c → c.display = s) ∧
    (∀ o, fileOptionsCaps s = .ok o → ∃ c, o = some c ∧ c.display = s) := by
  rcases entry_points s with ⟨_, h1, h2, h3⟩ | ⟨_, cls, h1, h2, h3⟩ <;> rw [h1, h2, h3]
  · exact ⟨fun c h => by cases h; rfl, fun c h => by cases h; rfl, fun o h => by cases h; exact ⟨_, rfl, rfl⟩⟩
  · exact ⟨fun _ => nofun, fun _ => nofun, fun _ => nofun⟩

def nameListOf (c : Str) : Str := c.takeWhile (fun ch => !isOp ch)

theorem clause_nonascii_rejected (c : Str) (x : Nat) (hx : x ∈ c) (h128 : 128 ≤ x) :
    (∃ cls, validateClause c = .err cls) ∧ ∀ rd, clause rd c = false := by
  have hno : ∀ rd, clause rd c = false := fun rd =>
    Bool.eq_false_iff.mpr fun h => absurd (clause_ascii h x hx) (by omega)
  refine ⟨?_, hno⟩
  cases hv : validateClause c with
  | ok u => have := (validateClause_ok_iff_clause c).mp hv; rw [hno] at this; cases this
  | err cls => exact ⟨cls, rfl⟩
  | panic p => have := validateClause_not_panic c; rw [hv] at this; cases this

/-- Any text in which a code point ≥ 128 that is not `White_Space` occurs is rejected by the model and
must be rejected according to the spec — whatever else the text contains. -/
theorem caps_nonascii_rejected (s : Str) (x : Nat) (hx : x ∈ s) (h128 : 128 ≤ x) (hws : isSpace x = false) :
    (∃ cls, validateCapsText s = .err cls) ∧ demand s = .mustReject := by
  obtain ⟨c, hc, hxc⟩ := (mem_words_iff x s).mpr ⟨hx, hws⟩
  have hna : ¬ Admissible s := fun h => by
    rw [Admissible, not_wf_of_nonascii hc hxc h128] at h; cases h
  exact ⟨caps_reject_is_error s fun h => hna (caps_admissible_of_accept s h), (demand_mustReject_iff s).mpr hna⟩

/-- **A clause whose name list contains a code point ≥ 128 is rejected** — by the model (an error, for
the clause on its own and for every text it is a clause of) and by the spec (`mustReject`) —
whatever else the text contains.  (`c ∈ words s`: `c` is one of the maximal `White_Space`-free runs of
`s`; its name list is the part before the first of `=`, `+`, `-`.)  This is the statement the code
before `fix:` e20037b violated, see `old_unicode_upper_witness`. -/
theorem caps_nonascii_name_rejected (s c : Str) (hc : c ∈ words s) (x : Nat) (hx : x ∈ nameListOf c)
    (h128 : 128 ≤ x) :
    (∃ cls, validateClause c = .err cls) ∧ (∃ cls, validateCapsText s = .err cls) ∧ demand s = .mustReject := by
  have hxc : x ∈ c := (List.takeWhile_sublist _).subset hx
  obtain ⟨hxs, hws⟩ := (mem_words_iff x s).mp ⟨c, hc, hxc⟩
  exact ⟨(clause_nonascii_rejected c x hxc h128).1, caps_nonascii_rejected s x hxs h128 hws⟩

/-- a text that must be accepted is pure ASCII (so every demand to accept is a demand on ASCII text;
non-ASCII text is either don't-care — Unicode whitespace — or must be rejected) -/
theorem wellFormed_ascii (s : Str) (h : WellFormed s) : ∀ x ∈ s, x < 128 := by
  intro x hx
  cases hws : isSpace x
  · obtain ⟨c, hc, hxc⟩ := (mem_words_iff x s).mpr ⟨hx, hws⟩
    exact clause_ascii (((wf_iff strict s).mp h.1).2 c hc) x hxc
  · have hd := List.all_eq_true.mp h.2 x hx
    exact isSpace_ascii hws (by simpa using hd)

/-- the parameterised validator (the code before `fix:` e20037b) at the ASCII upper-casing is the model -/
theorem caps_with_ascii_upper (s : Str) : validateCapsTextWith (fun c => [toAsciiUpper c]) s = validateCapsText s :=
  validateCapsTextWith_ascii s

/-- **The defect fixed by e20037b, as a theorem.**  With a Unicode-style upper-casing (`to_uppercase`:
U+0131 dotless i ↦ `I`, U+017F long s ↦ `S`) in place of `to_ascii_uppercase`, the validator accepts
"cap_kıll=ep" and "cap_ſetuid=ep", which the spec demands to be rejected (they name no capability) and
which the model of the present code rejects. -/
theorem old_unicode_upper_witness :
    (validateCapsTextWith unicodeUpperSample [99,97,112,95,107,0x131,108,108,61,101,112] = .ok () ∧
      demand [99,97,112,95,107,0x131,108,108,61,101,112] = .mustReject ∧
      validateCapsText [99,97,112,95,107,0x131,108,108,61,101,112] = .err "unknown-cap") ∧
    (validateCapsTextWith unicodeUpperSample [99,97,112,95,0x17F,101,116,117,105,100,61,101,112] = .ok () ∧
      demand [99,97,112,95,0x17F,101,116,117,105,100,61,101,112] = .mustReject ∧
      validateCapsText [99,97,112,95,0x17F,101,116,117,105,100,61,101,112] = .err "unknown-cap") :=
  ⟨⟨by decide +kernel, (caps_nonascii_rejected _ 0x131 (by decide) (by decide) rfl).2, by decide +kernel⟩,
   ⟨by decide +kernel, (caps_nonascii_rejected _ 0x17F (by decide) (by decide) rfl).2, by decide +kernel⟩⟩

/-! ### non-vacuity: concrete texts (code points written out) -/

-- "cap_chown=p"
example : WellFormed [99,97,112,95,99,104,111,119,110,61,112] ∧ Accepts [99,97,112,95,99,104,111,119,110,61,112] :=
  (and_iff_left_of_imp (caps_accept_of_wellFormed _)).mpr (by decide +kernel)
-- "=e cap_chown-e"  (two clauses; the first omits the name list and starts with '=')
example : WellFormed [61,101,32,99,97,112,95,99,104,111,119,110,45,101] ∧ Accepts [61,101,32,99,97,112,95,99,104,111,119,110,45,101] :=
  (and_iff_left_of_imp (caps_accept_of_wellFormed _)).mpr (by decide +kernel)
-- " Cap_Kill,CAP_CHOWN+ep-i\tALL=e\n"  (mixed case, several groups, tab/newline, `all`)
example : WellFormed [32,67,97,112,95,75,105,108,108,44,67,65,80,95,67,72,79,87,78,43,101,112,45,105,9,65,76,76,61,101,10] := by decide +kernel
example : FileCaps.new [32,67,97,112,95,75,105,108,108,44,67,65,80,95,67,72,79,87,78,43,101,112,45,105,9,65,76,76,61,101,10]
    = .ok ⟨[32,67,97,112,95,75,105,108,108,44,67,65,80,95,67,72,79,87,78,43,101,112,45,105,9,65,76,76,61,101,10]⟩ := by decide +kernel
-- "=e +p"  (the input of the former defect): neither admissible nor accepted — the rule is per clause now
example : ¬ Admissible [61,101,32,43,112] ∧ validateCapsText [61,101,32,43,112] = .err "first-char" := by decide +kernel
-- "", " ", "cap_chown", "+e", "cap_chown+-p", "cap_chown+x", "cap_bogus=e", ",=e", "cap_chown,=e": must be rejected, are rejected
example : ¬ Admissible [] ∧ validateCapsText [] = .err "empty" := by decide +kernel
example : ¬ Admissible [32] ∧ validateCapsText [32] = .err "empty" := by decide +kernel
example : ¬ Admissible [99,97,112,95,99,104,111,119,110] ∧ validateCapsText [99,97,112,95,99,104,111,119,110] = .err "no-op" := by decide +kernel
example : ¬ Admissible [43,101] ∧ validateCapsText [43,101] = .err "first-char" := by decide +kernel
example : ¬ Admissible [99,97,112,95,99,104,111,119,110,43,45,112] ∧ validateCapsText [99,97,112,95,99,104,111,119,110,43,45,112] = .err "adjacent-ops" := by decide +kernel
example : ¬ Admissible [99,97,112,95,99,104,111,119,110,43,120] ∧ validateCapsText [99,97,112,95,99,104,111,119,110,43,120] = .err "suffix-char" := by decide +kernel
example : ¬ Admissible [99,97,112,95,98,111,103,117,115,61,101] ∧ validateCapsText [99,97,112,95,98,111,103,117,115,61,101] = .err "unknown-cap" := by decide +kernel
example : ¬ Admissible [44,61,101] ∧ validateCapsText [44,61,101] = .err "unknown-cap" := by decide +kernel
example : ¬ Admissible [99,97,112,95,99,104,111,119,110,44,61,101] ∧ validateCapsText [99,97,112,95,99,104,111,119,110,44,61,101] = .err "unknown-cap" := by decide +kernel
-- the don't-care region is inhabited on both sides of the code's choice:
-- "cap_chown+" and "=" (flagless group) are don't-care and the code accepts them;
example : DontCare [99,97,112,95,99,104,111,119,110,43] ∧ Accepts [99,97,112,95,99,104,111,119,110,43] := by decide +kernel
example : DontCare [61] ∧ Accepts [61] := by decide +kernel
-- "all,cap_chown=e" (`all` inside a comma list) is don't-care and the code rejects it;
example : DontCare [97,108,108,44,99,97,112,95,99,104,111,119,110,61,101] ∧ ¬ Accepts [97,108,108,44,99,97,112,95,99,104,111,119,110,61,101] := by decide +kernel
-- "=e\x0b=p" (vertical tab as the separator) is don't-care and the code accepts it;
example : DontCare [61,101,11,61,112] ∧ Accepts [61,101,11,61,112] := by decide +kernel
-- "=e\u{a0}=p", "cap_chown=e\u{3000}", "\u{85}=e" (non-ASCII White_Space) are don't-care and the code accepts them.
example : DontCare [61,101,0xA0,61,112] ∧ Accepts [61,101,0xA0,61,112] := by decide +kernel
example : DontCare [99,97,112,95,99,104,111,119,110,61,101,0x3000] ∧ Accepts [99,97,112,95,99,104,111,119,110,61,101,0x3000] := by decide +kernel
example : DontCare [0x85,61,101] ∧ Accepts [0x85,61,101] := by decide +kernel
-- "=e\u{a0}+p": ill formed even when U+00A0 separates → must be rejected, is rejected; "\u{2003}": no clause
example : demand [61,101,0xA0,43,112] = .mustReject ∧ validateCapsText [61,101,0xA0,43,112] = .err "first-char" := by decide +kernel
example : demand [0x2003] = .mustReject ∧ validateCapsText [0x2003] = .err "empty" := by decide +kernel
-- U+200B (zero width space) is not White_Space: "=e\u{200b}=p" is one ill-formed clause
example : demand [61,101,0x200B,61,112] = .mustReject ∧ validateCapsText [61,101,0x200B,61,112] = .err "suffix-char" :=
  ⟨(caps_nonascii_rejected _ 0x200B (by decide) (by decide) rfl).2, by decide +kernel⟩
-- non-ASCII in names / operators / flags: "cap_\u{212a}ill=e" (Kelvin sign), "cap_fßetid=e", "cap_chown＝e" (U+FF1D),
-- "cap_chown=é", "é": must be rejected, are rejected
example : demand [99,97,112,95,0x212A,105,108,108,61,101] = .mustReject ∧ validateCapsText [99,97,112,95,0x212A,105,108,108,61,101] = .err "unknown-cap" :=
  ⟨(caps_nonascii_rejected _ 0x212A (by decide) (by decide) rfl).2, by decide +kernel⟩
example : demand [99,97,112,95,102,0xDF,101,116,105,100,61,101] = .mustReject ∧ validateCapsText [99,97,112,95,102,0xDF,101,116,105,100,61,101] = .err "unknown-cap" :=
  ⟨(caps_nonascii_rejected _ 0xDF (by decide) (by decide) rfl).2, by decide +kernel⟩
example : demand [99,97,112,95,99,104,111,119,110,0xFF1D,101] = .mustReject ∧ validateCapsText [99,97,112,95,99,104,111,119,110,0xFF1D,101] = .err "no-op" :=
  ⟨(caps_nonascii_rejected _ 0xFF1D (by decide) (by decide) rfl).2, by decide +kernel⟩
example : demand [99,97,112,95,99,104,111,119,110,61,0xE9] = .mustReject ∧ validateCapsText [99,97,112,95,99,104,111,119,110,61,0xE9] = .err "suffix-char" :=
  ⟨(caps_nonascii_rejected _ 0xE9 (by decide) (by decide) rfl).2, by decide +kernel⟩
example : demand [0xE9] = .mustReject ∧ validateCapsText [0xE9] = .err "no-op" := by decide +kernel
-- the hypotheses of `caps_nonascii_name_rejected` are satisfiable: "=e cap_kıll=ep", second word, x = U+0131
example : [99,97,112,95,107,0x131,108,108,61,101,112] ∈ words [61,101,32,99,97,112,95,107,0x131,108,108,61,101,112] ∧
    0x131 ∈ nameListOf [99,97,112,95,107,0x131,108,108,61,101,112] := by decide +kernel
-- the pre-fix validator also accepted "cap_net_broadcaﬆ=p" (U+FB06 ↦ "ST": upper-casing may lengthen the string)
example : validateCapsTextWith unicodeUpperSample [99,97,112,95,110,101,116,95,98,114,111,97,100,99,97,0xFB06,61,112] = .ok () ∧
    demand [99,97,112,95,110,101,116,95,98,114,111,97,100,99,97,0xFB06,61,112] = .mustReject :=
  ⟨by decide +kernel, (caps_nonascii_rejected _ 0xFB06 (by decide) (by decide) rfl).2⟩
-- `caps_iff` is not vacuous: its hypothesis holds for accepted and for rejected texts
example : ¬ DontCare [99,97,112,95,99,104,111,119,110,61,112] ∧ ¬ DontCare [61,101,32,43,112] := by decide +kernel
-- the `debug_assert!` of `validate_suffix` is a real panic site of the helper on its own ("p")
example : validateSuffix [112] = .panic "debug_assert(last_ch.is_some())" := rfl

end RpmVerif.C19
