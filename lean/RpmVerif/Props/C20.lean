import RpmVerif.Lemmas.Timestamp
import RpmVerif.Lemmas.Calendar
/-!
# C20 — timestamp conversion is exact inside the 32-bit range and an error outside

All theorems quantify over *all* instants (`secs : Int` unbounded, every `nanos < 10⁹`) and, for
the chrono conversion, all zone offsets. `fromSystemTime` / `fromChrono` model the two `TryFrom`
impls of `src/rpm/timestamp.rs`; `convert` is `Timestamp::try_from` on either argument type.
`TimestampSpec.expect` is the property text on the floor of the instant.

After the conversions (`convert_eq_spec` and its corollaries `ts_exact`, `ts_agree`, `ts_monotone`, `ts_total`) and
`now_total_iff` for `Timestamp::now()`, two further parts: the calendar (`civil_epoch`, `civil_next_day`, `nextDay_valid`:
`daysFromCivil` of `Model/Calendar.lean` is the day count of the proleptic Gregorian calendar; arithmetic in
`Lemmas/Calendar.lean`), and chrono's own representation `ChronoDT` with its sub-second field up to 2·10⁹ − 1, calendar
fields and zones (`ts_exact_chronoDT`, `ts_leap_reading`, `ts_civil`, `ts_civil_zone_irrelevant`, `localSecs_next_day`).
-/
namespace RpmVerif.C20
open RpmVerif.Timestamp RpmVerif.TimestampSpec RpmVerif.Calendar

/-! ### the instant representation: `secs` really is the floor, `≤` really is the time line -/

theorem floor_is_floor (t : Instant) :
    t.floor * 1000000000 ≤ t.totalNanos ∧ t.totalNanos < (t.floor + 1) * 1000000000 := by
  have := t.nanos_lt
  simp only [Instant.floor, Instant.totalNanos]; omega

theorem before_epoch_iff (t : Instant) : t.totalNanos < 0 ↔ t.floor < 0 := by
  have := t.nanos_lt
  simp only [Instant.floor, Instant.totalNanos]; omega

theorem le_iff_totalNanos (a b : Instant) : a ≤ b ↔ a.totalNanos ≤ b.totalNanos := by
  have := a.nanos_lt; have := b.nanos_lt
  show (a.secs < b.secs ∨ (a.secs = b.secs ∧ a.nanos ≤ b.nanos)) ↔ _
  simp only [Instant.totalNanos]; omega

theorem floor_mono {a b : Instant} (h : a ≤ b) : a.floor ≤ b.floor := by
  have h' : a.secs < b.secs ∨ (a.secs = b.secs ∧ a.nanos ≤ b.nanos) := h
  simp only [Instant.floor]; omega

def ofExpect : Expect → Conv
  | .value n => .ok n | .underflow => .underflow | .overflow => .overflow

theorem expect_ok_iff (f : Int) (n : Nat) : ofExpect (expect f) = .ok n ↔ f = (n : Int) ∧ n < 4294967296 := by
  rcases expect_cases f with ⟨h, e⟩ | ⟨h0, h1, e⟩ | ⟨h, e⟩ <;> rw [e]
  · exact iff_of_false nofun (by omega)
  · exact ⟨fun h => by have := Conv.ok.inj h; omega, fun h => congrArg Conv.ok (by omega)⟩
  · exact iff_of_false nofun (by omega)

theorem expect_underflow_iff (f : Int) : ofExpect (expect f) = .underflow ↔ f < 0 := by
  rcases expect_cases f with ⟨h, e⟩ | ⟨h0, h1, e⟩ | ⟨h, e⟩ <;> rw [e]
  · exact iff_of_true rfl h
  · exact iff_of_false nofun (by omega)
  · exact iff_of_false nofun (by omega)

theorem expect_overflow_iff (f : Int) : ofExpect (expect f) = .overflow ↔ 4294967296 ≤ f := by
  rcases expect_cases f with ⟨h, e⟩ | ⟨h0, h1, e⟩ | ⟨h, e⟩ <;> rw [e]
  · exact iff_of_false nofun (by omega)
  · exact iff_of_false nofun (by omega)
  · exact iff_of_true rfl h

theorem fromSystemTime_eq_spec (t : Instant) : fromSystemTime t = ofExpect (expect t.floor) := by
  rcases fromSystemTime_cases t with ⟨h, e⟩ | ⟨h0, h1, e⟩ | ⟨h, e⟩ <;> rw [e, Instant.floor, expect]
  · rw [if_pos h]; rfl
  · rw [if_neg (by omega), if_pos h1]; rfl
  · rw [if_neg (by omega), if_neg (by omega)]; rfl

/-- the body shared by the two chrono conversions (sign test, then `u32::try_from`), on the seconds `t` that
`timestamp()` returns -/
theorem chrono_eq_spec (t : Int) :
    (if t < 0 then Conv.underflow else match u32OfI64 t with | none => .overflow | some n => .ok n) =
      ofExpect (expect t) := by
  rcases expect_cases t with ⟨h, e⟩ | ⟨h0, h1, e⟩ | ⟨h, e⟩ <;> rw [e]
  · rw [if_pos h]; rfl
  · rw [if_neg (by omega), u32OfI64_of_range h0 h1]; rfl
  · rw [if_neg (by omega), u32OfI64_of_ge h]; rfl

theorem fromChrono_eq_spec (dt : DateTime) : fromChrono dt = ofExpect (expect dt.utc.floor) :=
  chrono_eq_spec dt.utc.secs

theorem convert_eq_spec (s : Source) : convert s = ofExpect (expect s.instant.floor) := by
  cases s with
  | sys st => exact fromSystemTime_eq_spec st
  | chrono dt => exact fromChrono_eq_spec dt

theorem ts_ok_iff (s : Source) (n : Nat) :
    convert s = .ok n ↔ s.instant.floor = (n : Int) ∧ n < 4294967296 := by
  rw [convert_eq_spec]; exact expect_ok_iff _ n

theorem ts_underflow_iff (s : Source) : convert s = .underflow ↔ s.instant.floor < 0 := by
  rw [convert_eq_spec]; exact expect_underflow_iff _

theorem ts_overflow_iff (s : Source) : convert s = .overflow ↔ 4294967296 ≤ s.instant.floor := by
  rw [convert_eq_spec]; exact expect_overflow_iff _

/-- **Exactness**, either conversion, every instant: inside `0..2³²` the result is the floor, before
the epoch it is `Underflow`, from 2³² s on it is `Overflow`. -/
theorem ts_exact (s : Source) :
    (0 ≤ s.instant.floor → s.instant.floor < 4294967296 → convert s = .ok s.instant.floor.toNat) ∧
    (s.instant.floor < 0 → convert s = .underflow) ∧
    (4294967296 ≤ s.instant.floor → convert s = .overflow) :=
  ⟨fun h0 h1 => (ts_ok_iff s _).mpr ⟨by omega, by omega⟩, (ts_underflow_iff s).mpr, (ts_overflow_iff s).mpr⟩

theorem ts_exact_systemtime (t : Instant) :
    (0 ≤ t.floor → t.floor < 4294967296 → fromSystemTime t = .ok t.floor.toNat) ∧
    (t.floor < 0 → fromSystemTime t = .underflow) ∧
    (4294967296 ≤ t.floor → fromSystemTime t = .overflow) := ts_exact (.sys t)

theorem ts_exact_chrono (t : Instant) (offset : Int) :
    (0 ≤ t.floor → t.floor < 4294967296 → fromChrono ⟨t, offset⟩ = .ok t.floor.toNat) ∧
    (t.floor < 0 → fromChrono ⟨t, offset⟩ = .underflow) ∧
    (4294967296 ≤ t.floor → fromChrono ⟨t, offset⟩ = .overflow) := ts_exact (.chrono ⟨t, offset⟩)

/-- both conversions give the same result on the same instant, whatever the zone -/
theorem ts_agree (t : Instant) (offset : Int) : fromChrono ⟨t, offset⟩ = fromSystemTime t := by
  rw [fromChrono_eq_spec, fromSystemTime_eq_spec]

/-- the zone offset of a `DateTime` does not enter the result -/
theorem ts_zone_irrelevant (t : Instant) (o₁ o₂ : Int) : fromChrono ⟨t, o₁⟩ = fromChrono ⟨t, o₂⟩ := by
  rw [ts_agree, ts_agree]

/-- sub-second parts never matter: only the floor does (no rounding) -/
theorem ts_subsec_irrelevant (s₁ s₂ : Source) (h : s₁.instant.floor = s₂.instant.floor) :
    convert s₁ = convert s₂ := by
  rw [convert_eq_spec, convert_eq_spec, h]

/-- **Order preservation** across either conversion (and mixed): earlier instants never get a
larger timestamp -/
theorem ts_monotone (s₁ s₂ : Source) (a b : Nat) (h : s₁.instant ≤ s₂.instant)
    (h₁ : convert s₁ = .ok a) (h₂ : convert s₂ = .ok b) : a ≤ b := by
  have := floor_mono h
  rw [ts_ok_iff] at h₁ h₂
  omega

theorem ts_order_reflect (s₁ s₂ : Source) (a b : Nat)
    (h₁ : convert s₁ = .ok a) (h₂ : convert s₂ = .ok b) (hab : a < b) : ¬ s₂.instant ≤ s₁.instant := by
  intro h
  have := ts_monotone s₂ s₁ b a h h₂ h₁
  omega

/-- **No panic**: every conversion ends in `Ok`, `Underflow` or `Overflow` -/
theorem ts_total (s : Source) : (convert s).isPanic = false := by
  rw [convert_eq_spec]
  cases expect s.instant.floor <;> rfl

theorem ts_trichotomy (s : Source) :
    (∃ n, convert s = .ok n) ∨ convert s = .underflow ∨ convert s = .overflow := by
  rw [convert_eq_spec]
  cases expect s.instant.floor with
  | value n => exact .inl ⟨n, rfl⟩
  | underflow => exact .inr (.inl rfl)
  | overflow => exact .inr (.inr rfl)

/-- `Timestamp::now()` (an `unwrap`) is panic-free exactly while the clock is inside 1970..2106.
(Against the code only the real clock is exercised — driver op `tsnow20`; the two panicking regions are model-only.) -/
theorem now_total_iff (clock : Instant) :
    (now clock).isPanic = false ↔ (0 ≤ clock.floor ∧ clock.floor < 4294967296) := by
  unfold now
  rw [fromSystemTime_eq_spec]
  rcases expect_cases clock.floor with ⟨h, e⟩ | ⟨h0, h1, e⟩ | ⟨h, e⟩ <;> rw [e] <;>
    simp only [ofExpect, Conv.isPanic, Bool.true_eq_false, false_iff, true_iff] <;> omega

theorem civil_epoch : daysFromCivil 1970 1 1 = 0 := by decide

-- `hd1` is not used: the step also holds from a day 0
set_option linter.unusedVariables false in
/-- from every valid date to the next one (within the month, over the end of a month, over the end of February in leap and
ordinary years, over the end of the year) the day number grows by exactly one. With `civil_epoch` this characterises
`daysFromCivil`: it is the number of days since 1970-01-01, for all years (negative ones included). -/
theorem civil_next_day (y : Int) (m d : Nat) (hm1 : 1 ≤ m) (hm2 : m ≤ 12) (hd1 : 1 ≤ d) (hd2 : d ≤ daysInMonth y m) :
    daysFromCivil (nextDay y m d).1 (nextDay y m d).2.1 (nextDay y m d).2.2 = daysFromCivil y m d + 1 := by
  unfold nextDay
  by_cases h1 : d < daysInMonth y m
  · rw [if_pos h1]; simp only [daysFromCivil]; omega
  · rw [if_neg h1, show d = daysInMonth y m by omega, ← month_step y m hm1 hm2]
    split <;> rfl

-- `hd1`, `hd2` are not used: `nextDay` tests `d < daysInMonth y m` itself
set_option linter.unusedVariables false in
theorem nextDay_valid (y : Int) (m d : Nat) (hm1 : 1 ≤ m) (hm2 : m ≤ 12) (hd1 : 1 ≤ d) (hd2 : d ≤ daysInMonth y m) :
    1 ≤ (nextDay y m d).2.1 ∧ (nextDay y m d).2.1 ≤ 12 ∧ 1 ≤ (nextDay y m d).2.2
    ∧ (nextDay y m d).2.2 ≤ daysInMonth (nextDay y m d).1 (nextDay y m d).2.1 := by
  unfold nextDay
  by_cases h1 : d < daysInMonth y m
  · rw [if_pos h1]; exact ⟨hm1, hm2, Nat.succ_le_succ (Nat.zero_le d), h1⟩
  · rw [if_neg h1]
    by_cases h2 : m < 12
    · rw [if_pos h2]
      exact ⟨Nat.succ_le_succ (Nat.zero_le m), h2, Nat.le_refl 1,
        Nat.le_trans (by decide : 1 ≤ 28) (daysInMonth_ge y (m + 1))⟩
    · rw [if_neg h2]
      exact ⟨Nat.le_refl 1, (by decide : 1 ≤ 12), Nat.le_refl 1,
        Nat.le_trans (by decide : 1 ≤ 28) (daysInMonth_ge (y + 1) 1)⟩

/-! ### chrono's own representation: leap-second readings, calendar fields, zones (AUDIT2 a23) -/

/-- **Exactness on chrono's representation**, every stored second, every sub-second field up to 2·10⁹ − 1 (leap-second
readings included), every offset: the result is the spec's expectation for the stored second. -/
theorem ts_exact_chronoDT (d : ChronoDT) : fromChronoDT d = ofExpect (expect d.secs) :=
  chrono_eq_spec d.secs

/-- on ordinary (non-leap) values this is the conversion of the `DateTime` / `Instant` model -/
theorem fromChronoDT_eq_fromChrono (d : ChronoDT) (h : d.frac < 1000000000) :
    fromChronoDT d = fromChrono (d.toDateTime h) := rfl

-- `hl` is not used: the equation holds of every reading, leap or not
set_option linter.unusedVariables false in
/-- **Leap-second readings**: a reading inside the leap second that hangs on second `S` converts like second `S` itself
(chrono's `timestamp()` does not count the leap second), whatever its sub-second part and zone: never a panic, never
`S + 2` or `S − 1`. -/
theorem ts_leap_reading (d : ChronoDT) (hl : d.isLeap = true) (t : Instant) (o : Int) (ht : t.secs = d.secs) :
    fromChronoDT d = fromChrono ⟨t, o⟩ ∧ (fromChronoDT d).isPanic = false := by
  rw [ts_exact_chronoDT, fromChrono_eq_spec]
  simp only [Instant.floor, ht, true_and]
  cases expect d.secs <;> rfl

theorem ts_chronoDT_frac_zone_irrelevant (a b : ChronoDT) (h : a.secs = b.secs) : fromChronoDT a = fromChronoDT b := by
  rw [ts_exact_chronoDT, ts_exact_chronoDT, h]

/-- **Order preservation** for chrono's own order of readings (leap readings included) -/
theorem ts_monotone_chronoDT (a b : ChronoDT) (x y : Nat) (h : a.le b)
    (ha : fromChronoDT a = .ok x) (hb : fromChronoDT b = .ok y) : x ≤ y := by
  rw [ts_exact_chronoDT, expect_ok_iff] at ha hb
  unfold ChronoDT.le at h
  omega

/-- **Calendar fields in a zone**: a valid wall-clock reading `c` in a zone `offset` seconds east of UTC converts to the
spec's expectation for `c.localSecs − offset`, the whole seconds from 1970-01-01T00:00:00Z to that instant. The bound on `c.frac` that `ofCivil`
asks for is the eighth conjunct of `c.valid`. -/
theorem ts_civil (c : Civil) (offset : Int) (hv : c.valid) :
    fromChronoDT (ofCivil c offset hv.2.2.2.2.2.2.2.1) = ofExpect (expect (c.localSecs - offset)) :=
  ts_exact_chronoDT _

/-- **"in any time zone"**: two wall-clock readings, each in its own zone, that denote the same second convert alike —
the zone enters through `localSecs − offset` only (12:00:00+02:00 and 10:00:00Z, 23:30 of one day at −03:30 and 03:00 of
the next day in UTC, …). -/
theorem ts_civil_zone_irrelevant (c₁ c₂ : Civil) (o₁ o₂ : Int) (h₁ : c₁.frac < 2000000000) (h₂ : c₂.frac < 2000000000)
    (h : c₁.localSecs - o₁ = c₂.localSecs - o₂) :
    fromChronoDT (ofCivil c₁ o₁ h₁) = fromChronoDT (ofCivil c₂ o₂ h₂) :=
  ts_chronoDT_frac_zone_irrelevant _ _ h

theorem localSecs_next_day (c : Civil) (hv : c.valid) :
    ({ c with year := (nextDay c.year c.month c.day).1, month := (nextDay c.year c.month c.day).2.1,
              day := (nextDay c.year c.month c.day).2.2 } : Civil).localSecs = c.localSecs + 86400 := by
  obtain ⟨m1, m2, d1, d2, _⟩ := hv
  have := civil_next_day c.year c.month c.day m1 m2 d1 d2
  simp only [Civil.localSecs, this]; omega

theorem ts_total_chronoDT (d : ChronoDT) : (fromChronoDT d).isPanic = false := by
  rw [ts_exact_chronoDT]; cases expect d.secs <;> rfl

/-! ### non-vacuity: each hypothesis is met by concrete, non-trivial instants -/
-- inside the range, with a sub-second part: exact floor, both conversions, a +5:45 zone
example : fromSystemTime ⟨1600000000, 999999999, by decide⟩ = .ok 1600000000 ∧
    fromChrono ⟨⟨1600000000, 999999999, by decide⟩, 20700⟩ = .ok 1600000000 := by decide
-- one nanosecond before the epoch is an underflow, the epoch itself is 0
example : fromSystemTime ⟨-1, 999999999, by decide⟩ = .underflow ∧ fromSystemTime ⟨0, 0, by decide⟩ = .ok 0 ∧
    fromChrono ⟨⟨-1, 999999999, by decide⟩, -12600⟩ = .underflow := by decide
-- the last representable second (with nanos) and the first overflowing one
example : fromSystemTime ⟨4294967295, 999999999, by decide⟩ = .ok 4294967295 ∧
    fromChrono ⟨⟨4294967296, 0, by decide⟩, 0⟩ = .overflow ∧ fromSystemTime ⟨4294967296, 0, by decide⟩ = .overflow := by decide
-- premises of `ts_monotone` with a mixed pair half a second apart across a second boundary
example : (Source.sys ⟨2147483647, 500000000, by decide⟩).instant ≤ (Source.chrono ⟨⟨2147483648, 0, by decide⟩, 3600⟩).instant ∧
    convert (.sys ⟨2147483647, 500000000, by decide⟩) = .ok 2147483647 ∧
    convert (.chrono ⟨⟨2147483648, 0, by decide⟩, 3600⟩) = .ok 2147483648 := by decide
-- `now` does panic outside the range (so `now_total_iff` is not vacuous in either direction)
example : (now ⟨-1, 0, by decide⟩).isPanic = true ∧ (now ⟨4294967296, 0, by decide⟩).isPanic = true ∧
    now ⟨1790000000, 5, by decide⟩ = .ok 1790000000 := by decide

-- the calendar: leap day 2000-02-29, the day before the epoch, 2106-02-07 (the day 2^32 s falls on), a negative year
example : daysFromCivil 2000 2 29 = 11016 ∧ daysFromCivil 1969 12 31 = -1 ∧ daysFromCivil 2106 2 7 = 49710
    ∧ daysFromCivil (-1) 12 31 = -719529 ∧ nextDay 2100 2 28 = (2100, 3, 1) ∧ nextDay 2000 2 28 = (2000, 2, 29)
    ∧ nextDay 1999 12 31 = (2000, 1, 1) := by decide
-- 2106-02-07T06:28:15Z is the last convertible second, :16 overflows; the same instant on a +05:45 wall clock
example : (⟨2106, 2, 7, 6, 28, 15, 999999999⟩ : Civil).valid ∧ (⟨2106, 2, 7, 6, 28, 15, 999999999⟩ : Civil).localSecs = 4294967295
    ∧ fromChronoDT (ofCivil ⟨2106, 2, 7, 6, 28, 15, 999999999⟩ 0 (by decide)) = .ok 4294967295
    ∧ fromChronoDT (ofCivil ⟨2106, 2, 7, 6, 28, 16, 0⟩ 0 (by decide)) = .overflow
    ∧ fromChronoDT (ofCivil ⟨2106, 2, 7, 12, 13, 15, 0⟩ 20700 (by decide)) = .ok 4294967295 := by decide
-- 1969-12-31T23:59:59.999999999Z underflows; so does 1970-01-01T02:00:00+03:00; 1969-12-31T20:30:00-03:30 is second 0
example : fromChronoDT (ofCivil ⟨1969, 12, 31, 23, 59, 59, 999999999⟩ 0 (by decide)) = .underflow
    ∧ fromChronoDT (ofCivil ⟨1970, 1, 1, 2, 0, 0, 0⟩ 10800 (by decide)) = .underflow
    ∧ fromChronoDT (ofCivil ⟨1969, 12, 31, 20, 30, 0, 0⟩ (-12600) (by decide)) = .ok 0 := by decide
-- premise of `ts_civil_zone_irrelevant`: 12:00:00+02:00 and 10:00:00Z on 2024-05-21
example : (⟨2024, 5, 21, 12, 0, 0, 0⟩ : Civil).localSecs - 7200 = (⟨2024, 5, 21, 10, 0, 0, 0⟩ : Civil).localSecs - 0 := by decide
-- a leap-second reading: 2016-12-31T23:59:60.5Z is stored on second 1483228799 with frac 1.5·10⁹ and converts to that second;
-- 1969-12-31T23:59:60.0Z hangs on second −1: Underflow, although the next ordinary second is 0
example : (ofCivil ⟨2016, 12, 31, 23, 59, 59, 1500000000⟩ 0 (by decide)).isLeap = true
    ∧ fromChronoDT (ofCivil ⟨2016, 12, 31, 23, 59, 59, 1500000000⟩ 0 (by decide)) = .ok 1483228799
    ∧ fromChronoDT (ofCivil ⟨1969, 12, 31, 23, 59, 59, 1000000000⟩ 0 (by decide)) = .underflow
    ∧ (⟨2016, 12, 31, 23, 59, 58, 1500000000⟩ : Civil).valid = False := by decide

end RpmVerif.C20
