import RpmVerif.Lemmas.Vercmp
import RpmVerif.Gen.VercmpVectors
import RpmVerif.Lemmas.VercmpUtf8
import RpmVerif.Lemmas.Version
import RpmVerif.Lemmas.VercmpNum
/-!
# C13 — version comparison equals rpm's algorithm and is a total preorder

All theorems quantify over *all* strings (lists of code points of any length).
`rustCmp` models `compare_version_string`; `cVercmp` transcribes rpm's `rpmvercmp` with the model's own character classes
and segment expressions (see the head of `Spec/Vercmp.lean`), so `rust_eq_c` says that the two loops agree, not that
either is rpm's. That `cVercmp` is rpm's algorithm rests on the vendored vectors at the end of this file: rpm's own test
cases and the answers of libsolv's independent implementation.
-/
namespace RpmVerif.C13
open RpmVerif.Vercmp RpmVerif.Version Std

def onKey {α β} (f : α → β) (c : β → β → Ordering) : α → α → Ordering := fun x y => c (f x) (f y)

instance {α β} (f : α → β) (c : β → β → Ordering) [OrientedCmp c] : OrientedCmp (onKey f c) where
  eq_swap := OrientedCmp.eq_swap (cmp := c)
instance {α β} (f : α → β) (c : β → β → Ordering) [TransCmp c] : TransCmp (onKey f c) where
  isLE_trans := TransCmp.isLE_trans (cmp := c)

/-- the `==` / `rstreq` shortcut in front of either loop is redundant: the loop already answers `Equal` -/
theorem shortcut_eq {f : Str → Str → Ordering} (h : ∀ a b, f a b = keyCmp a b) (a b : Str) :
    (if a = b then .eq else f a b) = keyCmp a b := by
  split
  · next e => rw [e]; exact (ReflCmp.compare_self (cmp := List.compareLex cmpK)).symm
  · exact h a b

theorem rustCmp_eq_keyCmp (a b : Str) : rustCmp a b = keyCmp a b := shortcut_eq rust_eq_key a b

theorem cVercmp_eq_keyCmp (a b : Str) : cVercmp a b = keyCmp a b := shortcut_eq c_eq_key a b

/-- **Main theorem**: the library's comparison equals rpm's `rpmvercmp` on every pair of strings. -/
theorem rust_eq_c (a b : Str) : rustCmp a b = cVercmp a b := by
  rw [rustCmp_eq_keyCmp, cVercmp_eq_keyCmp]

/-- **chars vs bytes**: the library compares `char`s, rpm compares bytes. On the UTF-8 encoding of the
two strings rpm's algorithm gives exactly what the library computes on the code points (every byte
of a non-ASCII character is a separator, like the character itself). -/
theorem chars_vs_bytes (a b : Str) : rustCmp a b = cVercmp (encode utf8 a) (encode utf8 b) := by
  rw [rustCmp_eq_keyCmp, cVercmp_eq_keyCmp]
  simp only [keyCmp, key_encode utf8_transparent]

/-! The comparison is the lexicographic order of the token keys, `Evr::cmp` and `Nevra::cmp` are lexicographic products of it:
each is a total preorder (`TransCmp`), and the laws below are read off the instance. -/

instance : TransCmp rustCmp := by
  rw [show rustCmp = onKey key (List.compareLex cmpK) from funext fun a => funext (rustCmp_eq_keyCmp a)]
  infer_instance

theorem rustCmp_refl (a : Str) : rustCmp a a = .eq := ReflCmp.compare_self

theorem rustCmp_swap (a b : Str) : rustCmp b a = (rustCmp a b).swap := OrientedCmp.eq_swap

theorem rustCmp_trans {a b c : Str} (h1 : (rustCmp a b).isLE) (h2 : (rustCmp b c).isLE) :
    (rustCmp a c).isLE := TransCmp.isLE_trans h1 h2

theorem rustCmp_lt_trans {a b c : Str} (h1 : rustCmp a b = .lt) (h2 : rustCmp b c = .lt) :
    rustCmp a c = .lt := TransCmp.lt_trans h1 h2

theorem rustCmp_eq_trans {a b c : Str} (h1 : rustCmp a b = .eq) (h2 : rustCmp b c = .eq) :
    rustCmp a c = .eq := TransCmp.eq_trans h1 h2

theorem ite_ne_eq (c d : Ordering) : (if (c != Ordering.eq) = true then c else d) = c.then d := by
  cases c <;> rfl

theorem evr_cmp_eq : Evr.cmp = compareLex (onKey (fun e => epochOr0 e.epoch) rustCmp)
    (compareLex (onKey (·.version) rustCmp) (onKey (·.release) rustCmp)) :=
  funext fun x => funext fun y => by simp only [Evr.cmp, ite_ne_eq]; rfl

instance : TransCmp Evr.cmp := by rw [evr_cmp_eq]; infer_instance

/-- `Evr::cmp` compares epoch (empty meaning "0"), then version, then release, each with rpmvercmp -/
theorem evr_cmp_spec (x y : Evr) : x.cmp y =
    (cVercmp (epochOr0 x.epoch) (epochOr0 y.epoch)).then
      ((cVercmp x.version y.version).then (cVercmp x.release y.release)) := by
  simp only [Evr.cmp, ite_ne_eq, rust_eq_c]

theorem evr_refl (x : Evr) : x.cmp x = .eq := ReflCmp.compare_self
theorem evr_swap (x y : Evr) : y.cmp x = (x.cmp y).swap := OrientedCmp.eq_swap
theorem evr_trans {x y z : Evr} (h1 : (x.cmp y).isLE) (h2 : (y.cmp z).isLE) : (x.cmp z).isLE :=
  TransCmp.isLE_trans h1 h2
theorem evr_lt_trans {x y z : Evr} (h1 : x.cmp y = .lt) (h2 : y.cmp z = .lt) : x.cmp z = .lt :=
  TransCmp.lt_trans h1 h2

/-- equal EVRs (`PartialEq`, with the empty/"0" epoch rule) compare as `Equal` -/
theorem evr_eq_cmp_eq (x y : Evr) (h : x.eq y = true) : x.cmp y = .eq := by
  simp only [Evr.eq, Bool.and_eq_true, Bool.or_eq_true, beq_iff_eq] at h
  obtain ⟨⟨he, hv⟩, hr⟩ := h
  have hepoch : epochOr0 x.epoch = epochOr0 y.epoch := by
    rcases he with (he | ⟨h1, h2⟩) | ⟨h1, h2⟩
    · rw [he]
    · rw [h1, h2]; rfl
    · rw [h1, h2]; rfl
  simp only [Evr.cmp, ite_ne_eq, hepoch, hv, hr, rustCmp_refl]; rfl

theorem nevra_cmp_eq : Nevra.cmp = compareLex (onKey (·.name) rustCmp)
    (compareLex (onKey (·.evr) Evr.cmp) (onKey (·.arch) rustCmp)) :=
  funext fun x => funext fun y => by simp only [Nevra.cmp, ite_ne_eq]; rfl

instance : TransCmp Nevra.cmp := by rw [nevra_cmp_eq]; infer_instance

theorem nevra_refl (x : Nevra) : x.cmp x = .eq := ReflCmp.compare_self
theorem nevra_swap (x y : Nevra) : y.cmp x = (x.cmp y).swap := OrientedCmp.eq_swap
theorem nevra_trans {x y z : Nevra} (h1 : (x.cmp y).isLE) (h2 : (y.cmp z).isLE) : (x.cmp z).isLE :=
  TransCmp.isLE_trans h1 h2

theorem nevra_eq_cmp_eq (x y : Nevra) (h : x.eq y = true) : x.cmp y = .eq := by
  simp only [Nevra.eq, Bool.and_eq_true, beq_iff_eq] at h
  obtain ⟨⟨hn, he⟩, ha⟩ := h
  simp only [Nevra.cmp, ite_ne_eq, hn, ha, rustCmp_refl, evr_eq_cmp_eq _ _ he]; rfl

/-! ### `PartialOrd`, the comparison operators, `max` / `min` (AUDIT2 a18) -/

/-- rpm's order of two EVRs: epoch (empty meaning "0"), then version, then release, each with rpmvercmp -/
def cEvrCmp (x y : Evr) : Ordering :=
  (cVercmp (epochOr0 x.epoch) (epochOr0 y.epoch)).then
    ((cVercmp x.version y.version).then (cVercmp x.release y.release))

/-- `Evr::partial_cmp` is total (never `None`) and is rpm's order -/
theorem evr_partial_cmp (x y : Evr) : x.partialCmp y = some (cEvrCmp x y) := by
  simp only [Evr.partialCmp, cEvrCmp, evr_cmp_spec]

/-- rpm's order of two NEVRAs: name, then EVR, then architecture -/
def cNevraCmp (x y : Nevra) : Ordering :=
  (cVercmp x.name y.name).then ((cEvrCmp x.evr y.evr).then (cVercmp x.arch y.arch))

theorem nevra_cmp_spec (x y : Nevra) : x.cmp y = cNevraCmp x y := by
  simp only [Nevra.cmp, ite_ne_eq, rust_eq_c, cNevraCmp, cEvrCmp, evr_cmp_spec]

/-- `Nevra::partial_cmp` is total and is the lexicographic product name, EVR, architecture -/
theorem nevra_partial_cmp (x y : Nevra) : x.partialCmp y = some (cNevraCmp x y) := by
  simp only [Nevra.partialCmp, nevra_cmp_spec]

theorem evr_ops (x y : Evr) :
    (x.lt y = true ↔ x.cmp y = .lt) ∧ (x.le y = true ↔ (x.cmp y).isLE = true) ∧
    (x.gt y = true ↔ x.cmp y = .gt) ∧ (x.ge y = true ↔ (x.cmp y).isGE = true) :=
  opt_ops (x.cmp y)

theorem nevra_ops (x y : Nevra) :
    (x.lt y = true ↔ x.cmp y = .lt) ∧ (x.le y = true ↔ (x.cmp y).isLE = true) ∧
    (x.gt y = true ↔ x.cmp y = .gt) ∧ (x.ge y = true ↔ (x.cmp y).isGE = true) :=
  opt_ops (x.cmp y)

theorem evr_ops_coherent (x y : Evr) :
    x.gt y = y.lt x ∧ x.ge y = y.le x ∧ x.le y = !(x.gt y) ∧ (x.le y = true ∨ y.le x = true) := by
  have h := opt_ops_coherent (x.cmp y)
  rw [← evr_swap] at h
  exact h

theorem nevra_ops_coherent (x y : Nevra) :
    x.gt y = y.lt x ∧ x.ge y = y.le x ∧ x.le y = !(x.gt y) ∧ (x.le y = true ∨ y.le x = true) := by
  have h := opt_ops_coherent (x.cmp y)
  rw [← nevra_swap] at h
  exact h

theorem evr_max_spec (x y : Evr) :
    (x.max y = x ∨ x.max y = y) ∧ (x.cmp (x.max y)).isLE = true ∧ (y.cmp (x.max y)).isLE = true ∧
    (x.cmp y = .eq → x.max y = y) :=
  ord_max_spec rfl

theorem evr_min_spec (x y : Evr) :
    (x.min y = x ∨ x.min y = y) ∧ ((x.min y).cmp x).isLE = true ∧ ((x.min y).cmp y).isLE = true ∧
    (x.cmp y = .eq → x.min y = x) :=
  ord_min_spec rfl

theorem nevra_max_spec (x y : Nevra) :
    (x.max y = x ∨ x.max y = y) ∧ (x.cmp (x.max y)).isLE = true ∧ (y.cmp (x.max y)).isLE = true ∧
    (x.cmp y = .eq → x.max y = y) :=
  ord_max_spec rfl

theorem nevra_min_spec (x y : Nevra) :
    (x.min y = x ∨ x.min y = y) ∧ ((x.min y).cmp x).isLE = true ∧ ((x.min y).cmp y).isLE = true ∧
    (x.cmp y = .eq → x.min y = x) :=
  ord_min_spec rfl

/-- How rpm-rs reads an EVR text, stated on the text alone: the epoch is what precedes the FIRST ':' (nothing when there is
no ':'), the version is what follows up to the FIRST '-' after that, the release is the rest (nothing when there is no '-').
(rpm itself takes an epoch only when it is all digits and splits at the LAST '-'.) -/
def EvrText (s e v r : Str) : Prop :=
  ∃ rest, ((s = e ++ 58 :: rest ∧ 58 ∉ e) ∨ (58 ∉ s ∧ e = [] ∧ rest = s)) ∧
          ((rest = v ++ 45 :: r ∧ 45 ∉ v) ∨ (45 ∉ rest ∧ v = rest ∧ r = []))

theorem append_cons_inj {c : Nat} {a a' b b' : Str} (ha : c ∉ a) (ha' : c ∉ a') (h : a ++ c :: b = a' ++ c :: b') :
    a = a' ∧ b = b' := by
  have e := splitOnce_append b ha
  rw [h, splitOnce_append b' ha'] at e
  exact Prod.mk.inj (Option.some.inj e.symm)

/-- `Evr::parse_values` computes exactly that reading, and the reading is unique -/
theorem evrText_iff (s e v r : Str) : EvrText s e v r ↔ evrParseValues s = (e, v, r) := by
  simp only [EvrText, evrParse_iff, splitOnce_getD_iff, Prod.mk.injEq]

/-- **`rpm_evr_compare`**: two texts are compared by reading each as epoch / version / release (`EvrText`) and comparing
epoch (empty meaning "0"), then version, then release with rpm's algorithm. -/
theorem rpmEvrCompare_spec (s t e1 v1 r1 e2 v2 r2 : Str) (hs : EvrText s e1 v1 r1) (ht : EvrText t e2 v2 r2) :
    rpmEvrCompare s t = cEvrCmp ⟨e1, v1, r1⟩ ⟨e2, v2, r2⟩ := by
  rw [evrText_iff] at hs ht
  simp only [rpmEvrCompare, Evr.parse, hs, ht, evr_cmp_spec, cEvrCmp]

/-- every text has a reading, so the theorem above covers every pair of texts -/
theorem evrText_total (s : Str) : ∃ e v r, EvrText s e v r :=
  ⟨_, _, _, (evrText_iff s _ _ _).mpr rfl⟩

/-! ### epochs compare numerically (AUDIT2 c41) -/

/-- **Epochs compare numerically.** The library (like rpm ≥ 4.16) runs the version comparison on the epoch TEXTS, "" read
as "0". For all-digit epochs — the only ones rpm itself ever holds — that is the comparison of the numbers they denote:
`00` = `0` = ``, `007` < `10`, 2⁶⁴ > 2⁶⁴ − 1 (no machine-integer wrap-around). -/
theorem epoch_numeric (a b : Str) (ha : AllDigits a) (hb : AllDigits b) :
    rustCmp (epochOr0 a) (epochOr0 b) = compare (decVal a) (decVal b)
    ∧ cVercmp (epochOr0 a) (epochOr0 b) = compare (decVal a) (decVal b) := by
  obtain ⟨da, na, va⟩ := epochOr0_digits a ha
  obtain ⟨db, nb, vb⟩ := epochOr0_digits b hb
  have := keyCmp_digits _ _ da db na nb
  rw [va, vb] at this
  exact ⟨by rw [rustCmp_eq_keyCmp, this], by rw [cVercmp_eq_keyCmp, this]⟩

theorem evr_cmp_numeric_epoch (x y : Evr) (hx : AllDigits x.epoch) (hy : AllDigits y.epoch) :
    x.cmp y = (compare (decVal x.epoch) (decVal y.epoch)).then
      ((cVercmp x.version y.version).then (cVercmp x.release y.release)) := by
  rw [evr_cmp_spec, (epoch_numeric _ _ hx hy).2]

/-- outside the digit strings the epoch comparison is NOT numeric (and `==` is finer than `cmp`): documented behaviour of the
text comparison — "1a" > "1" (a letter run after the number), "a" < "" = "0" (letters sort before numbers), "00" and "0"
compare Equal although `Evr::eq` tells them apart -/
theorem epoch_text_cases :
    rustCmp (epochOr0 [49, 97]) (epochOr0 [49]) = .gt ∧ rustCmp (epochOr0 [97]) (epochOr0 []) = .lt
    ∧ Evr.cmp ⟨[48, 48], [49], [49]⟩ ⟨[48], [49], [49]⟩ = .eq ∧ Evr.eq ⟨[48, 48], [49], [49]⟩ ⟨[48], [49], [49]⟩ = false := by
  decide +kernel

/-! ### the oracle: vectors that do not live in /repo (AUDIT2 c40)

The tables are generated from files vendored under /verif/tools/gen/data: rpm's own `tests/rpmvercmp.at` cases, and ordered
pairs answered by libsolv's independent C implementation (`solv_vercmp_rpm`, `pool_evrcmp_str`). Each vector is checked
against BOTH the transcription of rpmvercmp.c run on the UTF-8 bytes and the model of the Rust function run on the code
points (so the unit-test vectors of rpm are re-proved of the library's algorithm as well). -/

def asciiVecOk (v : RpmVerif.Gen.AsciiVec) : Bool := cVercmp v.1 v.2.1 == v.2.2 && rustCmp v.1 v.2.1 == v.2.2
def utf8VecOk (v : RpmVerif.Gen.Utf8Vec) : Bool := cVercmp v.2.1.1 v.2.1.2 == v.2.2 && rustCmp v.1.1 v.1.2 == v.2.2

/-- on code points that are bytes the two halves of the check coincide (`rust_eq_c`), and the `rstreq` shortcut is
redundant: evaluating the transcribed loop suffices -/
theorem asciiVecOk_eq : asciiVecOk = fun v => cLoop v.1 v.2.1 == v.2.2 :=
  funext fun v => by rw [asciiVecOk, rust_eq_c, Bool.and_self, cVercmp_eq_keyCmp, c_eq_key]

/-- every `RPMVERCMP(a, b, r)` case of rpm's tests/rpmvercmp.at: `rpmvercmp` as transcribed gives `r` on the bytes, and
so does the library's function on the characters -/
theorem vectors_ok : RpmVerif.Gen.vercmpVectors.all asciiVecOk = true ∧ RpmVerif.Gen.vercmpVectorsU.all utf8VecOk = true := by
  rw [asciiVecOk_eq]; decide +kernel

/-- the same for the pairs answered by libsolv's `solv_vercmp_rpm` (corner cases: empty strings, zero-only segments against
letters, `~` / `^` everywhere, the ASCII neighbours of the digit and letter ranges, non-ASCII digits and letters, numbers
beyond 2^64) -/
theorem libsolv_vectors_ok :
    RpmVerif.Gen.vercmpLibsolvVectors.all asciiVecOk = true ∧ RpmVerif.Gen.vercmpLibsolvVectorsU.all utf8VecOk = true := by
  -- the table is a left-nested `++` of chunks: evaluated as it stands, each chunk is walked once per chunk after it
  rw [asciiVecOk_eq, RpmVerif.Gen.vercmpLibsolvVectors]
  simp only [List.all_append]
  decide +kernel

/-- the library's split of the two texts (`evrParseValues`: first ':', first '-' after it), then rpm's order `cEvrCmp` of the
parts. rpm and libsolv split differently (epoch only if all digits, LAST '-'); the vectors below are restricted to texts
that both read alike (tools/gen/data/mk_libsolv_pairs.py). -/
def cEvrTextCmp (s t : Str) : Ordering :=
  let (e1, v1, r1) := evrParseValues s
  let (e2, v2, r2) := evrParseValues t
  cEvrCmp ⟨e1, v1, r1⟩ ⟨e2, v2, r2⟩

theorem rpmEvrCompare_eq (s t : Str) : rpmEvrCompare s t = cEvrTextCmp s t := by
  simp only [rpmEvrCompare, Evr.parse, evr_cmp_spec, cEvrTextCmp, cEvrCmp]

/-- whole E:V-R texts (numeric epochs incl. `00`, `007`, 2^32, 2^64; releases present and absent) answered by libsolv's
`pool_evrcmp_str`: `rpm_evr_compare` as modelled gives the same answer -/
theorem libsolv_evr_vectors_ok :
    RpmVerif.Gen.evrLibsolvVectors.all (fun v => cEvrTextCmp v.1 v.2.1 == v.2.2 && rpmEvrCompare v.1 v.2.1 == v.2.2) = true := by
  simp only [rpmEvrCompare_eq, Bool.and_self, RpmVerif.Gen.evrLibsolvVectors, List.all_append]; decide +kernel

/-! ### non-vacuity: hypotheses are met by concrete, non-trivial values
(code points written out: string literals do not reduce in the kernel) -/
-- "1.0~rc1" < "1.0" in both functions
example : rustCmp [49,46,48,126,114,99,49] [49,46,48] = .lt ∧ cVercmp [49,46,48,126,114,99,49] [49,46,48] = .lt := by
  decide +kernel
-- "1.0" ≤ "1.0^a" ≤ "1.1": premises of `rustCmp_trans`
example : (rustCmp [49,46,48] [49,46,48,94,97]).isLE ∧ (rustCmp [49,46,48,94,97] [49,46,49]).isLE := by decide +kernel
-- "" epoch equals "0" epoch: premise of `evr_eq_cmp_eq`
example : Evr.eq ⟨[], [49], [50]⟩ ⟨[48], [49], [50]⟩ = true := by decide
-- the UTF-8 encoding of "1.Á" is 31 2e c3 81
example : encode utf8 [49, 46, 193] = [49, 46, 0xC3, 0x81] := by decide
-- "1.1.Á.1" = "1.1.1": a non-ASCII char is a separator
example : rustCmp [49,46,49,46,193,46,49] [49,46,49,46,49] = .eq := by decide +kernel

-- the oracle tables are not empty
example : RpmVerif.Gen.vercmpVectors.length = 97 ∧ RpmVerif.Gen.vercmpVectorsU.length = 6 := by decide +kernel
example : 300 < RpmVerif.Gen.vercmpLibsolvVectors.length ∧ 50 < RpmVerif.Gen.vercmpLibsolvVectorsU.length
    ∧ 200 < RpmVerif.Gen.evrLibsolvVectors.length := by
  simp only [RpmVerif.Gen.vercmpLibsolvVectors, RpmVerif.Gen.evrLibsolvVectors, List.length_append]; decide +kernel
-- operators: epoch "" vs "0" tie, `max` hands back the SECOND argument, `min` the first; "1:0-0" > "2-9"
example : Evr.le ⟨[], [49], [50]⟩ ⟨[48], [49], [50]⟩ = true ∧ Evr.ge ⟨[], [49], [50]⟩ ⟨[48], [49], [50]⟩ = true
    ∧ Evr.max ⟨[], [49], [50]⟩ ⟨[48], [49], [50]⟩ = ⟨[48], [49], [50]⟩
    ∧ Evr.min ⟨[], [49], [50]⟩ ⟨[48], [49], [50]⟩ = ⟨[], [49], [50]⟩ := by decide +kernel
example : Evr.gt ⟨[49], [48], [48]⟩ ⟨[], [50], [57]⟩ = true ∧ Evr.partialCmp ⟨[49], [48], [48]⟩ ⟨[], [50], [57]⟩ = some .gt
    ∧ Evr.max ⟨[49], [48], [48]⟩ ⟨[], [50], [57]⟩ = ⟨[49], [48], [48]⟩ := by decide +kernel
-- "1:2.0-3" reads as epoch "1", version "2.0", release "3"; "2.0" as version only; a ':' after the first '-' stays in the release
example : EvrText [49,58,50,46,48,45,51] [49] [50,46,48] [51] := ⟨[50,46,48,45,51], Or.inl ⟨rfl, by decide⟩, Or.inl ⟨rfl, by decide⟩⟩
example : EvrText [50,46,48] [] [50,46,48] [] := ⟨[50,46,48], Or.inr ⟨by decide, rfl, rfl⟩, Or.inr ⟨by decide, rfl, rfl⟩⟩
example : rpmEvrCompare [49,58,50,46,48,45,51] [50,46,48] = .gt := by decide +kernel

-- premises of `epoch_numeric`: "007" is all digits and denotes 7; the empty epoch denotes 0; "1a" is not all digits
example : AllDigits [48, 48, 55] ∧ decVal [48, 48, 55] = 7 ∧ decVal [] = 0 ∧ ¬ AllDigits [49, 97] := by decide
-- 2^64 as an epoch is larger than 2^64 − 1 (20 digits each: the digits decide)
example : rustCmp [49,56,52,52,54,55,52,52,48,55,51,55,48,57,53,53,49,54,49,54] [49,56,52,52,54,55,52,52,48,55,51,55,48,57,53,53,49,54,49,53] = .gt := by
  decide +kernel

end RpmVerif.C13
