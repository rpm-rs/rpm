import RpmVerif.Lemmas.Header
import RpmVerif.Props.C03
/-!
# C16 — reported segment offsets are the real byte boundaries

For every well-formed metadata value (every parsed package is well formed: `parsed_wf`; so is every
value the builder / signer produce, see C09) and every payload: the offsets reported by
`get_package_segment_offsets` are the lengths of the segments actually written before them (`offsets_exact`).
They locate the segments in the INPUT bytes as well, whatever its reserved and padding bytes hold (`offsets_split`,
`offsets_locate_input`, `offsets_locate_input_sig`), and they delimit the ranges whose digests `verify_digests` recomputes
(`digest_ranges_are_offsets`, with C03).
Widths: `size_rest`, `Header::size` and `padding_required`, scraped from header.rs with the widths of their Rust types, overflow
in no step and give the model's numbers (`size_rest_fits_u64`, `header_size_fits`, `padding_fits`, `offsets_steps_fit`).
`Header::clear` / `Header::new_empty`: the values changed in memory are instances (`offsets_new_empty`, `offsets_cleared`).
-/
namespace RpmVerif.C16
open RpmVerif.Hdr RpmVerif.Gen RpmVerif

theorem writeHeader_length {h : Header} (wf : HeaderWF h) : (writeHeader h).length = h.size := by
  rw [writeHeader_eq]; exact hdrBytes_size rfl wf.nEq wf.dlEq

theorem writeSignature_length {h : Header} (wf : HeaderWF h) :
    (writeSignature h).length = h.size + sigPad h.dataSize := by
  rw [writeSignature, List.length_append, writeHeader_length wf, List.length_replicate]

theorem parsed_wf {bs p} (hp : parsePackage bs = .ok p) : MetadataWF p.md := parsePackage_wf hp

theorem offsets_metaBytes {m : Metadata} (wf : MetadataWF m) {res1 pad res2 : Bytes} (h1 : res1.length = 4)
    (hpad : pad.length = sigPad m.signature.dataSize) (h2 : res2.length = 4) :
    (offsets m).sig = (writeLead m.lead).length
    ∧ (offsets m).hdr = (writeLead m.lead ++ (hdrBytes res1 m.signature ++ pad)).length
    ∧ (offsets m).payload = (metaBytes res1 pad res2 m).length := by
  simp only [offsets, metaBytes, lds, List.length_append, writeLead_length wf.lead, hdrBytes_size h1 wf.sig.nEq wf.sig.dlEq,
    hdrBytes_size h2 wf.hdr.nEq wf.hdr.dlEq, hpad, Nat.add_assoc, true_and]

theorem offsets_split {m : Metadata} (wf : MetadataWF m) {res1 pad res2 : Bytes} (h1 : res1.length = 4)
    (hpad : pad.length = sigPad m.signature.dataSize) (h2 : res2.length = 4) (c : Bytes) :
    (metaBytes res1 pad res2 m ++ c).take (offsets m).sig = writeLead m.lead
    ∧ (metaBytes res1 pad res2 m ++ c).drop (offsets m).sig = hdrBytes res1 m.signature ++ pad ++ hdrBytes res2 m.header ++ c
    ∧ (metaBytes res1 pad res2 m ++ c).drop (offsets m).hdr = hdrBytes res2 m.header ++ c
    ∧ (metaBytes res1 pad res2 m ++ c).drop (offsets m).payload = c
    ∧ (metaBytes res1 pad res2 m ++ c).length = (offsets m).payload + c.length := by
  obtain ⟨o1, o2, o3⟩ := offsets_metaBytes wf h1 hpad h2
  rw [o1, o2, o3, List.drop_left]
  refine ⟨?_, ?_, ?_, rfl, List.length_append⟩
  · rw [metaBytes, List.append_assoc, List.append_assoc, List.take_left]
  · rw [metaBytes, List.append_assoc, List.append_assoc, List.drop_left]
    simp only [List.append_assoc]
  · rw [metaBytes, List.append_assoc, List.drop_left]

/-- **Main theorem**: the offsets are exactly the positions of the segments in the written bytes. -/
theorem offsets_exact {m : Metadata} (wf : MetadataWF m) (c : Bytes) :
    let o := offsets m
    let w := writePackage ⟨m, c⟩
    o.lead = 0 ∧ o.sig = (writeLead m.lead).length
    ∧ w.drop o.sig = writeSignature m.signature ++ writeHeader m.header ++ c
    ∧ w.drop o.hdr = writeHeader m.header ++ c
    ∧ w.drop o.payload = c
    ∧ w.length - o.payload = c.length
    ∧ 0 < o.sig ∧ o.sig < o.hdr ∧ o.hdr < o.payload := by
  intro o w
  have hw : w = metaBytes [0, 0, 0, 0] (List.replicate (sigPad m.signature.dataSize) 0) [0, 0, 0, 0] m ++ c :=
    congrArg (· ++ c) (writeMetadata_eq m)
  obtain ⟨_, s2, s3, s4, s5⟩ := offsets_split (res1 := [0, 0, 0, 0]) (res2 := [0, 0, 0, 0]) wf rfl List.length_replicate rfl c
  refine ⟨rfl, (writeLead_length wf.lead).symm, ?_, ?_, hw ▸ s4, ?_, ?_⟩
  · rw [hw, s2, writeSignature_eq, writeHeader_eq]
  · rw [hw, s3, writeHeader_eq]
  · rw [hw, s5, Nat.add_sub_cancel_left]
  · simp only [o, offsets, lds, Header.size, ihs]; omega

theorem intro_at_offsets {m : Metadata} (wf : MetadataWF m) (c : Bytes) :
    (HEADER_MAGIC ++ [1]) <+: (writePackage ⟨m, c⟩).drop (offsets m).sig
    ∧ (HEADER_MAGIC ++ [1]) <+: (writePackage ⟨m, c⟩).drop (offsets m).hdr := by
  have intro (res : Bytes) (h : Header) (x : Bytes) : (HEADER_MAGIC ++ [1]) <+: hdrBytes res h ++ x :=
    ⟨_, by simp only [hdrBytes, List.append_assoc]; rfl⟩
  obtain ⟨_, _, h3, h4, _⟩ := offsets_exact wf c
  rw [h3, h4, writeSignature, writeHeader_eq, writeHeader_eq, List.append_assoc, List.append_assoc]
  exact ⟨intro .., intro ..⟩

/-- the code's u64 arithmetic cannot overflow: all quantities stem from u32 fields -/
theorem offsets_fit_u64 {m : Metadata} (wf : MetadataWF m) : (offsets m).payload < 18446744073709551616 := by
  have a := wf.sig.nLt; have b := wf.sig.dlLt; have c := wf.hdr.nLt; have d := wf.hdr.dlLt
  simp only [offsets, Header.size, lds, ihs, ies, sigPad]
  omega

theorem offsets_of_parsed {bs p} (hp : parsePackage bs = .ok p) :
    (writePackage p).drop (offsets p.md).payload = p.content
    ∧ (writePackage p).drop (offsets p.md).hdr = writeHeader p.md.header ++ p.content := by
  obtain ⟨_, _, _, h4, h5, _⟩ := offsets_exact (parsed_wf hp) p.content
  exact ⟨h5, h4⟩

/-- **the offsets locate the segments in the INPUT bytes too** (not only in what `write` emits): for every accepted byte
string the reported payload offset is where the content starts, the header offset is where the main header's intro
(with whatever reserved bytes the file carries) starts, and offsets + content length account for every input byte -/
theorem offsets_locate_input {bs p} (hp : parsePackage bs = .ok p) :
    bs.drop (offsets p.md).payload = p.content
    ∧ (∃ res : Bytes, res.length = 4 ∧ bs.drop (offsets p.md).hdr = hdrBytes res p.md.header ++ p.content)
    ∧ bs.take (offsets p.md).sig = writeLead p.md.lead
    ∧ bs.length = (offsets p.md).payload + p.content.length := by
  obtain ⟨res1, pad, res2, h1, hpad, h2, hbs, wf⟩ := parsePackage_ok hp
  obtain ⟨s1, _, s3, s4, s5⟩ := offsets_split wf h1 hpad h2 p.content
  rw [hbs]
  exact ⟨s4, ⟨res2, h2, s3⟩, s1, s5⟩

/-- the signature offset in the INPUT bytes: there the signature header's intro begins, followed by its index and store,
exactly `sigPad` padding bytes (of any value), and the main header -/
theorem offsets_locate_input_sig {bs p} (hp : parsePackage bs = .ok p) :
    ∃ res1 pad res2 : Bytes, res1.length = 4 ∧ pad.length = sigPad p.md.signature.dataSize ∧ res2.length = 4
      ∧ bs.drop (offsets p.md).sig = hdrBytes res1 p.md.signature ++ pad ++ hdrBytes res2 p.md.header ++ p.content
      ∧ (offsets p.md).hdr - (offsets p.md).sig = (hdrBytes res1 p.md.signature ++ pad).length
      ∧ (offsets p.md).payload - (offsets p.md).hdr = (hdrBytes res2 p.md.header).length := by
  obtain ⟨res1, pad, res2, h1, hpad, h2, hbs, wf⟩ := parsePackage_ok hp
  obtain ⟨o1, o2, o3⟩ := offsets_metaBytes wf h1 hpad h2
  rw [hbs]
  refine ⟨res1, pad, res2, h1, hpad, h2, (offsets_split wf h1 hpad h2 p.content).2.1, ?_, ?_⟩
  · rw [o1, o2, List.length_append, Nat.add_sub_cancel_left]
  · rw [o2, o3, metaBytes, List.length_append, Nat.add_sub_cancel_left]

/-- **C03 ∘ C16**: the byte ranges whose digests `verify_digests` recomputes (spec `DigestSpec.rawHeader` / `rawContent`, written over
the raw input) are exactly the ranges the reported offsets delimit: the content is everything from `payload` on, the hashed header is
the slice `[hdr, payload)` of the input with its four reserved intro bytes zeroed -/
theorem digest_ranges_are_offsets {bs p} (hp : parsePackage bs = .ok p) :
    DigestSpec.rawContent bs = bs.drop (offsets p.md).payload
    ∧ DigestSpec.rawHeader bs =
        Canon.zeroReserved ((bs.drop (offsets p.md).hdr).take ((offsets p.md).payload - (offsets p.md).hdr)) := by
  obtain ⟨r1, r2⟩ := C03.raw_ranges hp
  obtain ⟨res1, pad, res2, h1, hpad, h2, hbs, wf⟩ := parsePackage_ok hp
  obtain ⟨_, _, s3, s4, _⟩ := offsets_split wf h1 hpad h2 p.content
  obtain ⟨_, o2, o3⟩ := offsets_metaBytes wf h1 hpad h2
  have z := C01.zeroReserved_hdrBytes p.md.header h2 []
  rw [List.append_nil, List.append_nil] at z
  rw [r1, r2, hbs, s3, s4, o2, o3, metaBytes, List.length_append, Nat.add_sub_cancel_left, List.take_left, z, writeHeader_eq]
  exact ⟨rfl, rfl⟩

/-! ### widths (audit a15 / c11): the arithmetic of the CODE, with the widths of its Rust types

`offsets_fit_u64` above is a statement about the model's `Nat` sums. The three expressions below are scraped from
header.rs into width-annotated terms (Gen/AllocSites.lean, Model/Width.lean: checked unsigned arithmetic, `as` truncates);
the theorems say that for every pair of u32 intro fields no step overflows and the result is the model's number. A
rewrite that multiplies before widening — `(num_entries * INDEX_ENTRY_SIZE) as u64` — produces a different term, for
which the statement is false at `num_entries = 2^28` (the `example` below). -/

/-- `Header::parse`'s `size_rest`, read with the widths of the Rust types: both u32 fields are widened BEFORE the
multiplication and the addition, so the u64 result is the exact number of bytes `dl + 16·n` for every intro -/
theorem size_rest_fits_u64 (dl n : Nat) (hd : dl < 4294967296) (hn : n < 4294967296) :
    sizeRestW.eval (WExpr.envOf [dl, n]) = some (dl + n * INDEX_ENTRY_SIZE, 64) := by
  have h1 : dl % 18446744073709551616 = dl := Nat.mod_eq_of_lt (by omega)
  have h2 : n % 18446744073709551616 = n := Nat.mod_eq_of_lt (by omega)
  have h3 : n * 16 < 18446744073709551616 := by omega
  have h4 : dl + n * 16 < 18446744073709551616 := by omega
  simp only [sizeRestW, WExpr.eval, WExpr.envOf, WExpr.bin, List.getD_cons_zero, List.getD_cons_succ,
    Nat.reducePow, Nat.reduceMod, Nat.reduceLT, hd, hn, h1, h2, h3, h4, if_true, ies]

/-- `Header::size` in the widths of the code: no step overflows, the u64 result is the model's `Header.size` -/
theorem header_size_fits {h : Header} (wf : HeaderWF h) :
    headerSizeW.eval (WExpr.envOf [h.dataSize, h.nEntries]) = some (h.size, 64) := by
  have hd := wf.dlLt; have hn := wf.nLt
  have h1 : h.dataSize % 18446744073709551616 = h.dataSize := Nat.mod_eq_of_lt (by omega)
  have h2 : h.nEntries % 18446744073709551616 = h.nEntries := Nat.mod_eq_of_lt (by omega)
  have h3 : h.nEntries * 16 < 18446744073709551616 := by omega
  have h4 : 16 + h.nEntries * 16 < 18446744073709551616 := by omega
  have h5 : 16 + h.nEntries * 16 + h.dataSize < 18446744073709551616 := by omega
  simp only [headerSizeW, WExpr.eval, WExpr.envOf, WExpr.bin, List.getD_cons_zero, List.getD_cons_succ,
    Nat.reducePow, Nat.reduceMod, Nat.reduceLT, hd, hn, h1, h2, h3, h4, h5, if_true, Header.size, ihs, ies]

/-- `padding_required` in u32: `8 - dl % 8` cannot underflow, the result is the model's `sigPad` -/
theorem padding_fits (dl : Nat) (hd : dl < 4294967296) :
    paddingRequiredW.eval (WExpr.envOf [dl]) = some (sigPad dl, 32) := by
  have h1 : dl % 8 < 4294967296 := by omega
  have h2 : dl % 8 ≤ 8 := by omega
  have h3 : 8 - dl % 8 < 4294967296 := by omega
  have h4 : (8 - dl % 8) % 8 < 4294967296 := by omega
  have e8 : ((8 : Nat) = 0) = False := by decide
  simp only [paddingRequiredW, WExpr.eval, WExpr.envOf, WExpr.bin, List.getD_cons_zero,
    Nat.reducePow, Nat.reduceLT, hd, h1, h2, h3, h4, e8, if_true, if_false, sigPad]

/-- the offsets of `get_package_segment_offsets`, step by step in u64 (`LEAD_SIZE as u64 + size() + padding as u64 + size()`):
each operand is the exact value of the theorems above, and the sums stay below 2^64. Only `size`, `padding_required` and
`size_rest` are scraped terms; the sum itself (conjuncts 4 and 5) is the model's `offsets`, read off the source by hand. -/
theorem offsets_steps_fit {m : Metadata} (wf : MetadataWF m) :
    headerSizeW.eval (WExpr.envOf [m.signature.dataSize, m.signature.nEntries]) = some (m.signature.size, 64)
    ∧ paddingRequiredW.eval (WExpr.envOf [m.signature.dataSize]) = some (sigPad m.signature.dataSize, 32)
    ∧ headerSizeW.eval (WExpr.envOf [m.header.dataSize, m.header.nEntries]) = some (m.header.size, 64)
    ∧ (offsets m).hdr = LEAD_SIZE + m.signature.size + sigPad m.signature.dataSize
    ∧ (offsets m).payload = (offsets m).hdr + m.header.size
    ∧ (offsets m).payload < 18446744073709551616 :=
  ⟨header_size_fits wf.sig, padding_fits _ wf.sig.dlLt, header_size_fits wf.hdr, rfl, rfl, offsets_fit_u64 wf⟩

/-! non-vacuity: the extreme intro fields, and what the u32-first product would do -/
example : sizeRestW.eval (WExpr.envOf [4294967295, 4294967295]) = some (73014444015, 64) := by decide +kernel
example : headerSizeW.eval (WExpr.envOf [0, 268435456]) = some (4294967312, 64) := by decide +kernel
-- `(num_entries * INDEX_ENTRY_SIZE) as u64`: overflows at 2^28 entries
example : (WExpr.cast (.mul (.var 1 32) (.lit 16 32)) 64).eval (WExpr.envOf [0, 268435456]) = none := by decide +kernel
example : (WExpr.cast (.mul (.var 1 32) (.lit 16 32)) 64).eval (WExpr.envOf [0, 268435455]) = some (4294967280, 64) := by decide +kernel
example : paddingRequiredW.eval (WExpr.envOf [4294967295]) = some (1, 32) := by decide +kernel

/-! ### `Header::clear` / `Header::new_empty` (header.rs): the modified-in-memory values are instances -/

/-- `new_empty()` is a well-formed header -/
theorem empty_wf : HeaderWF Header.empty := headerWF_empty

/-- `clear()` of ANY header value (well formed or not) is the `new_empty()` value -/
theorem clear_eq_empty (h : Header) : h.clear = Header.empty := rfl

/-- an empty header is written as its 16-byte intro alone; the signature variant needs no padding -/
theorem write_empty : writeHeader Header.empty = writeIntro 0 0
    ∧ writeSignature Header.empty = writeIntro 0 0
    ∧ (writeIntro 0 0).length = 16 := by
  refine ⟨rfl, rfl, rfl⟩

theorem parse_write_empty (rest : Bytes) :
    parseSignature (writeSignature Header.empty ++ rest) = .ok (Header.empty, rest)
    ∧ parseHeader (writeHeader Header.empty ++ rest) = .ok (Header.empty, rest) := by
  constructor
  · have := parseSignature_write empty_wf (res := [0, 0, 0, 0]) (pad := []) rfl rfl rest
    rwa [List.append_nil, ← writeHeader_eq] at this
  · rw [writeHeader_eq]; exact parseHeader_write empty_wf rfl rest

theorem new_empty_wf {m : Metadata} (wf : MetadataWF m) : MetadataWF { m with signature := Header.empty } :=
  ⟨wf.lead, empty_wf, wf.hdr⟩

/-- **C16 for a package whose signature header is `new_empty()`** (instance of `offsets_exact`): the offsets are
0, 96, 112, 112 + size of the main header, and they are the byte boundaries of what is written. -/
theorem offsets_new_empty {m : Metadata} (wf : MetadataWF m) (c : Bytes) :
    let m' : Metadata := { m with signature := Header.empty }
    let w := writePackage ⟨m', c⟩
    offsets m' = ⟨0, 96, 112, 112 + m.header.size⟩
    ∧ w = writeLead m.lead ++ writeIntro 0 0 ++ writeHeader m.header ++ c
    ∧ w.drop 96 = writeIntro 0 0 ++ writeHeader m.header ++ c
    ∧ w.drop 112 = writeHeader m.header ++ c
    ∧ w.drop (112 + m.header.size) = c
    ∧ w.length - (112 + m.header.size) = c.length := by
  intro m' w
  have ho : offsets m' = ⟨0, 96, 112, 112 + m.header.size⟩ := by
    simp only [m', offsets, Header.size, Header.empty, lds, ihs, ies, sigPad]
  obtain ⟨_, _, h3, h4, h5, h6, _⟩ := offsets_exact (new_empty_wf wf) c
  rw [ho] at h3 h4 h5 h6
  simp only [write_empty.2.1] at h3
  refine ⟨ho, ?_, h3, h4, h5, h6⟩
  show writePackage ⟨m', c⟩ = _
  simp only [writePackage, writeMetadata, m', write_empty.2.1]

/-- the same for `p.metadata.signature.clear()`, whatever the signature header was before -/
theorem offsets_cleared {m : Metadata} (wf : MetadataWF m) (c : Bytes) :
    let m' : Metadata := { m with signature := m.signature.clear }
    let w := writePackage ⟨m', c⟩
    MetadataWF m'
    ∧ offsets m' = ⟨0, 96, 112, 112 + m.header.size⟩
    ∧ w = writeLead m.lead ++ writeIntro 0 0 ++ writeHeader m.header ++ c
    ∧ w.drop 96 = writeIntro 0 0 ++ writeHeader m.header ++ c
    ∧ w.drop 112 = writeHeader m.header ++ c
    ∧ w.drop (112 + m.header.size) = c
    ∧ w.length - (112 + m.header.size) = c.length := by
  simp only [clear_eq_empty]
  exact ⟨new_empty_wf wf, offsets_new_empty wf c⟩

/-! ### non-vacuity for the cleared / `new_empty` instances: a lead, a 1-entry signature header with a 5-byte store
(3 padding bytes), a 1-entry main header, 2 payload bytes -/
def sampleMd : Metadata :=
  ⟨⟨3, 0, 0, 1, List.replicate 66 0, 1, 5, List.replicate 16 0⟩,
   ⟨1, 5, [⟨1000, .bin [104, 101, 108, 108, 111], 0, 5⟩], [104, 101, 108, 108, 111]⟩,
   ⟨1, 4, [⟨1001, .int32 [7], 0, 1⟩], [0, 0, 0, 7]⟩⟩
theorem sampleMd_wf : MetadataWF sampleMd :=
  parsed_wf (bs := writePackage ⟨sampleMd, [9, 9]⟩) (p := ⟨sampleMd, [9, 9]⟩) (by decide +kernel)

example : MetadataWF sampleMd := sampleMd_wf
example : sampleMd.signature.clear = Header.empty ∧ sampleMd.signature ≠ Header.empty := by decide
example : writeSignature Header.empty = [142, 173, 232, 1, 0, 0, 0, 0, 0, 0, 0, 0, 0, 0, 0, 0] := rfl
example : offsets sampleMd = ⟨0, 96, 136, 172⟩ := by decide
example : offsets { sampleMd with signature := sampleMd.signature.clear } = ⟨0, 96, 112, 148⟩ := by decide
example : (writePackage ⟨{ sampleMd with signature := sampleMd.signature.clear }, [9, 9]⟩).drop 148 = [9, 9] :=
  (offsets_cleared sampleMd_wf [9, 9]).2.2.2.2.2.1

end RpmVerif.C16
