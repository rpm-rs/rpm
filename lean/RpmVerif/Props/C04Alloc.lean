import RpmVerif.Props.C04
import RpmVerif.Lemmas.Alloc
import RpmVerif.Spec.Alloc
/-!
# C04 — "never allocates memory out of proportion to the input length", as statements

`Hdr.parseHeaderAcct` (Model/Header.lean) is `Header::parse` as an allocation account: what the same statements ask the
allocator for, on EVERY byte string — also one that is rejected half way (a `reserve_exact` happens before the loop
that then fails). The two expressions that size a request from untrusted fields — the argument of `reserve_exact` in
`parse_entry_data_number` and the initial capacity of `buf` in `Header::parse` — are scraped from the source
(Gen/AllocSites.lean), so a change there (`reserve_exact(num_items as usize)`, `Vec::with_capacity(size_rest)`) breaks
`reserve_arg_reading` / `buf_grows_with_input` / `reserved_le_input` instead of leaving every theorem true.

What holds (every input): each single request is at most 8 bytes per input byte (`reserved_le_input`); the decoded data
kept alive is at most 24 bytes per store byte the entry is CHARGED (`decode_kept_le_used`), and `parse_header` charges
every entry against a budget that starts as the length of the data section (fix of DEFECT-T11; `Hdr.decodeAllB`), so the
kept data is LINEAR in the input: at most 24 bytes per store byte for an accepted header (`accepted_kept_le_linear`), at
most 48 for every byte string, accepted or rejected half way (`kept_le_linear`), everything alive at the end of
`parse_header` at most 61 bytes per input byte (`live_le`), which is below `AllocSpec.liveLimit`; that limit is what the
differential run applies to the measured peak of the WHOLE read side, for which there is no theorem here: `live_le` is
about one `Header::parse`, `harness_limit_holds` about the data one accepted header keeps, `package_requests_le_input`
about each of the two header parses of a package, not their sum.

The family that refuted this before the fix — `n` BIN entries pointing at the same `S` store bytes, every entry getting
its own copy: `n · S` bytes kept for `16 + 16 n + S` bytes of input — is now REFUSED (`overlap_refused`, class `overlap`;
the instance the differential run replays on the real code is `alloc04 h 512 8192 7 0 8192 0`), and so is every header
whose entries are charged more than its data section holds (`Hdr.parseHeader_write_overlap`); headers written by
`from_entries` never are (`Hdr.fromEntries_within_budget`). The rule is this SUM, not an interval check: entries that share
store bytes are accepted as long as the sum of what they are charged fits the data section (two 4-byte entries at offset
0 of an 8-byte store are). What the loop did before the fix is kept as a statement about
a copy of the old loop (`decodeAllOld`, `overlap_old_decoder_accepted`). rpm itself rejects such headers
(hdrblobVerifyInfo: "previous data must not overlap").

`decode_kept_le`, `decode_kept_le_used`, `reserve_le_remaining`, `fromEntries_within_budget` say again, under this
property's name, what Lemmas/Alloc.lean / Lemmas/FromEntries.lean prove in `Hdr`.
-/
namespace RpmVerif.C04
open RpmVerif.Hdr RpmVerif.Gen RpmVerif

/-- the argument of `reserve_exact`, read with the widths of the Rust types (`num_items : u32`, `input.len() : usize`),
never overflows and IS `min(num_items, input.len())` -/
theorem reserve_arg_reading (cnt remLen : Nat) (hc : cnt < 4294967296) (hr : remLen < 18446744073709551616) :
    reserveArgW.eval (WExpr.envOf [cnt, remLen]) = some (reserveOf cnt remLen, 64)
      ∧ reserveOf cnt remLen = Nat.min cnt remLen := by
  refine ⟨?_, rfl⟩
  have h1 : cnt % 18446744073709551616 = cnt := Nat.mod_eq_of_lt (by omega)
  have h2 : Nat.min cnt remLen < 18446744073709551616 := Nat.lt_of_le_of_lt (Nat.min_le_right _ _) hr
  simp only [reserveArgW, WExpr.eval, WExpr.envOf, WExpr.bin, List.getD_cons_zero, List.getD_cons_succ, reserveOf, reserveArg,
    Nat.reducePow, hc, hr, h1, h2, if_true]

/-- `Header::parse` creates its buffer empty (`Vec::new()`) and fills it through `take(size_rest).read_to_end`: nothing
is sized from the intro's fields before the bytes are there -/
theorem buf_grows_with_input (dl n s : Nat) : parseBufUpFront dl n s = 0 ∧ parseReadBounded = true := ⟨rfl, rfl⟩

/-- the scraped `size_rest` is the length `parseHeader` takes (its width: `C16.size_rest_fits_u64`) -/
theorem size_rest_is_model (dl n : Nat) : sizeRest dl n = dl + n * INDEX_ENTRY_SIZE := rfl

theorem reserve_le_remaining (cnt remLen : Nat) : reserveOf cnt remLen ≤ remLen ∧ reserveOf cnt remLen ≤ cnt :=
  reserveOf_le cnt remLen

theorem decode_reserve_le (store : Bytes) (ty off cnt : Nat) : decodeReserve store ty off cnt ≤ 8 * store.length :=
  Nat.le_trans (decodeReserve_le store ty off cnt) (Nat.mul_le_mul_left 8 (Nat.sub_le _ _))

theorem acct_bounds (bs : Bytes) :
    let a := parseHeaderAcct bs
    a.upFront = 0 ∧ a.buffered ≤ bs.length - 16 ∧ a.storeCopy + 16 * a.entries ≤ a.buffered
      ∧ (∀ r ∈ a.reserves, r ≤ 8 * a.storeCopy) ∧ a.reserves.length ≤ a.entries
      ∧ a.kept ≤ 24 * (a.entries * a.storeCopy) ∧ a.kept ≤ 48 * a.storeCopy := by
  dsimp only
  have hr : ∀ {i r}, takeN INDEX_HEADER_SIZE bs = .ok (i, r) → bs.length - 16 = r.length := fun h0 => by
    have := takeN_length h0; rw [ihs] at this; omega
  -- in the order of the definition: both loops ran; the first loop stopped; the body is short; no intro (two ways)
  fun_cases parseHeaderAcct bs with
  | case1 intro r h0 n dl h1 want up got body rest h2 raws store h3 calls =>
    obtain ⟨hb, l3, _⟩ := parseEntriesRaw_ok h3
    have hw : want = dl + n * 16 := rfl
    have l2 := takeN_length h2
    have lb := congrArg List.length hb
    rw [List.length_append, writeRaws_length, (takeN_ok h2).2, l3] at lb
    have hc := decodeCalls_length_le store raws
    have hq := keptOfCalls_le store raws
    rw [l3] at hc hq
    simp only [up, got, calls, parseBufUpFront, parseReadBounded, if_true, hr h0, Nat.min_eq_left (show want ≤ r.length by omega)]
    refine ⟨trivial, by omega, by omega, fun x hx => ?_, by simpa using hc, hq, keptOfCalls_le_linear store raws⟩
    obtain ⟨c, _, rfl⟩ := List.mem_map.mp hx
    have := decodeReserve_le store c.2.1 c.2.2.1 c.2.2.2
    omega
  | case2 intro r h0 n dl h1 want up got body rest h2 hno =>
    have := rawPushed_le n body
    have hw : want = dl + n * 16 := rfl
    have l2 := takeN_length h2
    have lb2 := (takeN_ok h2).2
    simp only [up, got, parseBufUpFront, parseReadBounded, if_true, hr h0, Nat.min_eq_left (show want ≤ r.length by omega)]
    exact ⟨trivial, by omega, by omega, nofun, Nat.zero_le _, Nat.zero_le _, Nat.zero_le _⟩
  | case3 intro r h0 n dl h1 want up got hno =>
    simp only [up, got, parseBufUpFront, parseReadBounded, if_true, hr h0]
    exact ⟨trivial, Nat.min_le_right _ _, Nat.zero_le _, nofun, Nat.zero_le _, Nat.zero_le _, Nat.zero_le _⟩
  | case4 | case5 => exact ⟨rfl, Nat.zero_le _, Nat.zero_le _, nofun, Nat.zero_le _, Nat.zero_le _, Nat.zero_le _⟩

/-- **what `Header::parse` requests is bounded by the input, for EVERY byte string — accepted or rejected**: nothing is
sized from the intro up front; the buffer holds at most the bytes that are there after the intro; the store copy and
the index fit in the buffer; every `reserve_exact` is at most 8 bytes per store byte; there are at most as many
reservations as index entries; the largest single request is at most 8 bytes per input byte. -/
theorem reserved_le_input (bs : Bytes) :
    let a := parseHeaderAcct bs
    a.upFront = 0 ∧ a.buffered ≤ bs.length - 16 ∧ a.storeCopy + 16 * a.entries ≤ a.buffered
      ∧ (∀ r ∈ a.reserves, r ≤ 8 * a.storeCopy) ∧ a.reserves.length ≤ a.entries
      ∧ a.maxSingle ≤ 8 * bs.length := by
  obtain ⟨k1, k2, k3, k4, k5, -, -⟩ := acct_bounds bs
  refine ⟨k1, k2, k3, k4, k5, ?_⟩
  replace k2 := Nat.le_trans k2 (Nat.sub_le _ _)
  have hf : (parseHeaderAcct bs).reserves.foldl Nat.max 0 ≤ 8 * bs.length :=
    foldl_max_le (Nat.zero_le _) fun x hx => by have := k4 x hx; omega
  exact Nat.max_le.mpr ⟨Nat.max_le.mpr ⟨Nat.max_le.mpr ⟨Nat.max_le.mpr ⟨hf, by omega⟩, by omega⟩, by omega⟩,
    by simp only [INDEX_ENTRY_VALUE_BYTES]; omega⟩

theorem acct_of_accepted {bs h rest} (hp : parseHeader bs = .ok (h, rest)) :
    parseHeaderAcct bs =
      ⟨0, h.dataSize + h.nEntries * 16, h.dataSize, h.nEntries,
        h.entries.map (fun e => decodeReserve h.store e.data.typeCode e.off e.cnt), h.keptBytes⟩ := by
  obtain ⟨res, hr, e, wf⟩ := parseHeader_ok hp
  rw [e]
  exact acct_of_written wf hr rest

/-- data kept by one accepted entry: at most 24 bytes per store byte from its offset on (a `String` value per NUL) -/
theorem decode_kept_le {store ty off cnt d} (h : decode store ty off cnt = .ok d) :
    d.keptBytes ≤ 24 * (store.length - off) := Hdr.decode_kept_le h

/-- data kept by one accepted entry: at most 24 bytes per store byte the budget charges it (`used` of the second loop) -/
theorem decode_kept_le_used {store ty off cnt d} (h : decode store ty off cnt = .ok d) :
    d.keptBytes ≤ 24 * decodeUsed store off cnt d ∧ decodeUsed store off cnt d ≤ store.length - off :=
  ⟨Hdr.decode_kept_le_used h, Hdr.decodeUsed_le h⟩

/-- the decoded data alive at the end of the second loop, for every input: at most 24 · entries · store (the bound that
was the best there is before the budget; sharper than `kept_le_linear` for a header of one entry, equal for two).
The 16 of the second clause: each index entry takes 16 input bytes, so `16 · entries ≤ |bs|` and `store ≤ |bs|`. -/
theorem kept_le_quadratic (bs : Bytes) :
    let a := parseHeaderAcct bs
    a.kept ≤ 24 * (a.entries * a.storeCopy) ∧ 16 * a.kept ≤ 24 * (bs.length * bs.length) := by
  obtain ⟨-, k2, k3, -, -, h1, -⟩ := acct_bounds bs
  replace k2 := Nat.le_trans k2 (Nat.sub_le _ _)
  refine ⟨h1, ?_⟩
  have e3 : 16 * (parseHeaderAcct bs).entries * (parseHeaderAcct bs).storeCopy ≤ bs.length * bs.length :=
    Nat.mul_le_mul (by omega) (by omega)
  calc 16 * (parseHeaderAcct bs).kept
      ≤ 16 * (24 * ((parseHeaderAcct bs).entries * (parseHeaderAcct bs).storeCopy)) := Nat.mul_le_mul_left _ h1
    _ = 24 * (16 * (parseHeaderAcct bs).entries * (parseHeaderAcct bs).storeCopy) := by
        simp only [← Nat.mul_assoc]
    _ ≤ 24 * (bs.length * bs.length) := Nat.mul_le_mul_left _ e3

/-- **the decoded data alive at the end of the second loop is LINEAR in the input, for EVERY byte string** — accepted,
or rejected at any entry (also at the one the budget refuses, whose data has been decoded by then): at most 48 bytes per
byte of the data section, hence per input byte. (24 for what the budget covered + 24 for the entry the loop stopped at.) -/
theorem kept_le_linear (bs : Bytes) :
    let a := parseHeaderAcct bs
    a.kept ≤ 48 * a.storeCopy ∧ a.kept ≤ 48 * bs.length := by
  obtain ⟨-, k2, k3, -, -, -, h1⟩ := acct_bounds bs
  replace k2 := Nat.le_trans k2 (Nat.sub_le _ _)
  exact ⟨h1, by omega⟩

/-- **an ACCEPTED header keeps at most 24 bytes of decoded data per byte of its data section** (a `String` value for an
empty string and its NUL is the worst case), hence per input byte: the entries are charged against the data section
and what an entry keeps is at most 24 × what it is charged -/
theorem accepted_kept_le_linear {bs h rest} (hp : parseHeader bs = .ok (h, rest)) :
    h.keptBytes ≤ 24 * h.dataSize ∧ h.keptBytes ≤ 24 * bs.length := by
  obtain ⟨res, hr, e, wf⟩ := parseHeader_ok hp
  have := kept_le_of_budget wf
  rw [wf.dlEq] at this
  refine ⟨this, ?_⟩
  rw [e, List.length_append, hdrBytes_size hr wf.nEq wf.dlEq, Header.size]
  omega

/-- **everything alive at the end of `parse_header`, every byte string**: buffer, store copy, 48-byte entry values, one
reservation (13 bytes per input byte together) + the kept data (48): linear, and inside the limit of Spec/Alloc.lean -/
theorem live_le (bs : Bytes) :
    let a := parseHeaderAcct bs
    a.live ≤ 13 * bs.length + 48 * a.storeCopy ∧ a.live ≤ 61 * bs.length ∧ a.live ≤ AllocSpec.liveLimit bs.length := by
  obtain ⟨k1, k2, k3, k4, -, -, h⟩ := acct_bounds bs
  replace k2 := Nat.le_trans k2 (Nat.sub_le _ _)
  have hf : (parseHeaderAcct bs).reserves.foldl Nat.max 0 ≤ 8 * (parseHeaderAcct bs).storeCopy :=
    foldl_max_le (Nat.zero_le _) k4
  have hm : Nat.max (parseHeaderAcct bs).upFront (parseHeaderAcct bs).buffered = (parseHeaderAcct bs).buffered := by
    rw [k1]; exact Nat.max_eq_right (Nat.zero_le _)
  simp only [ParseAcct.live, INDEX_ENTRY_VALUE_BYTES, AllocSpec.liveLimit, hm]
  omega

theorem acct_le_input {r bs : Bytes} (hr : r.length ≤ bs.length) :
    (parseHeaderAcct r).upFront = 0 ∧ (parseHeaderAcct r).maxSingle ≤ 8 * bs.length ∧ (parseHeaderAcct r).buffered ≤ bs.length
      ∧ 16 * (parseHeaderAcct r).kept ≤ 24 * (bs.length * bs.length) ∧ (parseHeaderAcct r).kept ≤ 48 * bs.length := by
  obtain ⟨k1, k2, -, -, -, k6⟩ := reserved_le_input r
  replace k2 := Nat.le_trans k2 (Nat.sub_le _ _)
  have q := (kept_le_quadratic r).2
  have q2 := (kept_le_linear r).2
  have := Nat.mul_le_mul hr hr
  exact ⟨k1, by omega, by omega, by omega, by omega⟩

/-- **`Package::parse` / `PackageMetadata::parse`, every byte string**: at most two header parses, each on a suffix of the
input, so every single request of either is at most 8 bytes per input byte, nothing is sized up front, the content
kept is at most the input, and the decoded data either header keeps is at most 48 bytes per input byte -/
theorem package_requests_le_input (bs : Bytes) :
    let p := parsePackageAcct bs
    p.headers.length ≤ 2 ∧ p.content ≤ bs.length
      ∧ ∀ a ∈ p.headers, a.upFront = 0 ∧ a.maxSingle ≤ 8 * bs.length ∧ a.buffered ≤ bs.length
          ∧ 16 * a.kept ≤ 24 * (bs.length * bs.length) ∧ a.kept ≤ 48 * bs.length := by
  unfold parsePackageAcct
  split
  · rename_i lb r h0
    have hr : r.length ≤ bs.length := by have := takeN_length h0; omega
    split
    · split
      · rename_i hsig r2 h2
        obtain ⟨res, pad, -, -, e2, -⟩ := parseSignature_ok h2
        have hr2 : r2.length ≤ bs.length := by
          have := congrArg List.length e2
          simp only [List.length_append] at this; omega
        have both : ∀ a ∈ [parseHeaderAcct r, parseHeaderAcct r2],
            a.upFront = 0 ∧ a.maxSingle ≤ 8 * bs.length ∧ a.buffered ≤ bs.length
              ∧ 16 * a.kept ≤ 24 * (bs.length * bs.length) ∧ a.kept ≤ 48 * bs.length :=
          List.forall_mem_cons.mpr ⟨acct_le_input hr, List.forall_mem_cons.mpr ⟨acct_le_input hr2, nofun⟩⟩
        split
        · rename_i hh rest h3
          obtain ⟨res', -, e3, -⟩ := parseHeader_ok h3
          refine ⟨Nat.le_refl 2, ?_, both⟩
          have := congrArg List.length e3
          simp only [List.length_append] at this
          show rest.length ≤ bs.length
          omega
        · exact ⟨Nat.le_refl 2, Nat.zero_le _, both⟩
      · exact ⟨Nat.le_succ 1, Nat.zero_le _, List.forall_mem_cons.mpr ⟨acct_le_input hr, nofun⟩⟩
    · exact ⟨Nat.zero_le _, Nat.zero_le _, nofun⟩
  · exact ⟨Nat.zero_le _, Nat.zero_le _, nofun⟩

/-- **the family that kept `n · S` bytes before the fix is refused**: `n ≥ 2` BIN entries that all point at offset 0 of
one `S`-byte store (`S ≥ 1`), an input of `16 + 16 n + S` bytes, are rejected with class `overlap` (what is alive when
the loop stops is bounded by `kept_le_linear`; two copies of the store in the instance of the examples below) -/
theorem overlap_refused (n S : Nat) (hn2 : 2 ≤ n) (hS1 : 1 ≤ S) (hn : n < 4294967296) (hS : S < 4294967296) :
    let bs := writeHeader (overlapHeader n S)
    parseHeader bs = .err "overlap" ∧ bs.length = 16 + 16 * n + S := by
  have hp : parseHeader (writeHeader (overlapHeader n S)) = .err "overlap" := by
    have := parseHeader_write_overlap (h := overlapHeader n S) (by simp [overlapHeader]) (by simp [overlapHeader]) hn hS
      (overlap_fields hS) (overlap_dec n S) (overlap_exceeds hn2 hS1) (res := [0, 0, 0, 0]) rfl []
    rwa [List.append_nil, ← writeHeader_eq] at this
  exact ⟨hp, overlap_length n S⟩

/-- the single entry of the family is what the budget allows: accepted (the budget is tight, not a blanket refusal) -/
theorem overlap_one_accepted (S : Nat) (hS : S < 4294967296) :
    parseHeader (writeHeader (overlapHeader 1 S)) = .ok (overlapHeader 1 S, []) ∧ (overlapHeader 1 S).keptBytes = S := by
  have wf : HeaderWF (overlapHeader 1 S) :=
    ⟨by simp [overlapHeader], by simp [overlapHeader], by show (1 : Nat) < _; omega, hS, overlap_fields hS, overlap_dec 1 S, by
      rw [overlap_used]; simp [overlapHeader]⟩
  exact ⟨parseHeader_writeHeader wf, by rw [overlap_kept]; omega⟩

/-- **the budget refuses no header the builder emits**: the store bytes the entries of a `from_entries` header are
charged (the region trailer's 16 bytes, every record's encoding) are together at most the data section
(`Hdr.fromEntries_within_budget`) — so what `Header::write` emits for it parses back to the same header -/
theorem fromEntries_within_budget {recs : List (Nat × IndexData)} {regionTag : Nat} (ok : RecsOk recs regionTag) :
    usedSum (fromEntries recs regionTag).store (fromEntries recs regionTag).entries ≤ (fromEntries recs regionTag).store.length
      ∧ parseHeader (writeHeader (fromEntries recs regionTag)) = .ok (fromEntries recs regionTag, []) :=
  ⟨Hdr.fromEntries_within_budget ok, parseHeader_writeHeader (fromEntries_wf ok)⟩

/-- the decoded data ONE accepted header keeps is below the limit (64 KiB + 128 bytes per input byte) that the
differential run applies to the peak of the whole read side; nothing here bounds that peak -/
theorem harness_limit_holds {bs h rest} (hp : parseHeader bs = .ok (h, rest)) :
    h.keptBytes ≤ AllocSpec.liveLimit bs.length := by
  have := (accepted_kept_le_linear hp).2
  simp only [AllocSpec.liveLimit]
  omega

/-! ### the loop before the fix (a copy of the old definition, kept as a witness of what the budget is for) -/

def decodeAllOld (store : Bytes) : List (Nat × Nat × Nat × Nat) → Out (List Entry)
  | [] => pure []
  | (tag, ty, off, cnt) :: r => do
    let d ← decode store ty off cnt
    let es ← decodeAllOld store r
    pure (⟨tag, d, off, cnt⟩ :: es)

/-- **what the old loop did with the family, and what the new one does**: the old loop ACCEPTS `n` entries over one
`S`-byte store and keeps `n · S` bytes of decoded data (for every `n`: no bound linear in `16 + 16 n + S` exists); the
loop with the budget refuses the same index as soon as `n ≥ 2`, `S ≥ 1` -/
theorem overlap_old_decoder_accepted (n S : Nat) :
    decodeAllOld (overlapHeader n S).store ((overlapHeader n S).entries.map Entry.raw) = .ok (overlapHeader n S).entries
      ∧ (overlapHeader n S).keptBytes = n * S
      ∧ (2 ≤ n → 1 ≤ S → decodeAll (overlapHeader n S).store ((overlapHeader n S).entries.map Entry.raw) = .err "overlap") := by
  refine ⟨?_, overlap_kept n S, ?_⟩
  · have key : ∀ es : List Entry, (∀ e ∈ es, decode (overlapHeader n S).store e.data.typeCode e.off e.cnt = .ok e.data) →
        decodeAllOld (overlapHeader n S).store (es.map Entry.raw) = .ok es := by
      intro es
      induction es with
      | nil => intro _; rfl
      | cons e es ih =>
        intro hd
        simp only [List.map_cons, Entry.raw, decodeAllOld]
        rw [hd e (by simp)]; simp only [Out.bind_ok]
        rw [ih (fun e' m => hd e' (by simp [m]))]; rfl
    exact key _ (overlap_dec n S)
  · exact fun hn2 hS1 => decodeAllB_overlap (overlap_dec n S) (overlap_exceeds hn2 hS1)

-- an INT64 entry claiming 2^32 − 1 items over an 8-byte store at offset 0: REJECTED, and the reservation made before
-- the loop failed was 8 elements = 64 bytes (the code before dd37f2f asked for 32 GiB)
example : parseHeaderAcct ([142, 173, 232, 1, 0, 0, 0, 0, 0, 0, 0, 1, 0, 0, 0, 8,
      0, 0, 3, 232, 0, 0, 0, 5, 0, 0, 0, 0, 255, 255, 255, 255, 0, 0, 0, 0, 0, 0, 0, 1])
    = ⟨0, 24, 8, 1, [64], 0⟩ := by decide +kernel
example : (parseHeader ([142, 173, 232, 1, 0, 0, 0, 0, 0, 0, 0, 1, 0, 0, 0, 8,
      0, 0, 3, 232, 0, 0, 0, 5, 0, 0, 0, 0, 255, 255, 255, 255, 0, 0, 0, 0, 0, 0, 0, 1])).isErr = true := by decide +kernel
-- the same entry with count 1: accepted, 8 bytes reserved, 8 bytes kept
example : parseHeaderAcct ([142, 173, 232, 1, 0, 0, 0, 0, 0, 0, 0, 1, 0, 0, 0, 8,
      0, 0, 3, 232, 0, 0, 0, 5, 0, 0, 0, 0, 0, 0, 0, 1, 0, 0, 0, 0, 0, 0, 0, 1])
    = ⟨0, 24, 8, 1, [8], 8⟩ := by decide +kernel
-- an intro that claims a 4 GiB store in a 16-byte input: nothing is buffered, nothing reserved
example : parseHeaderAcct [142, 173, 232, 1, 0, 0, 0, 0, 0, 0, 0, 0, 255, 255, 255, 255] = ⟨0, 0, 0, 0, [], 0⟩ := by decide +kernel
-- the overlap family at a size the kernel can run: 3 entries over a 4-byte store are refused at the second entry, with
-- two copies of the store alive (before the fix: accepted, 12 bytes kept); a single entry is accepted
example : (parseHeader (writeHeader (overlapHeader 3 4))).isErr = true ∧ (parseHeaderAcct (writeHeader (overlapHeader 3 4))).kept = 8
    ∧ (parseHeaderAcct (writeHeader (overlapHeader 3 4))).reserves.length = 2 ∧ (writeHeader (overlapHeader 3 4)).length = 68 := by decide +kernel
example : (parseHeader (writeHeader (overlapHeader 1 4))).isErr = false ∧ (parseHeaderAcct (writeHeader (overlapHeader 1 4))).kept = 4 := by decide +kernel
-- two entries of 4 bytes each over an 8-byte store (offsets 0 and 4): accepted, the budget is used up exactly
example : (parseHeader ([142, 173, 232, 1, 0, 0, 0, 0, 0, 0, 0, 2, 0, 0, 0, 8,
      0, 0, 3, 232, 0, 0, 0, 7, 0, 0, 0, 0, 0, 0, 0, 4, 0, 0, 3, 233, 0, 0, 0, 7, 0, 0, 0, 4, 0, 0, 0, 4,
      1, 2, 3, 4, 5, 6, 7, 8])).isErr = false := by decide +kernel
-- offsets 0 and 3, 4 and 5 bytes: charged 9 for an 8-byte store, refused
example : (parseHeader ([142, 173, 232, 1, 0, 0, 0, 0, 0, 0, 0, 2, 0, 0, 0, 8,
      0, 0, 3, 232, 0, 0, 0, 7, 0, 0, 0, 0, 0, 0, 0, 4, 0, 0, 3, 233, 0, 0, 0, 7, 0, 0, 0, 3, 0, 0, 0, 5,
      1, 2, 3, 4, 5, 6, 7, 8])).isErr = true := by decide +kernel
-- a count far beyond what is there reserves the 8 elements that are left, not 2^32 − 1 (`reserve_arg_reading`: the min)
example : reserveOf 4294967295 8 = 8 := by decide

end RpmVerif.C04
