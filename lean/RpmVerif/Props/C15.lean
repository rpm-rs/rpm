import RpmVerif.Lemmas.Version
import RpmVerif.Spec.Version
import RpmVerif.Model.Compression
/-!
# C15 — textual forms of EVR, NEVRA and compression type round-trip

All theorems quantify over *all* strings (lists of code points of any length, any characters).
Model: `Model/Version.lean` (`Evr::parse_values`, `Nevra::parse_values`, the five formatters),
`Model/Compression.lean` (Display / FromStr over the tables scraped from the source).
Guards: `Spec/Version.lean` (`EvrGuard`, `EvrNormGuard`, `NevraGuard`, `NevraNormGuard`, `NvraGuard`),
with the reason and a counterexample for every clause (the counterexamples are checked below).

**Totality / "parsing arbitrary text never panics".** Every function of the two model files is a
total Lean function into plain data (`Str`, tuples, `Out` with only `ok` / `err` used): no `panic`
outcome is constructible, which mirrors the Rust code — `split_once`, `rsplit_once`,
`rmatch_indices().nth(1)`, `unwrap_or`, `format!` and a string `match` have no failure mode. The one
partial operation in the source, the slicing `&nevra[..i]` / `&nevra[i + 1..]`, cannot panic: `i` is
the byte offset of a matched '-' (one ASCII byte), so `i` and `i + 1` are char boundaries `≤ len`.
`compression_fromStr_total` states the absence of a panic outcome for `FromStr`; for the parsers
there is nothing to state (their result type has no failure case). The tie of that claim to the
real code is the `parseany` correspondence (arbitrary strings under `catch_unwind`).
-/
namespace RpmVerif.C15
open RpmVerif.Vercmp RpmVerif.Version RpmVerif.VersionSpec RpmVerif.Compression

/-- **`EvrGuard` is necessary and sufficient** for the `Display` round trip -/
theorem evr_roundtrip_iff (e : Evr) : Evr.parse (Evr.toStr e) = e ↔ EvrGuard e := by
  obtain ⟨E, V, R⟩ := e
  rw [evr_parse_iff]
  cases E with
  | nil =>
    have txt : Evr.toStr ⟨[], V, R⟩ = V ++ 45 :: R := by simp [Evr.toStr]
    rw [txt, evrParse_noEpoch_iff]
    simp [EvrGuard]
  | cons x xs =>
    have txt : Evr.toStr ⟨x :: xs, V, R⟩ = (x :: xs) ++ 58 :: (V ++ 45 :: R) := by simp [Evr.toStr]
    rw [txt, evrParse_epoch_iff]
    simp [EvrGuard]

/-- **EVR round trip**: printing with `Display` and parsing the text gives back the same value,
component by component, for every EVR inside `EvrGuard` (epoch possibly empty, release arbitrary). -/
theorem evr_roundtrip (e : Evr) (h : EvrGuard e) : Evr.parse (Evr.toStr e) = e :=
  (evr_roundtrip_iff e).mpr h

theorem evr_normalized_roundtrip_iff (e : Evr) :
    Evr.parse (Evr.normalized e) = ⟨epochOr0 e.epoch, e.version, e.release⟩ ↔ EvrNormGuard e := by
  obtain ⟨E, V, R⟩ := e
  have txt : Evr.normalized ⟨E, V, R⟩ = epochOr0 E ++ 58 :: (V ++ 45 :: R) := by simp [Evr.normalized]
  rw [evr_parse_iff, txt, evrParse_epoch_iff]
  simp [EvrNormGuard, epochOr0_not_mem]

/-- **normalized EVR round trip**: the normalized text parses back to the same version and release
and to the epoch with "" replaced by "0". -/
theorem evr_normalized_roundtrip (e : Evr) (h : EvrNormGuard e) :
    Evr.parse (Evr.normalized e) = ⟨epochOr0 e.epoch, e.version, e.release⟩ :=
  (evr_normalized_roundtrip_iff e).mpr h

/-- … hence the parsed-back values are `==` (the hand-written `PartialEq`, epoch "" ≡ "0") to the original -/
theorem evr_roundtrip_eq (e : Evr) (h : EvrGuard e) : (Evr.parse (Evr.toStr e)).eq e = true := by
  rw [evr_roundtrip e h]; exact evr_eq_refl e

theorem evr_normalized_eq (e : Evr) (h : EvrNormGuard e) : (Evr.parse (Evr.normalized e)).eq e = true := by
  rw [evr_normalized_roundtrip e h]
  obtain ⟨E, V, R⟩ := e
  cases E <;> simp [Evr.eq, epochOr0]

/-- **the normalized form always carries an epoch**: whatever version and release are, the text
parses to a non-empty epoch, namely the original one or "0" (only ':' ∉ epoch is needed). -/
theorem evr_normalized_has_epoch (e : Evr) (h : 58 ∉ e.epoch) :
    (Evr.parse (Evr.normalized e)).epoch = epochOr0 e.epoch ∧ (Evr.parse (Evr.normalized e)).epoch ≠ [] := by
  obtain ⟨E, V, R⟩ := e
  have : (Evr.parse (Evr.normalized ⟨E, V, R⟩)).epoch = epochOr0 E := by
    simp [Evr.parse, Evr.normalized, evrParseValues, splitOnce_append _ ((epochOr0_not_mem (by decide)).mpr h)]
  exact ⟨this, this ▸ epochOr0_ne_nil E⟩

/-- the normalized text itself starts with a non-empty epoch and ':' for EVERY value (no guard) -/
theorem evr_normalized_text (e : Evr) :
    ∃ ep rest, Evr.normalized e = ep ++ 58 :: rest ∧ ep ≠ [] ∧ (e.epoch ≠ [] → ep = e.epoch) ∧ (e.epoch = [] → ep = [48]) := by
  refine ⟨epochOr0 e.epoch, e.version ++ 45 :: e.release, by simp [Evr.normalized], epochOr0_ne_nil _, ?_, ?_⟩
  · intro h; unfold epochOr0; cases he : e.epoch <;> simp_all
  · intro h; simp [epochOr0, h]

/-- **`NevraGuard` is necessary and sufficient** for the `Display` round trip of a NEVRA -/
theorem nevra_roundtrip_iff (n : Nevra) : Nevra.parse (Nevra.toStr n) = n ↔ NevraGuard n := by
  obtain ⟨N, ⟨E, V, R⟩, A⟩ := n
  rw [nevra_parse_iff]
  cases E with
  | nil =>
    have txt : Nevra.toStr ⟨N, ⟨[], V, R⟩, A⟩ = N ++ 45 :: (V ++ 45 :: (R ++ 46 :: A)) := by simp [Nevra.toStr, Evr.toStr]
    rw [txt, nevraParse_noEpoch_iff]
    simp only [NevraGuard, List.not_mem_nil, not_false_eq_true, true_and, forall_const]
  | cons x xs =>
    have txt : Nevra.toStr ⟨N, ⟨x :: xs, V, R⟩, A⟩ = N ++ 45 :: ((x :: xs) ++ 58 :: (V ++ 45 :: (R ++ 46 :: A))) := by
      simp [Nevra.toStr, Evr.toStr]
    rw [txt, nevraParse_epoch_iff]
    simp only [NevraGuard, List.cons_ne_nil, false_imp_iff, and_true]

/-- **NEVRA round trip**: any name (dashes, dots, colons, even empty), epoch possibly empty, dots in
the release, arch possibly empty. -/
theorem nevra_roundtrip (n : Nevra) (h : NevraGuard n) : Nevra.parse (Nevra.toStr n) = n :=
  (nevra_roundtrip_iff n).mpr h

theorem nevra_normalized_roundtrip_iff (n : Nevra) :
    Nevra.parse (Nevra.normalized n) = ⟨n.name, ⟨epochOr0 n.evr.epoch, n.evr.version, n.evr.release⟩, n.arch⟩ ↔
      NevraNormGuard n := by
  obtain ⟨N, ⟨E, V, R⟩, A⟩ := n
  have txt : Nevra.normalized ⟨N, ⟨E, V, R⟩, A⟩ = N ++ 45 :: (epochOr0 E ++ 58 :: (V ++ 45 :: (R ++ 46 :: A))) := by
    simp [Nevra.normalized, Evr.normalized]
  rw [nevra_parse_iff, txt, nevraParse_epoch_iff]
  simp [NevraNormGuard, epochOr0_not_mem]

/-- **normalized NEVRA round trip** (epoch "" ↦ "0", everything else identical) -/
theorem nevra_normalized_roundtrip (n : Nevra) (h : NevraNormGuard n) :
    Nevra.parse (Nevra.normalized n) = ⟨n.name, ⟨epochOr0 n.evr.epoch, n.evr.version, n.evr.release⟩, n.arch⟩ :=
  (nevra_normalized_roundtrip_iff n).mpr h

theorem nevra_nvra_roundtrip_iff (n : Nevra) :
    Nevra.parse (Nevra.nvra n) = ⟨n.name, ⟨[], n.evr.version, n.evr.release⟩, n.arch⟩ ↔ NvraGuard n := by
  obtain ⟨N, ⟨E, V, R⟩, A⟩ := n
  have txt : Nevra.nvra ⟨N, ⟨E, V, R⟩, A⟩ = N ++ 45 :: (V ++ 45 :: (R ++ 46 :: A)) := by simp [Nevra.nvra]
  rw [nevra_parse_iff, txt, nevraParse_noEpoch_iff]
  rfl

/-- **NVRA round trip**: the epoch-less file-name form parses back to the value with epoch "" -/
theorem nevra_nvra_roundtrip (n : Nevra) (h : NvraGuard n) :
    Nevra.parse (Nevra.nvra n) = ⟨n.name, ⟨[], n.evr.version, n.evr.release⟩, n.arch⟩ :=
  (nevra_nvra_roundtrip_iff n).mpr h

theorem nevra_roundtrip_eq (n : Nevra) (h : NevraGuard n) : (Nevra.parse (Nevra.toStr n)).eq n = true := by
  rw [nevra_roundtrip n h]; exact nevra_eq_refl n

theorem nevra_normalized_eq (n : Nevra) (h : NevraNormGuard n) : (Nevra.parse (Nevra.normalized n)).eq n = true := by
  rw [nevra_normalized_roundtrip n h]
  obtain ⟨N, ⟨E, V, R⟩, A⟩ := n
  cases E <;> simp [Nevra.eq, Evr.eq, epochOr0]

/-- only inside the guard: `("a","","1","2-3","x")` prints "a-0:1-2-3.x", which reads back with the epoch "" (the name
ends at the second-to-last '-') -/
theorem nevra_normalized_has_epoch (n : Nevra) (h : NevraNormGuard n) :
    (Nevra.parse (Nevra.normalized n)).evr.epoch ≠ [] := by
  rw [nevra_normalized_roundtrip n h]; exact epochOr0_ne_nil _

/-- the scraped Display table has an arm for every variant of the enum -/
theorem compression_display_total : ∀ c, c < numVariants → (Gen.compressionDisplay.lookup c).isSome = true := by
  decide +kernel

/-- **every compression type parses back from its own textual name** -/
theorem compression_roundtrip : ∀ c, c < numVariants → fromStr (toStr c) = .ok c := by
  decide +kernel

/-- `FromStr` answers `Ok` or `Err`, never a panic, on every string -/
theorem compression_fromStr_total (s : Str) : (fromStr s).isPanic = false := by
  unfold fromStr; split <;> rfl

/-- and whatever it accepts is a real variant -/
theorem compression_fromStr_range : ∀ p ∈ Gen.compressionFromStr, p.2 < numVariants := by
  decide +kernel

/-! ## Non-vacuity: the hypotheses are satisfiable by real-world values, and each guard clause is needed

Strings are written as code points ('-' 45, '.' 46, ':' 58); e.g. `[51,56,57,45,100,115,…]` is "389-ds-base-devel". -/

/-- "389-ds-base-devel", "", "1.3.8.4", "15.el7", "x86_64" — the library's own asset package -/
def ds389 : Nevra := ⟨[51, 56, 57, 45, 100, 115, 45, 98, 97, 115, 101, 45, 100, 101, 118, 101, 108],
  ⟨[], [49, 46, 51, 46, 56, 46, 52], [49, 53, 46, 101, 108, 55]⟩, [120, 56, 54, 95, 54, 52]⟩
/-- "perl-Foo-Bar", "2", "1.0~rc1", "1.fc38", "noarch" -/
def perlFooBar : Nevra := ⟨[112, 101, 114, 108, 45, 70, 111, 111, 45, 66, 97, 114],
  ⟨[50], [49, 46, 48, 126, 114, 99, 49], [49, 46, 102, 99, 51, 56]⟩, [110, 111, 97, 114, 99, 104]⟩
/-- "python3.9", "", "3.9.18", "1.fc38", "x86_64" -/
def python39 : Nevra := ⟨[112, 121, 116, 104, 111, 110, 51, 46, 57],
  ⟨[], [51, 46, 57, 46, 49, 56], [49, 46, 102, 99, 51, 56]⟩, [120, 56, 54, 95, 54, 52]⟩

example : NevraGuard ds389 ∧ NevraNormGuard ds389 ∧ NvraGuard ds389 ∧ EvrGuard ds389.evr := by decide +kernel
example : NevraGuard perlFooBar ∧ NvraGuard perlFooBar ∧ EvrGuard perlFooBar.evr := by decide +kernel
example : NevraGuard python39 ∧ NvraGuard python39 := by decide +kernel
/-- "389-ds-base-devel-1.3.8.4-15.el7.x86_64" -/
example : Nevra.toStr ds389 = [51, 56, 57, 45, 100, 115, 45, 98, 97, 115, 101, 45, 100, 101, 118, 101, 108, 45, 49, 46, 51,
    46, 56, 46, 52, 45, 49, 53, 46, 101, 108, 55, 46, 120, 56, 54, 95, 54, 52] ∧ Nevra.nvra ds389 = Nevra.toStr ds389 := by
  decide +kernel
/-- "389-ds-base-devel-0:1.3.8.4-15.el7.x86_64" -/
example : Nevra.normalized ds389 = [51, 56, 57, 45, 100, 115, 45, 98, 97, 115, 101, 45, 100, 101, 118, 101, 108, 45, 48, 58,
    49, 46, 51, 46, 56, 46, 52, 45, 49, 53, 46, 101, 108, 55, 46, 120, 56, 54, 95, 54, 52] := by decide +kernel
example : Nevra.parse (Nevra.toStr ds389) = ds389 := nevra_roundtrip _ (by decide)
example : (Nevra.parse (Nevra.normalized ds389)).evr.epoch = [48] ∧ (Nevra.parse (Nevra.normalized ds389)).name = ds389.name := by
  rw [nevra_normalized_roundtrip ds389 (by decide)]; exact ⟨rfl, rfl⟩
/-- "perl-Foo-Bar-2:1.0~rc1-1.fc38.noarch" -/
example : Nevra.toStr perlFooBar = [112, 101, 114, 108, 45, 70, 111, 111, 45, 66, 97, 114, 45, 50, 58, 49, 46, 48, 126, 114,
    99, 49, 45, 49, 46, 102, 99, 51, 56, 46, 110, 111, 97, 114, 99, 104] ∧ Nevra.parse (Nevra.toStr perlFooBar) = perlFooBar :=
  ⟨by decide +kernel, nevra_roundtrip _ (by decide)⟩
example : Nevra.parse (Nevra.nvra perlFooBar) = { perlFooBar with evr := { perlFooBar.evr with epoch := [] } } :=
  nevra_nvra_roundtrip _ (by decide)
example : Nevra.parse (Nevra.toStr python39) = python39 ∧ (Nevra.parse (Nevra.toStr python39)).evr.release = [49, 46, 102, 99, 51, 56] := by
  rw [nevra_roundtrip python39 (by decide)]; exact ⟨rfl, rfl⟩
example : Evr.parse (Evr.toStr perlFooBar.evr) = perlFooBar.evr ∧ Evr.parse (Evr.normalized ds389.evr) = ⟨[48], ds389.evr.version, ds389.evr.release⟩ :=
  ⟨evr_roundtrip _ (by decide), evr_normalized_roundtrip _ (by decide)⟩
-- unusual but allowed: empty name, name with ':' and a trailing '-', empty arch, '-' in an EVR epoch, ':' in a release behind an epoch
example : NevraGuard ⟨[], ⟨[], [49], [50]⟩, []⟩ ∧ Nevra.parse (Nevra.toStr ⟨[], ⟨[], [49], [50]⟩, []⟩) = ⟨[], ⟨[], [49], [50]⟩, []⟩ :=
  ⟨by decide, nevra_roundtrip _ (by decide)⟩
example : Nevra.parse (Nevra.toStr ⟨[97, 58, 98, 45], ⟨[], [49], [50, 46, 51]⟩, []⟩) = ⟨[97, 58, 98, 45], ⟨[], [49], [50, 46, 51]⟩, []⟩ :=
  nevra_roundtrip _ (by decide)
example : EvrGuard ⟨[49, 45, 49], [49, 58, 50], [51, 58, 45]⟩ ∧
    Evr.parse (Evr.toStr ⟨[49, 45, 49], [49, 58, 50], [51, 58, 45]⟩) = ⟨[49, 45, 49], [49, 58, 50], [51, 58, 45]⟩ :=
  ⟨by decide, evr_roundtrip _ (by decide)⟩

-- every clause of `EvrGuard` is needed (value outside the clause, round trip fails):
/-- ':' in the epoch: ("1:2","3","4") -/
example : Evr.parse (Evr.toStr ⟨[49, 58, 50], [51], [52]⟩) ≠ ⟨[49, 58, 50], [51], [52]⟩ :=
  mt (evr_roundtrip_iff _).mp (by decide)
/-- '-' in the version: ("","1-2","3") -/
example : Evr.parse (Evr.toStr ⟨[], [49, 45, 50], [51]⟩) ≠ ⟨[], [49, 45, 50], [51]⟩ :=
  mt (evr_roundtrip_iff _).mp (by decide)
/-- ':' in the version, empty epoch: ("","1:2","3") reads back as ("1","2","3") -/
example : Evr.parse (Evr.toStr ⟨[], [49, 58, 50], [51]⟩) = ⟨[49], [50], [51]⟩ := by decide +kernel
/-- ':' in the release, empty epoch: ("","1","2:3") reads back as ("1-2","3","") -/
example : Evr.parse (Evr.toStr ⟨[], [49], [50, 58, 51]⟩) = ⟨[49, 45, 50], [51], []⟩ := by decide +kernel
-- every clause of `NevraGuard` is needed:
/-- '-' in the release: ("a","","1","2-3","x") reads back with name "a-1" -/
example : (Nevra.parse (Nevra.toStr ⟨[97], ⟨[], [49], [50, 45, 51]⟩, [120]⟩)).name = [97, 45, 49] := by decide +kernel
/-- '-' in the version / the epoch / the arch -/
example : Nevra.parse (Nevra.toStr ⟨[97], ⟨[], [49, 45, 50], [51]⟩, [120]⟩) ≠ ⟨[97], ⟨[], [49, 45, 50], [51]⟩, [120]⟩ :=
  mt (nevra_roundtrip_iff _).mp (by decide)
example : Nevra.parse (Nevra.toStr ⟨[97], ⟨[49, 45], [50], [51]⟩, [120]⟩) ≠ ⟨[97], ⟨[49, 45], [50], [51]⟩, [120]⟩ :=
  mt (nevra_roundtrip_iff _).mp (by decide)
example : Nevra.parse (Nevra.toStr ⟨[97], ⟨[], [50], [51]⟩, [120, 45]⟩) ≠ ⟨[97], ⟨[], [50], [51]⟩, [120, 45]⟩ :=
  mt (nevra_roundtrip_iff _).mp (by decide)
/-- ':' in the epoch -/
example : Nevra.parse (Nevra.toStr ⟨[97], ⟨[49, 58], [50], [51]⟩, [120]⟩) ≠ ⟨[97], ⟨[49, 58], [50], [51]⟩, [120]⟩ :=
  mt (nevra_roundtrip_iff _).mp (by decide)
/-- '.' in the arch: ("a","","1","2","x.y") reads back as release "2.x", arch "y" -/
example : Nevra.parse (Nevra.toStr ⟨[97], ⟨[], [49], [50]⟩, [120, 46, 121]⟩) = ⟨[97], ⟨[], [49], [50, 46, 120]⟩, [121]⟩ := by decide +kernel
/-- ':' in version / release / arch with an empty epoch -/
example : Nevra.parse (Nevra.toStr ⟨[97], ⟨[], [49, 58], [50]⟩, [120]⟩) ≠ ⟨[97], ⟨[], [49, 58], [50]⟩, [120]⟩ :=
  mt (nevra_roundtrip_iff _).mp (by decide)
example : Nevra.parse (Nevra.toStr ⟨[97], ⟨[], [49], [50, 58]⟩, [120]⟩) ≠ ⟨[97], ⟨[], [49], [50, 58]⟩, [120]⟩ :=
  mt (nevra_roundtrip_iff _).mp (by decide)
example : Nevra.parse (Nevra.toStr ⟨[97], ⟨[], [49], [50]⟩, [120, 58, 121]⟩) ≠ ⟨[97], ⟨[], [49], [50]⟩, [120, 58, 121]⟩ :=
  mt (nevra_roundtrip_iff _).mp (by decide)
-- the fallback branch of `Nevra::parse_values` (fewer than two dashes): "a-1" and "a"
example : nevraParseValues [97, 45, 49] = ([97], [], [49], [], []) ∧ nevraParseValues [97] = ([97], [], [], [], []) := by decide +kernel
-- compression types: "none" ↦ None (variant 0), "lzma" is rejected
example : fromStr [110, 111, 110, 101] = .ok 0 ∧ toStr 0 = [110, 111, 110, 101] ∧ fromStr [108, 122, 109, 97] = .err "unknown-compressor" := by
  decide +kernel
example : 0 < numVariants := by decide

end RpmVerif.C15
