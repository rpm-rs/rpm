import RpmVerif.Lemmas.ExtractBenign
import RpmVerif.Lemmas.PkgFiles
import RpmVerif.Props.Pipeline
/-!
# C12 — extraction recreates the files and never touches anything outside the target

Model: `Model/Fs.lean` — `Fs.extract` is the call sequence of `Package::extract` as it is in /repo
after `fix: extract() stays inside the destination and reports unsupported file types`
(`extraction_path`, `refuse_symlinks`, `is_symlink`, the removal of a link before `File::create`, an
error for other file types), over a file system with symbolic links and a kernel-faithful path walk.
Spec: `Spec/Extract.lean`.

Both halves of the property are proved at full strength, for package views, destinations and file
systems of any size:

* `extract_hostile`   : for EVERY package view (any entries in any order: `..` components, absolute and
                        empty names, duplicates, links followed by entries at or below them, special
                        file types, errors in the middle, any link targets) extraction into a clean
                        destination never panics, ends `ok` or `err`, and creates, modifies or removes
                        nothing that is not the destination or below it; every path in the log is below it.
                        `extract_hostile_wf` states no panic, containment and the log clause for any tree-shaped
                        file system and any destination whose components are ordinary names and whose proper
                        ancestors are directories (it may exist or not).
* `extract_benign`    : a benign (built) package extracted into a vacant destination ends `ok`, is
                        contained, and every directory / file / link entry is at destination+path with
                        exactly its permission bits, content and link target (= `extract_faithful`).
* `extract_total`     : no run panics.
* `extract_log_sound` : every change of any run is in the model's log.

The three former counterexamples of the hostile clause (a `..` component, a link followed by an entry
at or below it, a FIFO entry — also in corpus/C12 and replayed against the real code on every run) are
kept as regression theorems `regress_*`: on the repaired model each yields `err` and an untouched decoy.

The package views (`Fs.Input`) the theorems above quantify over are tied to packages right after them (`input_*`, the
compressor tables) and, for built packages, at the end of the file (`build_*`):
`PkgFiles.extractInput` — what the driver feeds `Fs.extract` with — is `Acc.getFileEntries` (C04 / C05 / C06),
`Acc.getPayloadCompressorVariant` and `Cpio.iterate` (C07) composed as `Package::extract` / `Package::files` compose them
(`input_*`); for the package `PackageBuilder::build` returns it is the builder's own directory set and files
(`build_input`); so both clauses hold of packages (`extract_package_hostile`, `extract_package_benign`).

What the hypotheses about the caller's side mean (`TargetClean`): the destination's components are
ordinary names, its proper ancestors are directories (so "below the destination" is meant physically),
and nothing lies strictly below it — which holds automatically when the destination is vacant in a
tree-shaped file system (`extract_hostile_wf`), and if it is not vacant `create_dir` fails first.
-/
namespace RpmVerif.C12
open RpmVerif.Fs RpmVerif.Extract RpmVerif.Hdr RpmVerif.PkgFiles RpmVerif.Gen

/-- what is assumed of the destination `T` before the call -/
structure TargetClean (fs : Fs) (T : Path) : Prop where
  normal : ∀ c ∈ T, Normal c
  parents : ∀ k, 0 < k → k < T.length → ∃ m, fs.get (T.take k) = some (.dir m)
  below : ∀ q, T <+: q → q ≠ T → fs.get q = none

theorem mkdir_target {fs fs0 : Fs} {T : Path} (hc : TargetClean fs T) (h : mkdir fs T = .ok fs0) :
    Good T fs fs0 ∧ NoLinksUnder T fs0 := by
  obtain ⟨q, hq, hv, _, rfl⟩ := mkdir_ok h
  rw [resolve_parents fs false T hc.normal hc.parents (by simp)] at hq
  injection hq with hq
  subst hq
  refine ⟨⟨⟨dirs_set_self hc.parents _, fun q n hq hT hne => ?_⟩, [T], Ext.set _ _ _, by simp⟩, fun q hT t ht => ?_⟩
  · rw [get_set, if_neg hne, hc.below q hT hne] at hq; cases hq
  · rw [get_set] at ht
    by_cases he : q = T
    · simp [he] at ht
    · rw [if_neg he, hc.below q hT he] at ht; cases ht

/-- **The hostile-package clause at full strength.** For every package view whatsoever, extraction into
a clean destination ends with `ok` or `err` — never a panic — and nothing that is not the destination
or below it is created, modified or removed; every path the run logs is the destination or below it. -/
theorem extract_hostile (inp : Input) (T : Path) (fs : Fs) (hc : TargetClean fs T) :
    (extract inp T fs).out.isPanic = false ∧
    ((extract inp T fs).out.isOk = true ∨ (extract inp T fs).out.isErr = true) ∧
    Contained T fs (extract inp T fs).fs ∧
    ∃ L, (extract inp T fs).fs.log = L ++ fs.log ∧ ∀ q ∈ L, T <+: q := by
  have hnp := (extract_sound inp T fs).1
  refine ⟨hnp, ?_, ?_⟩
  · cases ho : (extract inp T fs).out with
    | ok u => exact Or.inl rfl
    | err e => exact Or.inr rfl
    | panic s => rw [ho] at hnp; simp [Out.isPanic] at hnp
  by_cases hne : T = []
  · subst hne
    obtain ⟨L, hext⟩ := (extract_sound inp [] fs).2
    exact ⟨fun q hq => absurd (List.nil_prefix) hq, L, hext.1, fun q _ => List.nil_prefix⟩
  cases hm : mkdir fs T with
  | error e =>
    rw [extract_mkdir_error hm]
    exact ⟨fun _ _ => rfl, [], rfl, by simp⟩
  | ok fs0 =>
    obtain ⟨g0, nl0⟩ := mkdir_target hc hm
    obtain ⟨_, L, hext, hu⟩ := g0.trans (extract_good hc.normal hne hm g0.1 nl0)
    exact ⟨fun q hq => hext.2 q (fun hm => hq (hu q hm)), L, hext.1, hu⟩

def WellFormed (fs : Fs) : Prop := ∀ q n, fs.get q = some n → q ≠ [] → ∃ m, fs.get q.dropLast = some (.dir m)

theorem wf_below {fs : Fs} (hw : WellFormed fs) {T : Path} (hv : fs.get T = none) (s : List Name) :
    fs.get (T ++ s) = none := by
  induction s using snocInduction with
  | nil => rwa [List.append_nil]
  | snoc s' x ih =>
    cases hg : fs.get (T ++ (s' ++ [x])) with
    | none => rfl
    | some nd =>
      obtain ⟨m, hm⟩ := hw _ nd hg (by simp)
      rw [← List.append_assoc, List.dropLast_concat, ih] at hm
      cases hm

/-- **The hostile-package clause for any tree-shaped file system** — nothing is assumed about the
destination except that its ancestors are directories (if it exists already, `create_dir` fails and
nothing happens; if it is vacant, nothing can be below it). -/
theorem extract_hostile_wf (inp : Input) (T : Path) (fs : Fs) (hw : WellFormed fs)
    (hn : ∀ c ∈ T, Normal c) (hp : ∀ k, 0 < k → k < T.length → ∃ m, fs.get (T.take k) = some (.dir m)) :
    (extract inp T fs).out.isPanic = false ∧ Contained T fs (extract inp T fs).fs ∧
    ∃ L, (extract inp T fs).fs.log = L ++ fs.log ∧ ∀ q ∈ L, T <+: q := by
  cases hv : fs.get T with
  | none =>
    have hc : TargetClean fs T := ⟨hn, hp, fun q hq _ => by
      obtain ⟨s, rfl⟩ := hq
      exact wf_below hw hv s⟩
    obtain ⟨h1, _, h2, h3⟩ := extract_hostile inp T fs hc
    exact ⟨h1, h2, h3⟩
  | some nd =>
    rw [extract_mkdir_error (mkdir_exists (resolve_parents fs false T hn hp (by simp)) hv)]
    exact ⟨rfl, fun _ _ => rfl, [], rfl, by simp⟩

/-- **No run panics** (all inputs, all destinations, all file systems). -/
theorem extract_total (inp : Input) (T : List Name) (fs : Fs) : (extract inp T fs).out.isPanic = false :=
  (extract_sound inp T fs).1

/-- **The log is sound, for every package and every file system**: the paths a run appends to the log
account for every difference between the file system before and after. -/
theorem extract_log_sound (inp : Input) (T : List Name) (fs : Fs) :
    ∃ L, (extract inp T fs).fs.log = L ++ fs.log ∧ ∀ q, q ∉ L → (extract inp T fs).fs.get q = fs.get q :=
  (extract_sound inp T fs).2

theorem targetReady_clean {fs : Fs} {T : Path} (h : TargetReady fs T) : TargetClean fs T :=
  ⟨h.normal, h.parents, fun q hq _ => h.vacant q hq⟩

/-- **Faithful extraction of benign packages**: for every benign package view — any number of directory
names and entries, any contents, all 12 permission bits, any link targets — extracted into a vacant
destination whose ancestors are directories, the run ends with `ok`, nothing outside the destination
changes, and every directory, regular file and link entry is at destination+path with exactly its
permission bits, content and link target. (`benign` includes `shortNames`: no component longer than `NAME_MAX` = 255
bytes - with a longer one `create_dir_all` / `File::create` / `symlink` fail with `ENAMETOOLONG`, see
`long_name_witness`; `TargetReady` asks the same of the destination.) -/
theorem extract_benign (inp : Input) (T : Path) (fs : Fs) (hb : benign inp = true) (hr : TargetReady fs T) :
    (extract inp T fs).out = .ok () ∧ Contained T fs (extract inp T fs).fs ∧ Faithful T inp (extract inp T fs).fs := by
  obtain ⟨ds, hds, htail, hdn, hds', hbi, hnodup⟩ := benign_spec hb
  obtain ⟨hmk, k0⟩ := mkdir_ready hr
  obtain ⟨fs1, h1, k1⟩ := dirs_ok hr.normal hr.nonroot ds [] _ k0 hdn hds'
  obtain ⟨fs2, dl, h2, k2⟩ := items_ok hr.normal hr.nonroot hr.short hbi hnodup inp.items [] _ fs1 rfl k1
    ⟨fun d hd => by simpa using hd, fun d hd => Or.inl (by simpa using hd)⟩
  have hres : extract inp T fs = ⟨.ok (), fs2⟩ := by
    unfold extract
    rw [hmk]
    simp only [andThen_ok, hds, h1, h2, htail, if_true]
    rfl
  refine ⟨by rw [hres], (extract_hostile inp T fs (targetReady_clean hr)).2.2.1, ?_⟩
  rw [hres]
  exact fun it hit => k2.faithful it (List.mem_reverse.mpr hit)

/-- `extract_benign` again, under the name the design uses (same statement) -/
theorem extract_faithful (inp : Input) (T : Path) (fs : Fs) (hb : benign inp = true) (hr : TargetReady fs T) :
    (extract inp T fs).out = .ok () ∧ Contained T fs (extract inp T fs).fs ∧ Faithful T inp (extract inp T fs).fs :=
  extract_benign inp T fs hb hr

/-- the DIRNAMES column as `extract` reads it -/
def dirnamesOf (p : Package) : Option (List Bytes) := (getStringArray p.md.header IndexTag.RPMTAG_DIRNAMES).toOption
/-- header paths / sizes: the two columns of `file_entries` the cpio reader consults -/
def pathsOf (es : List Acc.FileEntry) : List Bytes := es.map (·.path)
def sizesOf (es : List Acc.FileEntry) : List Nat := es.map (·.size)

theorem input_files_failed (p : Package) (a? : Option Bytes)
    (h : (Acc.getFileEntries p.md.signature p.md.header).isOk = false ∨
         (Acc.getPayloadCompressorVariant p.md.header).isOk = false) :
    extractInput p a? = some ⟨dirnamesOf p, [], false⟩ := by
  unfold extractInput dirnamesOf
  cases he : Acc.getFileEntries p.md.signature p.md.header with
  | ok es =>
    cases hv : Acc.getPayloadCompressorVariant p.md.header with
    | ok v => rw [he, hv] at h; simp [Out.isOk] at h
    | err c => rfl
    | panic s => rfl
  | err c => rfl
  | panic s => rfl

theorem input_of_files (p : Package) (a? : Option Bytes) (es : List Acc.FileEntry) (v : Nat) (a : Bytes)
    (he : Acc.getFileEntries p.md.signature p.md.header = .ok es)
    (hv : Acc.getPayloadCompressorVariant p.md.header = .ok v)
    (ha : (if payloadIsArchive v then some p.content else a?) = some a)
    (supported : Nat → Bool := fun _ => true) (hs : supported v = true := by rfl) :
    extractInput p a? supported = some ⟨dirnamesOf p, (collect es (Cpio.iterate a (pathsOf es) (sizesOf es))).1,
                                           (collect es (Cpio.iterate a (pathsOf es) (sizesOf es))).2⟩ := by
  unfold extractInput dirnamesOf
  simp only [he, hv, ha, hs, itemsOf, pathsOf, sizesOf, Bool.not_true, Bool.false_eq_true, if_false]

/-- the codec the header names is not compiled into the library (`decompress_stream`'s `_ => Err(UnsupportedCompressorType)`):
`files()` fails, `extract` sees no item and an error after the directory names — whatever the payload is -/
theorem input_unsupported (p : Package) (a? : Option Bytes) (es : List Acc.FileEntry) (v : Nat)
    (he : Acc.getFileEntries p.md.signature p.md.header = .ok es)
    (hv : Acc.getPayloadCompressorVariant p.md.header = .ok v)
    (supported : Nat → Bool) (hs : supported v = false) :
    extractInput p a? supported = some ⟨dirnamesOf p, [], false⟩ := by
  unfold extractInput dirnamesOf
  simp only [he, hv, hs, Bool.not_false, if_true]

theorem input_items_are_iteration (es : List Acc.FileEntry) (a : Bytes) :
    (itemsOf es a).1.map some = (okPrefix (Cpio.iterate a (pathsOf es) (sizesOf es))).map (fun x => itemOf es x.1 x.2)
    ∧ ((itemsOf es a).2 = true ↔ ∀ x ∈ Cpio.iterate a (pathsOf es) (sizesOf es), x.isOk = true) :=
  ⟨collect_items es _ (itemsOf_in_range es a), collect_tail es _ (itemsOf_in_range es a)⟩


/-- `self.file_entries[index]` in `FileIterator::next` is always in range -/
theorem input_index_in_range (es : List Acc.FileEntry) (a : Bytes) (i : Nat) (c : Bytes)
    (h : .ok (i, c) ∈ Cpio.iterate a (pathsOf es) (sizesOf es)) : i < es.length ∧ ∃ it, itemOf es i c = some it := by
  have hi := itemsOf_in_range es a i c h
  exact ⟨hi, itemOfEntry es[i] c, by simp only [itemOf, List.getElem?_eq_getElem hi, Option.map_some]⟩

/-- **pairing carried over to `extract`**: every item `extract` sees is the content `c` of an archive entry under the
metadata of header file `i`, where `i` is what `Reader::file_index` answers for that very entry — the FIRST header file
whose path is the one the entry's name stands for (`"." + path`, or the plain path), or the index a stripped entry
carries — so the file is written at the path its own archive entry designates (`Cpio.entryPath`), with a content of
exactly the size the reader took for the entry.  (C07 `pairing_by_name` / `pairing_first_match` say the same of the
iteration; nothing is assumed about the archive or the header.) -/
theorem input_item_designated (es : List Acc.FileEntry) (a : Bytes) (it : Item) (hit : it ∈ (itemsOf es a).1) :
    ∃ i e entry c, .ok (i, entry, c) ∈ Cpio.iterateE (pathsOf es) (sizesOf es) es.length a ∧ es[i]? = some e ∧
      it = ⟨e.path, kindOf e.mode, FileMode.permissions (FileMode.fromU16 e.mode), c, e.linkto⟩ ∧
      Cpio.fileIndex (pathsOf es) entry = some i ∧ Cpio.entryPath (pathsOf es) entry = some it.path ∧
      Cpio.entrySize (sizesOf es) entry = some c.length := by
  have hm : some it ∈ (itemsOf es a).1.map some := List.mem_map_of_mem hit
  rw [(input_items_are_iteration es a).1] at hm
  obtain ⟨⟨i, c⟩, hx, hf⟩ := List.mem_map.mp hm
  have hok := okPrefix_mem hx
  obtain ⟨entry, hentry⟩ := iterate_ok_mem hok
  have hlen : (sizesOf es).length = es.length := by simp [sizesOf]
  rw [hlen] at hentry
  obtain ⟨hfi, hs⟩ := Cpio.iterateE_item (pathsOf es) (sizesOf es) es.length a i entry c hentry
  have hi := itemsOf_in_range es a i c hok
  have hei := List.getElem?_eq_getElem hi
  simp only [itemOf, hei, Option.map_some, Option.some.injEq] at hf
  subst hf
  refine ⟨i, es[i], entry, c, hentry, hei, rfl, hfi, ?_, hs⟩
  have hp : (pathsOf es)[i]? = some es[i].path := by simp [pathsOf, hei]
  -- the designated path is the header path at the entry's index: found by name, or carried
  cases entry with
  | cpio ce => exact (Cpio.fileIndex_cpio hfi).symm.trans hp
  | stripped idx => exact Cpio.fileIndex_stripped hfi ▸ hp

/-- **file digests gate the input, by the source's own table**: a package yields any item (or a clean end of the
iteration) only if `get_file_entries` succeeded, and then every recorded (non-empty) file digest has a hex length the
table `Gen.fileDigestHexLen` pairs with its algorithm — the table `tools/gen/file_digest_len.py` regenerates from
`FileDigest::new` on every run (SHA-224: 56 since fix e7bf001), the same one C05 works with; that its lengths are the real
digest sizes is C05 `file_digest_lengths_standard` -/
theorem input_digests_standard (p : Package) (a? : Option Bytes) (inp : Input) (h : extractInput p a? = some inp)
    (hne : inp.items ≠ [] ∨ inp.tailOk = true) :
    ∃ es, Acc.getFileEntries p.md.signature p.md.header = .ok es ∧
      ∀ e ∈ es, ∀ d, e.digest = some d → (d.1, d.2.length) ∈ fileDigestHexLen := by
  cases he : Acc.getFileEntries p.md.signature p.md.header with
  | ok es => exact ⟨es, rfl, fun e hm d hd => getFileEntries_digests _ _ _ es he e hm d hd⟩
  | err c =>
    rw [input_files_failed p a? (.inl (by rw [he]; rfl))] at h
    cases h; simp at hne
  | panic s =>
    rw [input_files_failed p a? (.inl (by rw [he]; rfl))] at h
    cases h; simp at hne

/-- the two scraped compression tables fit together (re-decided on the tables of the current source) -/
theorem compressor_tables_agree : TablesAgree := by unfold TablesAgree; decide

/-- as the code is now, a package WITHOUT RPMTAG_PAYLOADCOMPRESSOR has an uncompressed payload: the variant
`get_payload_compressor` answers then is one `decompress_stream` passes through (both scraped).  The hand-encoded hostile
packages of the correspondence run rely on it (no tag, plain cpio payload): were it to change, the model could not
predict them any more (`extractInput … = none`), and this theorem says so instead of the run going quiet -/
theorem default_compressor_is_identity : payloadIsArchive payloadCompressorDefault = true := by decide

/-- … and their texts are ASCII, so comparing code points is comparing the bytes of the header string -/
theorem compressor_names_ascii :
    (∀ p ∈ compressionFromStr, ∀ c ∈ p.1, c < 128) ∧ (∀ p ∈ compressionDisplay, ∀ c ∈ p.2, c < 128) := by decide

/-- **compressor bridge**: the `CompressionType` variant `extractInput` branches on, printed, is the compressor name
`Acc.getPayloadCompressor` answers over the same scraped table — the accessor the C05 run compares with the real
`get_payload_compressor` on every header — and one fails exactly when the other does -/
theorem payload_compressor_bridge (h : Header) :
    (Acc.getPayloadCompressorVariant h).toOption.map (fun v => Acc.textBytes (Compression.toStr v))
      = (Acc.getPayloadCompressor Acc.compressorNames h).toOption :=
  compressor_bridge compressor_tables_agree h

/-- `extract_hostile` for the view of a package: since it holds of every `Input`, it holds of whatever
`extractInput p a?` yields for any package `p` and any decompressed archive (the hypothesis `_hi` only names that view; the
proof does not use it) -/
theorem extract_package_hostile (p : Package) (a? : Option Bytes) (inp : Input)
    (_hi : extractInput p a? = some inp) (T : Path) (fs : Fs) (hc : TargetClean fs T) :
    (extract inp T fs).out.isPanic = false ∧
    ((extract inp T fs).out.isOk = true ∨ (extract inp T fs).out.isErr = true) ∧
    Contained T fs (extract inp T fs).fs ∧
    ∃ L, (extract inp T fs).fs.log = L ++ fs.log ∧ ∀ q ∈ L, T <+: q :=
  extract_hostile inp T fs hc

/-- … and reading the package does not panic either: not `get_payload_compressor`, not the indexing
`self.file_entries[index]` of the iterator, not `extract` on whatever they yield (`get_file_entries` and the cpio reader
are total by C04 `getFileEntries_total` / `iterate_total`; a panic there would be `tailOk = false` here) -/
theorem extract_package_total (p : Package) (es : List Acc.FileEntry) (a : Bytes) :
    (Acc.getPayloadCompressorVariant p.md.header).isPanic = false ∧
    (∀ i c, .ok (i, c) ∈ Cpio.iterate a (pathsOf es) (sizesOf es) → i < es.length) ∧
    ∀ inp T fs, (extract inp T fs).out.isPanic = false := by
  refine ⟨?_, itemsOf_in_range es a, fun inp T fs => (extract_sound inp T fs).1⟩
  unfold Acc.getPayloadCompressorVariant
  split
  · unfold Compression.fromStr; split <;> rfl
  · rfl
  · rfl
  · rename_i s hs
    have := getWith_not_panic IndexData.asStr p.md.header IndexTag.RPMTAG_PAYLOADCOMPRESSOR
    rw [show getString = getWith IndexData.asStr from rfl] at hs
    rw [hs] at this; cases this

/-! ### regression: the former counterexamples (names are written as bytes: string literals do not evaluate in the kernel) -/

/-- `decoy` -/ def nDecoy : Name := [100, 101, 99, 111, 121]
/-- `file` -/ def nFile : Name := [102, 105, 108, 101]
/-- `dir` -/ def nDir : Name := [100, 105, 114]
/-- `target` -/ def nTarget : Name := [116, 97, 114, 103, 101, 116]
/-- `link` -/ def nLink : Name := [108, 105, 110, 107]

/-- a jail: `/`, `/decoy/`, `/decoy/file` (content `decoy`, 0644), `/decoy/dir/` (0750), a decoy link
`/decoy/link` → `file`; `/target` is vacant -/
def jail : Fs :=
  ⟨[([], .dir 0o755), ([nDecoy], .dir 0o755), ([nDecoy, nFile], .file nDecoy 0o644), ([nDecoy, nDir], .dir 0o750),
    ([nDecoy, nLink], .symlink nFile)], [], 0o022⟩

theorem jail_vacant : ∀ q, [nTarget] <+: q → jail.get q = none := by
  intro q hq
  cases hg : jail.get q with
  | none => rfl
  | some n =>
    exfalso
    have hm := lookup_mem hg
    have hall : ∀ e ∈ jail.nodes, ¬ [nTarget] <+: e.1 := by decide
    exact hall _ hm hq

theorem jail_clean : TargetClean jail [nTarget] :=
  ⟨by decide, fun k hk hk2 => by simp at hk2; omega, fun q hq _ => jail_vacant q hq⟩

theorem jail_ready : TargetReady jail [nTarget] :=
  ⟨by decide, by decide, by decide, fun k hk hk2 => by simp at hk2; omega, jail_vacant⟩

/-- DIRNAMES `["/"]`, one regular file `/../decoy/file` (content `pwned`, mode 0600) -/
def wDotDot : Input :=
  ⟨some [[47]], [⟨[47, 46, 46, 47] ++ nDecoy ++ [47] ++ nFile, .regular, 0o600, [112, 119, 110, 101, 100], []⟩], true⟩

/-- DIRNAMES `["/"]`, a link `/link` → `/decoy`, then a regular file `/link/file` -/
def wLink : Input :=
  ⟨some [[47]], [⟨[47] ++ nLink, .symlink, 0o777, [], [47] ++ nDecoy⟩,
                 ⟨[47] ++ nLink ++ [47] ++ nFile, .regular, 0o600, [112, 119, 110, 101, 100], []⟩], true⟩

/-- DIRNAMES `["/"]`, a link `/link` → `/decoy/dir`, then a DIRECTORY entry `/link` with mode 0777 -/
def wLinkChmod : Input :=
  ⟨some [[47]], [⟨[47] ++ nLink, .symlink, 0o777, [], [47] ++ nDecoy ++ [47] ++ nDir⟩,
                 ⟨[47] ++ nLink, .dir, 0o777, [], []⟩], true⟩

/-- DIRNAMES `["/"]`, a link `/link` → `/decoy/file`, then a REGULAR file at the same path -/
def wLinkSame : Input :=
  ⟨some [[47]], [⟨[47] ++ nLink, .symlink, 0o777, [], [47] ++ nDecoy ++ [47] ++ nFile⟩,
                 ⟨[47] ++ nLink, .regular, 0o600, [112, 119, 110, 101, 100], []⟩], true⟩

/-- DIRNAMES `["/"]`, one FIFO entry `/file` -/
def wFifo : Input := ⟨some [[47]], [⟨[47] ++ nFile, .other, 0o644, [], []⟩], true⟩

/-- everything either file system mentions outside `T` is the same in both (the decidable shadow of `Contained`) -/
def sameOutside (T : Path) (fs fs' : Fs) : Bool :=
  ((fs.nodes ++ fs'.nodes).map (·.1)).all (fun q => T.isPrefixOf q || fs'.get q == fs.get q)

/-- `..` component: now an error before anything is written -/
theorem regress_dotdot :
    (extract wDotDot [nTarget] jail).out.isErr = true ∧ sameOutside [nTarget] jail (extract wDotDot [nTarget] jail).fs = true ∧
      (extract wDotDot [nTarget] jail).fs.get [nDecoy, nFile] = jail.get [nDecoy, nFile] := by decide +kernel

/-- link followed by a file below it: now refused, the link itself is in the destination, the decoy untouched -/
theorem regress_symlink :
    (extract wLink [nTarget] jail).out.isErr = true ∧ sameOutside [nTarget] jail (extract wLink [nTarget] jail).fs = true ∧
      (extract wLink [nTarget] jail).fs.get [nDecoy, nFile] = jail.get [nDecoy, nFile] ∧
      (extract wLink [nTarget] jail).fs.get [nTarget, nLink] = some (.symlink ([47] ++ nDecoy)) := by decide +kernel

/-- link followed by a directory entry at the same path: now refused, the decoy directory keeps its mode -/
theorem regress_symlink_chmod :
    (extract wLinkChmod [nTarget] jail).out.isErr = true ∧ sameOutside [nTarget] jail (extract wLinkChmod [nTarget] jail).fs = true ∧
      (extract wLinkChmod [nTarget] jail).fs.get [nDecoy, nDir] = some (.dir 0o750) := by decide +kernel

/-- link followed by a regular file at the same path: the link is replaced, the file is inside the destination -/
theorem regress_symlink_same :
    (extract wLinkSame [nTarget] jail).out.isOk = true ∧ sameOutside [nTarget] jail (extract wLinkSame [nTarget] jail).fs = true ∧
      (extract wLinkSame [nTarget] jail).fs.get [nTarget, nLink] = some (.file [112, 119, 110, 101, 100] 0o600) := by decide +kernel

/-- a FIFO entry: now an error, not a panic -/
theorem regress_special_type :
    (extract wFifo [nTarget] jail).out.isErr = true ∧ (extract wFifo [nTarget] jail).out.isPanic = false ∧
      sameOutside [nTarget] jail (extract wFifo [nTarget] jail).fs = true := by decide +kernel

/-! ### non-vacuity: the hypotheses are satisfiable by concrete, non-trivial values -/

/-- `a`, `b`, `f`, `l` -/
def nA : Name := [97]
def nB : Name := [98]
def nF : Name := [102]
def nL : Name := [108]

/-- DIRNAMES `["/", "/a/", "/a/b/"]`; a directory entry `/a/b` (mode 2750), a regular file `/a/b/f`
(content `decoy`, mode 4755), a link `/a/l` → `/decoy/file` (a link pointing outside is fine), a regular file `/f` (mode 0) -/
def wBenign : Input :=
  ⟨some [[47], [47] ++ nA ++ [47], [47] ++ nA ++ [47] ++ nB ++ [47]],
   [⟨[47] ++ nA ++ [47] ++ nB, .dir, 0o2750, [], []⟩,
    ⟨[47] ++ nA ++ [47] ++ nB ++ [47] ++ nF, .regular, 0o4755, nDecoy, []⟩,
    ⟨[47] ++ nA ++ [47] ++ nL, .symlink, 0o777, [], [47] ++ nDecoy ++ [47] ++ nFile⟩,
    ⟨[47] ++ nF, .regular, 0, [1, 2, 3], []⟩], true⟩

example : benign wBenign = true := by decide +kernel
example : (extract wBenign [nTarget] jail).out = .ok () ∧
    (extract wBenign [nTarget] jail).fs.get [nTarget, nA, nB, nF] = some (.file nDecoy 0o4755) ∧
    (extract wBenign [nTarget] jail).fs.get [nTarget, nA, nB] = some (.dir 0o2750) ∧
    (extract wBenign [nTarget] jail).fs.get [nTarget, nA, nL] = some (.symlink ([47] ++ nDecoy ++ [47] ++ nFile)) ∧
    (extract wBenign [nTarget] jail).fs.get [nDecoy, nFile] = jail.get [nDecoy, nFile] := by decide +kernel
example : Faithful [nTarget] wBenign (extract wBenign [nTarget] jail).fs :=
  (extract_benign wBenign [nTarget] jail (by decide +kernel) jail_ready).2.2

/-- a package of everything hostile at once: `..` only at the end so that the earlier entries run —
an absolute base name, a duplicate path, a link, an entry below the link, a FIFO, a `..` path -/
def wOdd : Input :=
  ⟨some [[47], [47] ++ nDecoy ++ [47], []],
   [⟨[47] ++ nDecoy ++ [47] ++ nFile, .regular, 0o644, [1], []⟩,
    ⟨[47] ++ nDecoy ++ [47] ++ nFile, .regular, 0o600, [2], []⟩,
    ⟨[47] ++ nL, .symlink, 0o777, [], [47] ++ nDecoy⟩,
    ⟨[47] ++ nL, .symlink, 0o777, [], [46, 46]⟩,
    ⟨[47] ++ nL ++ [47] ++ nFile, .regular, 0o600, [3], []⟩,
    ⟨nF, .other, 0o644, [], []⟩,
    ⟨[47, 46, 46, 47] ++ nDecoy, .dir, 0, [], []⟩], false⟩

example : Contained [nTarget] jail (extract wOdd [nTarget] jail).fs :=
  (extract_hostile wOdd [nTarget] jail jail_clean).2.2.1
example : (extract wOdd [nTarget] jail).out.isErr = true ∧
    (extract wOdd [nTarget] jail).fs.get [nTarget, nDecoy, nFile] = some (.file [2] 0o600) ∧
    sameOutside [nTarget] jail (extract wOdd [nTarget] jail).fs = true := by decide +kernel
/-- the jail is tree-shaped: `extract_hostile_wf` applies to it with any destination under `/` -/
example : WellFormed jail := by
  intro q n hg hne
  have hm := lookup_mem hg
  have hall : ∀ e ∈ jail.nodes, e.1 ≠ [] → (jail.get e.1.dropLast).map Node.isDir = some true := by decide
  have := hall _ hm hne
  cases hp : jail.get q.dropLast with
  | none => rw [hp] at this; cases this
  | some nd =>
    cases nd with
    | dir m => exact ⟨m, rfl⟩
    | file => rw [hp] at this; simp [Node.isDir] at this
    | symlink => rw [hp] at this; simp [Node.isDir] at this

/-! ### a concrete package (header entries written out; the payload is a newc archive made by the cpio writer model) -/

def wEntry (tag : Nat) (d : IndexData) : Entry := ⟨tag, d, 0, 0⟩

/-- main header of a package with one regular file `/f` (mode 0644, 2 bytes), the given RPMTAG_FILEDIGESTALGO (or none),
file digest and RPMTAG_PAYLOADCOMPRESSOR (or none) -/
def wHdr (algo : Option Nat) (digest : Bytes) (comp : Option Bytes) : Header := ⟨0, 0, [
  wEntry IndexTag.RPMTAG_FILESIZES (.int32 [2]), wEntry IndexTag.RPMTAG_FILEMODES (.int16 [0o100644]),
  wEntry IndexTag.RPMTAG_FILEMTIMES (.int32 [0]), wEntry IndexTag.RPMTAG_FILEDIGESTS (.strArray [digest]),
  wEntry IndexTag.RPMTAG_FILELINKTOS (.strArray [[]]), wEntry IndexTag.RPMTAG_FILEFLAGS (.int32 [0]),
  wEntry IndexTag.RPMTAG_FILEUSERNAME (.strArray [[114]]), wEntry IndexTag.RPMTAG_FILEGROUPNAME (.strArray [[114]]),
  wEntry IndexTag.RPMTAG_DIRINDEXES (.int32 [0]), wEntry IndexTag.RPMTAG_BASENAMES (.strArray [nF]),
  wEntry IndexTag.RPMTAG_DIRNAMES (.strArray [[47]])]
  ++ (match algo with | some a => [wEntry IndexTag.RPMTAG_FILEDIGESTALGO (.int32 [a])] | none => [])
  ++ (match comp with | some c => [wEntry IndexTag.RPMTAG_PAYLOADCOMPRESSOR (.str c)] | none => []), []⟩

/-- `./f` with content `hi`, then the trailer -/
def wArchive : Bytes := Cpio.archiveOf [({ name := [46, 47] ++ nF, ino := 1, mode := 0o100644 }, [104, 105])]

def wPkg (algo : Option Nat) (digest : Bytes) (comp : Option Bytes := none) : Package :=
  ⟨⟨⟨3, 0, 0, 0, [], 1, 5, []⟩, ⟨0, 0, [], []⟩, wHdr algo digest comp⟩, wArchive⟩

/-- the view of that package when it is read: DIRNAMES `["/"]`, the file `/f` -/
def wViewOk : Input := ⟨some [[47]], [⟨[47] ++ nF, .regular, 0o644, [104, 105], []⟩], true⟩
/-- … and when `files()` fails -/
def wViewErr : Input := ⟨some [[47]], [], false⟩

/-- **the digest lengths `extractInput` accepts are those of the source's table** (decided anew on the table scraped
from `FileDigest::new` on every run): for every (algorithm, length) pair of it, the one-file package whose digest has
that length is read and its file handed to `extract`; with four more characters — for SHA-224 that is the pre-fix
length 60 — `files()` fails -/
theorem digest_table_decides : ∀ p ∈ fileDigestHexLen,
    extractInput (wPkg (some p.1) (List.replicate p.2 97)) none = some wViewOk ∧
    extractInput (wPkg (some p.1) (List.replicate (p.2 + 4) 97)) none = some wViewErr := by decide +kernel

/-- a number that is no `DigestAlgorithm` (2 = SHA-1, 0, 99) or the missing tag mean MD5; an algorithm without an arm
in `FileDigest::new` (12, 14 = SHA-3) accepts no digest at all but the empty one -/
theorem digest_algo_fallbacks :
    (∀ a ∈ [none, some 0, some 2, some 99], ∀ n ∈ [32, 40, 56, 64],
      extractInput (wPkg a (List.replicate n 97)) none = some (if (1, n) ∈ fileDigestHexLen then wViewOk else wViewErr)) ∧
    (∀ a ∈ [12, 14], ∀ n ∈ [32, 56, 64, 128],
      extractInput (wPkg (some a) (List.replicate n 97)) none
        = some (if (a, n) ∈ fileDigestHexLen then wViewOk else wViewErr) ∧
      extractInput (wPkg (some a) []) none = some wViewOk) := by decide +kernel

/-- the table knows SHA-224 (algorithm 11), so `digest_table_decides` speaks about it -/
example : fileDigestHexLen ≠ [] ∧ (fileDigestHexLen.map (·.1)).contains 11 = true := by decide
/-- the length the table pairs with SHA-224 -/
def wLen224 : Nat := (fileDigestHexLen.lookup 11).getD 0
example : extractInput (wPkg (some 11) (List.replicate wLen224 97)) none = some wViewOk := by decide +kernel
/-- `input_digests_standard` applies to it (items ≠ []) -/
example : ∃ es, Acc.getFileEntries (wPkg (some 11) (List.replicate wLen224 97)).md.signature
      (wPkg (some 11) (List.replicate wLen224 97)).md.header = .ok es ∧
    ∀ e ∈ es, ∀ d, e.digest = some d → (d.1, d.2.length) ∈ fileDigestHexLen :=
  input_digests_standard _ none wViewOk (by decide +kernel) (.inr rfl)
/-- … and the entry list does carry a SHA-224 digest -/
example : Acc.getFileEntries (wPkg (some 11) (List.replicate wLen224 97)).md.signature
      (wPkg (some 11) (List.replicate wLen224 97)).md.header
      = .ok [⟨[47] ++ nF, 0o100644, [114], [114], 0, 2, 0, some (11, List.replicate wLen224 97), none, [], none⟩] := by
  decide +kernel
/-- `input_of_files`: entries, variant and archive of the concrete package -/
example : (Acc.getFileEntries (wPkg none []).md.signature (wPkg none []).md.header).map List.length = .ok 1 ∧
    Acc.getPayloadCompressorVariant (wPkg none []).md.header = .ok payloadCompressorDefault ∧
    (if payloadIsArchive payloadCompressorDefault then some (wPkg none []).content else none) = some wArchive := by
  decide +kernel
/-- `input_files_failed`: an unknown compressor name (`lz4`), a compressor of the wrong type is an error as well -/
example : (Acc.getPayloadCompressorVariant (wPkg none [] (some [108, 122, 52])).md.header).isOk = false ∧
    extractInput (wPkg none [] (some [108, 122, 52])) none = some wViewErr := by decide +kernel
/-- a compressed payload: the archive comes from the decompressor (parameter); without it there is no prediction -/
example : extractInput (wPkg none [] (some [120, 122])) (some wArchive) = some wViewOk ∧
    extractInput (wPkg none [] (some [120, 122])) none = none := by decide +kernel
/-- `payload_compressor_bridge` on `xz`: variant 3 on one side, the name `xz` on the other -/
example : (Acc.getPayloadCompressor Acc.compressorNames (wHdr none [] (some [120, 122]))).toOption = some [120, 122] ∧
    (Acc.getPayloadCompressorVariant (wHdr none [] (some [120, 122]))).isOk = true := by decide +kernel
/-- `input_item_designated`: two header files, an item -/
def wEntries : List Acc.FileEntry :=
  [⟨[47] ++ nF, 0o100644, [114], [114], 0, 2, 0, none, none, [], none⟩, ⟨[47] ++ nA, 0o120777, [114], [114], 0, 0, 0, none, none, nF, none⟩]
example :
    (⟨[47] ++ nF, .regular, 0o644, [104, 105], []⟩ : Item) ∈ (itemsOf wEntries wArchive).1 ∧ (itemsOf wEntries wArchive).2 = true := by
  decide +kernel
/-- `input_index_in_range` / `input_items_are_iteration`: the iteration of the concrete archive has an `Ok` -/
example : Cpio.iterate wArchive (pathsOf wEntries) (sizesOf wEntries) = [.ok (0, [104, 105])] := by decide +kernel
/-- an archive entry that names no header file ends the items with an error -/
example : itemsOf [wEntries[1]] wArchive = ([], false) := by decide +kernel
/-- `extract_package_hostile` on the concrete package and the jail -/
example : Contained [nTarget] jail (extract wViewOk [nTarget] jail).fs :=
  (extract_package_hostile (wPkg none []) none wViewOk (by decide +kernel) [nTarget] jail jail_clean).2.2.1
example : (extract wViewOk [nTarget] jail).out = .ok () ∧
    (extract wViewOk [nTarget] jail).fs.get [nTarget, nF] = some (.file [104, 105] 0o644) := by decide +kernel

/-! ### damaged and truncated compressed payloads: what a streaming decoder lets `extract` see (AUDIT2 a12) -/

/-- **a damaged payload: `extract` sees an initial segment of the intact package's items.** With the decoder handing out
only the bytes `pre` of what the intact payload decodes to (`pre ++ t`), the items are a prefix of the intact ones — each
still the content of its own archive entry under the metadata of the header file that entry designates
(`input_item_designated`) — and, unless the cpio trailer lies inside `pre`, the iteration ends with an error: `extract`
then stops with `Err` after having written those items (a partial extraction, contained like every other run:
`extract_package_hostile`). -/
theorem input_items_prefix (es : List Acc.FileEntry) (pre t : Bytes) :
    (itemsOf es pre).1 <+: (itemsOf es (pre ++ t)).1 := by
  apply (List.prefix_map_iff_of_injective (f := some) (fun _ _ h => Option.some.inj h)).mp
  rw [(input_items_are_iteration es pre).1, (input_items_are_iteration es (pre ++ t)).1]
  apply List.IsPrefix.map
  have h := FileIter.okPrefix_iterateE_append (pathsOf es) (sizesOf es) (sizesOf es).length pre t
  simp only [Cpio.iterate, Cpio.iterateFrom, C07.okPrefix_map_outMap]
  exact h.map _

/-- … and when the trailer does lie inside `pre` nothing of the damage is seen: same items, clean end -/
theorem input_items_clean (es : List Acc.FileEntry) (pre t : Bytes) (h : (itemsOf es pre).2 = true) :
    itemsOf es (pre ++ t) = itemsOf es pre := by
  have hall := (input_items_are_iteration es pre).2.mp h
  have hcl : ∀ o ∈ Cpio.iterateE (pathsOf es) (sizesOf es) (sizesOf es).length pre, o.isOk = true := by
    intro o ho
    have := hall (o.map fun x => (x.1, x.2.2)) (List.mem_map.mpr ⟨o, ho, rfl⟩)
    cases o with
    | ok x => rfl
    | err c => exact this
    | panic m => exact this
  unfold itemsOf
  have e : Cpio.iterate (pre ++ t) (pathsOf es) (sizesOf es) = Cpio.iterate pre (pathsOf es) (sizesOf es) := by
    simp only [Cpio.iterate, Cpio.iterateFrom]
    rw [FileIter.iterateE_append_clean (pathsOf es) (sizesOf es) _ pre t hcl]
  exact congrArg (collect es) e

/-! ### `NAME_MAX`: names longer than 255 bytes (AUDIT2 a20) -/

/-- a creating call whose new component is longer than `NAME_MAX` is refused, wherever it resolves to -/
theorem create_long_refused {fs : Fs} {cs : List Name} {q : Path} (hv : fs.get q = none) (hl : nameTooLong q = true) :
    (resolve fs false cs = .ok q → mkdir fs cs = .error .ENAMETOOLONG) ∧
    (∀ c, resolve fs true cs = .ok q → fileCreate fs cs c = .error .ENAMETOOLONG) ∧
    (∀ t, t ≠ [] → resolve fs false cs = .ok q → symlink fs cs t = .error .ENAMETOOLONG) := by
  refine ⟨fun hr => ?_, fun c hr => ?_, fun t ht hr => ?_⟩
  · unfold mkdir; rw [hr]; simp only [hv, hl, if_true]
  · unfold fileCreate; rw [hr]; simp only [hv, hl, if_true]
  · unfold symlink
    have : t.isEmpty = false := by cases t <;> simp_all
    rw [this, hr]; simp only [hv, hl, if_true, Bool.false_eq_true, if_false]

/-- … hence no successful creating call ever makes such a name -/
theorem created_names_short {fs fs' : Fs} {cs : List Name} :
    (mkdir fs cs = .ok fs' → ∃ q n, fs' = fs.set q n ∧ nameTooLong q = false) ∧
    (∀ t, symlink fs cs t = .ok fs' → ∃ q n, fs' = fs.set q n ∧ nameTooLong q = false) := by
  constructor
  · intro h
    obtain ⟨q, _, _, hs, rfl⟩ := mkdir_ok h
    exact ⟨q, _, rfl, hs⟩
  · intro t h
    obtain ⟨q, _, _, _, hs, rfl⟩ := symlink_ok h
    exact ⟨q, _, rfl, hs⟩

def nLong : Name := List.replicate 256 78
/-- DIRNAMES `["/", "/p/q/NNN…N/"]` (256 × `N`), one regular file `/f` -/
def wLong : Input :=
  ⟨some [[47], [47, 112, 47, 113, 47] ++ nLong ++ [47]], [⟨[47, 102], .regular, 0o644, [120], []⟩], true⟩

/-- **a failing `create_dir_all` is not atomic**: for the directory name `/p/q/<256 bytes>/` the first `mkdir` answers
`ENOENT`, the ancestors `p` and `p/q` are created, the second `mkdir` answers `ENAMETOOLONG`; `extract` ends with that
error, the ancestors stay (`createDirAllLeft`), nothing outside the destination changes, and the file entry is never
reached. (The same happens on Linux: the case `NAME_MAX` of the correspondence.) -/
theorem long_name_witness :
    (extract wLong [nTarget] jail).out = .err "ENAMETOOLONG" ∧
    (extract wLong [nTarget] jail).fs.get [nTarget, [112], [113]] = some (.dir 0o755) ∧
    (extract wLong [nTarget] jail).fs.get [nTarget, [112], [113], nLong] = none ∧
    (extract wLong [nTarget] jail).fs.get [nTarget, [102]] = none ∧
    benign wLong = false ∧ shortNames wLong = false := by decide +kernel

/-- with 255 bytes the same package is benign and extracted completely -/
theorem name_max_witness :
    let w : Input := ⟨some [[47], [47, 112, 47] ++ List.replicate 255 78 ++ [47]],
      [⟨[47, 112, 47] ++ List.replicate 255 78 ++ [47, 102], .regular, 0o644, [120], []⟩], true⟩
    benign w = true ∧ (extract w [nTarget] jail).out = .ok () ∧
      (extract w [nTarget] jail).fs.get [nTarget, [112], List.replicate 255 78, [102]] = some (.file [120] 0o644) := by
  decide +kernel

/-! ### built packages: `benign (extractInput (build cfg))` and the benign clause at the package level (AUDIT2 c38) -/
section built
open RpmVerif.Bld RpmVerif.Cpio

/-- one builder file (entry + content) as the item `extract` has to write -/
def builtItem (p : FileE × Bytes) : Item :=
  ⟨Acc.pathJoin p.1.dir p.1.baseName, kindOf p.1.mode, FileMode.permissions (FileMode.fromU16 p.1.mode), p.2, p.1.link⟩

/-- what `extract` has to find in the package the builder made of `c` / `fes` -/
def builtInput (c : Cfg) (fes : List (FileE × Bytes)) : Input := ⟨some c.directories, fes.map builtItem, true⟩

theorem collect_zipIdx (x : Ctx) (es : List Acc.FileEntry) : ∀ (l : List (FileE × Bytes)) (k : Nat),
    (∀ i (hi : i < l.length), es[k + i]? = some (C06.entryOf x l[i].1)) →
    collect es ((l.zipIdx k).map fun y => (Out.ok (y.2, y.1.2) : Out (Nat × Bytes))) = (l.map builtItem, true) := by
  intro l
  induction l with
  | nil => intro k _; rfl
  | cons p r ih =>
    intro k h
    have h0 := h 0 (by simp)
    simp only [Nat.add_zero, List.getElem_cons_zero] at h0
    have hr := ih (k + 1) (fun i hi => by
      have := h (i + 1) (by simpa using hi)
      simpa [Nat.add_assoc, Nat.add_comm 1 i] using this)
    simp only [List.zipIdx_cons, List.map_cons, collect, itemOf, h0, Option.map_some, hr]
    rfl


/-- the cpio iteration over the archive the builder writes, against the header columns of the built package: one `Ok`
per builder file, in order, under its own index (C07 `files_of_build(_large)` through Pipeline `build_files_roundtrip`
with the identity codec) -/
theorem built_iteration (c : Cfg) (fes : List (FileE × Bytes)) (hfiles : c.files = fes.map (·.1)) (hd : DirsOk c)
    (hf : ∀ p ∈ fes, C09.FileOk p) (hs : ∀ p ∈ fes, Pipeline.DirShape p.1) (hnd : (fes.map (·.1.cpioPath)).Nodup)
    (hn : fes.length < 4294967295) {uid gid : Nat} (hu : uid < 4294967296) (hg : gid < 4294967296) :
    Cpio.iterate (C09.archiveFor c uid gid fes) (c.files.map fun f => Acc.pathJoin f.dir f.baseName) (c.files.map (·.size))
      = fes.zipIdx.map fun y => .ok (y.2, y.1.2) := by
  have h := Pipeline.build_files_roundtrip id c 0 fes hfiles hd hf hs hnd hn hu hg id .ok (fun _ => rfl)
  rw [Pipeline.build_file_lists id c 0 _ _ hd] at h
  simpa [Cpio.files] using h

/-- **what `extract` reads from a built package is the builder's input.** For the package `build` returns for
configuration `c` with files `fes` (entry + content, in path order; `add_data` guarantees `FileOk`, `DirShape`, `DirsOk`,
`DigestsOk`), archive `C09.archiveFor c uid gid fes`, ANY payload bytes whose decompression is that archive (`ha`: the
payload itself for `CompressionType::None`, otherwise what the codec - a parameter here - returns): `PkgFiles.extractInput`
- the composition of `get_file_entries`, `get_payload_compressor`, the cpio iteration and DIRNAMES that `Package::extract`
makes - is DIRNAMES = the builder's directory set and one item per builder file, in order, with that file's destination
path, kind and permission bits of its mode, content and link target; the iteration ends cleanly. -/
theorem build_input (sha256 : Bytes → Bytes) (c : Cfg) (now : Nat) (fes : List (FileE × Bytes))
    (hfiles : c.files = fes.map (·.1)) (hne : fes ≠ []) (hd : DirsOk c) (hdig : C06.DigestsOk c)
    (hf : ∀ p ∈ fes, C09.FileOk p) (hs : ∀ p ∈ fes, Pipeline.DirShape p.1) (hnd : (fes.map (·.1.cpioPath)).Nodup)
    (hn : fes.length < 4294967295) {uid gid : Nat} (hu : uid < 4294967296) (hg : gid < 4294967296)
    (payload : Bytes) (a? : Option Bytes) {v : Nat}
    (hv : Acc.getPayloadCompressorVariant (build c now (Pipeline.hexOf sha256) (C09.archiveFor c uid gid fes) payload).md.header = .ok v)
    (ha : (if payloadIsArchive v then some payload else a?) = some (C09.archiveFor c uid gid fes)) :
    extractInput (build c now (Pipeline.hexOf sha256) (C09.archiveFor c uid gid fes) payload) a? = some (builtInput c fes) := by
  have hfe := Pipeline.build_file_entries sha256 c now (C09.archiveFor c uid gid fes) payload hd hdig
  have hnef : c.files.isEmpty = false := by
    rw [hfiles]; cases fes with
    | nil => exact absurd rfl hne
    | cons => rfl
  have hdn : getStringArray (build c now (Pipeline.hexOf sha256) (C09.archiveFor c uid gid fes) payload).md.header IndexTag.RPMTAG_DIRNAMES
      = .ok c.directories :=
    C06.readback_whenFiles (mkCtx c now _ _) IndexData.asStringArray (C06.mem_slot_first rfl (i := 36) rfl) hnef rfl
  rw [input_of_files _ a? _ v _ hfe hv ha]
  unfold dirnamesOf pathsOf sizesOf
  simp only [hdn, Out.toOption, List.map_map]
  have e1 : (c.files.map ((fun e : Acc.FileEntry => e.path) ∘ C06.entryOf (mkCtx c now (Pipeline.hexOf sha256 payload) (Pipeline.hexOf sha256 (C09.archiveFor c uid gid fes)))))
      = c.files.map fun f => Acc.pathJoin f.dir f.baseName := rfl
  have e2 : (c.files.map ((fun e : Acc.FileEntry => e.size) ∘ C06.entryOf (mkCtx c now (Pipeline.hexOf sha256 payload) (Pipeline.hexOf sha256 (C09.archiveFor c uid gid fes)))))
      = c.files.map (·.size) := rfl
  rw [e1, e2, built_iteration c fes hfiles hd hf hs hnd hn hu hg]
  have hc := collect_zipIdx (mkCtx c now (Pipeline.hexOf sha256 payload) (Pipeline.hexOf sha256 (C09.archiveFor c uid gid fes)))
    (c.files.map (C06.entryOf (mkCtx c now (Pipeline.hexOf sha256 payload) (Pipeline.hexOf sha256 (C09.archiveFor c uid gid fes))))) fes 0
    (fun i hi => by simp [hfiles, List.getElem?_eq_getElem hi])
  rw [hc]
  rfl


/-- **`benign (extractInput (build cfg))`**: when the builder's own input - its directory set and its files - is benign
(decidable on the configuration: three file kinds, no `..`, distinct normalised paths, parents among the directory
names, no file or link used as a directory, no empty link target), so is what `extract` reads from the built package -/
theorem build_benign (sha256 : Bytes → Bytes) (c : Cfg) (now : Nat) (fes : List (FileE × Bytes))
    (hfiles : c.files = fes.map (·.1)) (hne : fes ≠ []) (hd : DirsOk c) (hdig : C06.DigestsOk c)
    (hf : ∀ p ∈ fes, C09.FileOk p) (hs : ∀ p ∈ fes, Pipeline.DirShape p.1) (hnd : (fes.map (·.1.cpioPath)).Nodup)
    (hn : fes.length < 4294967295) {uid gid : Nat} (hu : uid < 4294967296) (hg : gid < 4294967296)
    (payload : Bytes) (a? : Option Bytes) {v : Nat}
    (hv : Acc.getPayloadCompressorVariant (build c now (Pipeline.hexOf sha256) (C09.archiveFor c uid gid fes) payload).md.header = .ok v)
    (ha : (if payloadIsArchive v then some payload else a?) = some (C09.archiveFor c uid gid fes))
    (hb : benign (builtInput c fes) = true) :
    ∃ inp, extractInput (build c now (Pipeline.hexOf sha256) (C09.archiveFor c uid gid fes) payload) a? = some inp ∧
      benign inp = true ∧ inp.dirnames = some c.directories ∧ inp.items = fes.map builtItem :=
  ⟨_, build_input sha256 c now fes hfiles hne hd hdig hf hs hnd hn hu hg payload a? hv ha, hb, rfl, rfl⟩

/-- the node a builder file must become: by the type bits of its mode a directory / regular file / link with the 12
permission bits of that mode, its content, its link target -/
theorem wantNode_builtItem (p : FileE × Bytes) :
    wantNode (builtItem p) =
      match kindOf p.1.mode with
      | .dir => some (.dir (FileMode.permissions (FileMode.fromU16 p.1.mode)))
      | .regular => some (.file p.2 (FileMode.permissions (FileMode.fromU16 p.1.mode)))
      | .symlink => some (.symlink p.1.link)
      | .other => none := by
  unfold wantNode builtItem
  cases kindOf p.1.mode <;> rfl

/-- **the benign clause for built packages** ("creates, for every regular file, directory and symbolic link in the
package, an entry at target+path with the archived content, permission bits and link target", for all built packages
whose own input is benign): extracting the package `build` returns into a vacant destination ends `Ok`, changes nothing
outside the destination, and EVERY builder file is at destination + its destination path as the node its mode, content
and link target prescribe (`wantNode_builtItem`). -/
theorem extract_package_benign (sha256 : Bytes → Bytes) (c : Cfg) (now : Nat) (fes : List (FileE × Bytes))
    (hfiles : c.files = fes.map (·.1)) (hne : fes ≠ []) (hd : DirsOk c) (hdig : C06.DigestsOk c)
    (hf : ∀ p ∈ fes, C09.FileOk p) (hs : ∀ p ∈ fes, Pipeline.DirShape p.1) (hnd : (fes.map (·.1.cpioPath)).Nodup)
    (hn : fes.length < 4294967295) {uid gid : Nat} (hu : uid < 4294967296) (hg : gid < 4294967296)
    (payload : Bytes) (a? : Option Bytes) {v : Nat}
    (hv : Acc.getPayloadCompressorVariant (build c now (Pipeline.hexOf sha256) (C09.archiveFor c uid gid fes) payload).md.header = .ok v)
    (ha : (if payloadIsArchive v then some payload else a?) = some (C09.archiveFor c uid gid fes))
    (hb : benign (builtInput c fes) = true) (T : Path) (fs : Fs) (hr : TargetReady fs T) :
    ∃ inp, extractInput (build c now (Pipeline.hexOf sha256) (C09.archiveFor c uid gid fes) payload) a? = some inp ∧
      (extract inp T fs).out = .ok () ∧ Contained T fs (extract inp T fs).fs ∧
      ∀ p ∈ fes, (extract inp T fs).fs.get (T ++ compsD (Acc.pathJoin p.1.dir p.1.baseName)) = wantNode (builtItem p) := by
  refine ⟨_, build_input sha256 c now fes hfiles hne hd hdig hf hs hnd hn hu hg payload a? hv ha, ?_⟩
  obtain ⟨h1, h2, h3⟩ := extract_benign (builtInput c fes) T fs hb hr
  exact ⟨h1, h2, fun p hp => h3 (builtItem p) (List.mem_map.mpr ⟨p, hp, rfl⟩)⟩

/-! a built package with a directory `/d` (02755), a file `/d/f` (0640, three bytes) and a link `/d/l -> f`, uncompressed -/
def xD : FileE := ⟨[46, 47, 100], [47], [100], 0, 0o042755, [114], [114], [], 0, none, 4294967295, 1, []⟩
def xF : FileE := ⟨[46, 47, 100, 47, 102], [47, 100, 47], [102], 3, 0o100640, [114], [114], [], 0, none, 4294967295, 1, List.replicate 64 48⟩
def xL : FileE := ⟨[46, 47, 100, 47, 108], [47, 100, 47], [108], 0, 0o120777, [114], [114], [102], 0, none, 4294967295, 1, []⟩
def xFes : List (FileE × Bytes) := [(xD, []), (xF, [1, 2, 3]), (xL, [])]
def xCfg : Cfg := { C06.sampleCfg with files := [xD, xF, xL], directories := [[47], [47, 100, 47]], compression := .none }
def xArchive : Bytes := C09.archiveFor xCfg 0 0 xFes
def xBuilt : Package := build xCfg 1700000000 (Pipeline.hexOf C10.tSha256) xArchive xArchive
def rootFs : Fs := ⟨[([], .dir 0o755)], [], 0o022⟩

example : benign (builtInput xCfg xFes) = true := by decide +kernel
theorem x_variant : Acc.getPayloadCompressorVariant xBuilt.md.header = .ok payloadCompressorDefault := by
  have e : getString (C06.hdrOf (mkCtx xCfg 1700000000 (Pipeline.hexOf C10.tSha256 xArchive) (Pipeline.hexOf C10.tSha256 xArchive)))
      IndexTag.RPMTAG_PAYLOADCOMPRESSOR = .err "notfound" :=
    C06.getter_of_empty_slot IndexData.asStr
      (s := (IndexTag.RPMTAG_PAYLOADCOMPRESSOR, fun x => x.c.compression.name.map fun p => .str p.1)) (C06.mem_slots_block rfl (j := 1) rfl _ (List.mem_of_getElem? (i := 3) rfl)) rfl
  show Acc.getPayloadCompressorVariant (C06.hdrOf _) = _
  simp only [Acc.getPayloadCompressorVariant, e]
/-- the benign clause instantiated: extracted into `/t` of a file system holding only the root, the directory has its
setgid bit, the file its three bytes and mode 0640, the link its target -/
example : ∃ inp, extractInput xBuilt none = some inp ∧ (extract inp [[116]] rootFs).out = .ok () ∧
    (extract inp [[116]] rootFs).fs.get [[116], [100]] = some (.dir 0o2755) ∧
    (extract inp [[116]] rootFs).fs.get [[116], [100], [102]] = some (.file [1, 2, 3] 0o640) ∧
    (extract inp [[116]] rootFs).fs.get [[116], [100], [108]] = some (.symlink [102]) := by
  have hfo : ∀ p ∈ xFes, C09.FileOk p := by
    intro p hp
    simp only [xFes, List.mem_cons, List.not_mem_nil, or_false] at hp
    rcases hp with rfl | rfl | rfl <;> exact ⟨rfl, by decide, by decide⟩
  have hsh : ∀ p ∈ xFes, Pipeline.DirShape p.1 := by
    intro p hp
    simp only [xFes, List.mem_cons, List.not_mem_nil, or_false] at hp
    rcases hp with rfl | rfl | rfl <;> constructor <;> decide
  obtain ⟨inp, h1, h2, _, h4⟩ := extract_package_benign C10.tSha256 xCfg 1700000000 xFes rfl (by decide)
    (by unfold DirsOk; decide) (by decide) hfo hsh (by decide) (by decide) (uid := 0) (gid := 0)
    (by decide) (by decide) xArchive none x_variant (by rw [if_pos (by decide)]; rfl) (by decide +kernel)
    [[116]] rootFs
    ⟨by decide, by decide, by decide, fun k h1 h2 => by simp at h2; omega, fun q hq => by
      obtain ⟨s, rfl⟩ := hq; rfl⟩
  exact ⟨inp, h1, h2, h4 _ List.mem_cons_self, h4 (xF, [1, 2, 3]) (by simp [xFes]), h4 (xL, []) (by simp [xFes])⟩

end built

end RpmVerif.C12
