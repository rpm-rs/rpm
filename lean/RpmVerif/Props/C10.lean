import RpmVerif.Lemmas.Sign
import RpmVerif.Lemmas.SignE
import RpmVerif.Props.C16
import RpmVerif.Props.C17
import RpmVerif.Props.C04
/-!
# C10 — after any signing history a package verifies with exactly the last signer's key

For EVERY signature scheme `S` satisfying the named hypotheses (`Correct`, `Binds`, `IssuerOk`, `B64`,
`LegacyOk`), EVERY hash functions, EVERY well-formed start package `p0` (every parsed package is one:
`C16.parsed_wf`; every built one: `C06.build_reparse`) and EVERY operation list `ops` of any length over
{sign with any key at any time, clear, write + re-parse}:

`run_total`: the history never fails and its result is determined by the start package and the *signature state*
`stateAfter .initial ops` (initial / cleared / signed k t) alone; `history_state`: what a history returns IS the package of
its final state, and `history_bytes / _wf / _digests / _verify / _verify_none / _keyids / _keyids_cleared / _legacy` read
off what that state looks like to `verify_digests`, `verify_signature` and `signature_key_ids`. `first_op_wf`,
`run_total_any`: once the first operation is a sign / clear, NOTHING is assumed about the start package's signature header.
The "no key verifies" half (`history_verify_none`) needs an `Unsigned` start package: one signed by a foreign key and never
re-signed does verify.

What is assumed is explicit: the `SigScheme` laws, `SigRecsOk` (base64 text is NUL-free UTF-8, sizes fit the
header format), `PayloadDigestOk p0`.

## The signing side with its failure and panic paths (`Model/SignE.lean`; gaps G4, G7, G8 of notes/COVERAGE.md)

G7 the algorithm tables of the source (`legacyTagOf_range`, `signer_algs_subset`, `legacyOk_discharged`: `LegacyOk` follows from
`AlgOk`, and every theorem above has a `_discharged` form); G8 the `SignatureConfig` `pgp::Signer::sign` assembles (`config_*`,
`pgp_issuerOk`, `pgp_history_verify` / `pgp_history_keyids`: nothing assumed but `ParseSeal`, `Correct`, `Binds`, `B64`, sizes);
G4 one call of `sign_with_timestamp` / `sign` / `clear_signatures` with every way out (`sign_outcomes`, `sign_fail_unchanged`,
`sign_panics_iff`: the defect class of the known finding `C17 class=timestamp-setter-panic`, here on `Package`), and histories
with failed attempts (`runF_eq_run`, `historyF_*`, `runF_panics_at`).
-/
namespace RpmVerif.C10
open RpmVerif.Hdr RpmVerif.Gen RpmVerif.Digest RpmVerif.Sign

variable {S : SigScheme} {md5 sha1 sha256 : Bytes → Bytes}

/-- the signature header a signature state stands for, relative to the start package -/
def sigFor (S : SigScheme) (sha256 : Bytes → Bytes) (p0 : Package) : SigState S.Key → Header
  | .initial => p0.md.signature
  | .cleared => clearedSig sha256 (writeHeader p0.md.header)
  | .signed k t => signedSig S sha256 k t (writeHeader p0.md.header)

/-- the package a signature state stands for: everything but the signature header is the start package's -/
def stateOf (S : SigScheme) (sha256 : Bytes → Bytes) (p0 : Package) (s : SigState S.Key) : Package :=
  ⟨⟨p0.md.lead, sigFor S sha256 p0 s, p0.md.header⟩, p0.content⟩

theorem stateOf_initial (p0 : Package) : stateOf S sha256 p0 .initial = p0 := rfl

/-- the payload-digest block of `verify_digests` accepts the start package (it reads the main header and the
payload only, which no operation touches) -/
def PayloadDigestOk (sha256 : Bytes → Bytes) (p0 : Package) : Prop := checkPayload sha256 p0 = .ok ()

/-- the start package carries nothing `verify_signature` would look at -/
def Unsigned (h : Header) : Prop :=
  (∀ l, getStringArray h SigTag.RPMSIGTAG_OPENPGP ≠ .ok l) ∧ (getBinary h SigTag.RPMSIGTAG_RSA).isOk = false
  ∧ (getBinary h SigTag.RPMSIGTAG_DSA).isOk = false ∧ (getBinary h SigTag.RPMSIGTAG_PGP).isOk = false

theorem writeParse_id {p : Package} (wf : MetadataWF p.md) : writeParse p = .ok p := by
  simp only [writeParse, writePackage, parsePackage, writeMetadata_eq]
  rw [parseMetadata_write wf rfl (by simp) rfl]
  rfl

/-- every state is well formed; the start package's own signature header matters only as long as nothing has
replaced it -/
theorem stateOf_wf {p0 : Package} (hl : S.LegacyOk) (wl : LeadWF p0.md.lead) (wh : HeaderWF p0.md.header)
    (ok : SigRecsOk S sha256 (writeHeader p0.md.header)) (s : SigState S.Key)
    (ws : s = .initial → HeaderWF p0.md.signature) : MetadataWF (stateOf S sha256 p0 s).md := by
  refine ⟨wl, ?_, wh⟩
  cases s with
  | initial => exact ws rfl
  | cleared => exact clearedSig_wf ok
  | signed k t => exact signedSig_wf hl ok k t

/-- after a sign or a clear the package is well formed WHATEVER the previous signature header was -/
theorem first_op_wf {p0 : Package} (hl : S.LegacyOk) (wl : LeadWF p0.md.lead) (wh : HeaderWF p0.md.header)
    (ok : SigRecsOk S sha256 (writeHeader p0.md.header)) :
    (∀ k t, MetadataWF (signOp S sha256 k t p0).md) ∧ MetadataWF (clearOp sha256 p0).md :=
  ⟨fun k t => stateOf_wf hl wl wh ok (.signed k t) nofun, stateOf_wf hl wl wh ok .cleared nofun⟩

theorem after_eq_initial {K : Type} {s : SigState K} {o : Op K} (h : s.after o = .initial) : s = .initial := by
  cases o with
  | writeParse => exact h
  | sign k t => cases h
  | clear => cases h

theorem stateAfter_eq_initial {K : Type} {s : SigState K} {ops : List (Op K)} (h : stateAfter s ops = .initial) :
    s = .initial := by
  induction ops generalizing s with
  | nil => exact h
  | cons o os ih => exact after_eq_initial (ih h)

theorem step_stateOf {p0 : Package} (hl : S.LegacyOk) (wl : LeadWF p0.md.lead) (wh : HeaderWF p0.md.header)
    (ok : SigRecsOk S sha256 (writeHeader p0.md.header)) (s : SigState S.Key)
    (ws : s = .initial → HeaderWF p0.md.signature) (o : Op S.Key) :
    step S sha256 o (stateOf S sha256 p0 s) = .ok (stateOf S sha256 p0 (s.after o)) := by
  cases o with
  | sign k t => rfl
  | clear => rfl
  | writeParse => exact writeParse_id (stateOf_wf hl wl wh ok s ws)

theorem run_stateOf_any {p0 : Package} (hl : S.LegacyOk) (wl : LeadWF p0.md.lead) (wh : HeaderWF p0.md.header)
    (ok : SigRecsOk S sha256 (writeHeader p0.md.header)) (ops : List (Op S.Key)) (s : SigState S.Key)
    (ws : s = .initial → HeaderWF p0.md.signature) :
    run S sha256 ops (stateOf S sha256 p0 s) = .ok (stateOf S sha256 p0 (stateAfter s ops)) := by
  induction ops generalizing s with
  | nil => rfl
  | cons o os ih =>
    simp only [run, step_stateOf hl wl wh ok s ws o, Out.bind_ok]
    exact ih (s.after o) (fun h => ws (after_eq_initial h))

theorem run_stateOf {p0 : Package} (hl : S.LegacyOk) (wf : MetadataWF p0.md)
    (ok : SigRecsOk S sha256 (writeHeader p0.md.header)) (ops : List (Op S.Key)) (s : SigState S.Key) :
    run S sha256 ops (stateOf S sha256 p0 s) = .ok (stateOf S sha256 p0 (stateAfter s ops)) :=
  run_stateOf_any hl wf.lead wf.hdr ok ops s (fun _ => wf.sig)

/-- **no history fails**, and the result is the start package with the signature header of the final
signature state -/
theorem run_total {p0 : Package} (hl : S.LegacyOk) (wf : MetadataWF p0.md)
    (ok : SigRecsOk S sha256 (writeHeader p0.md.header)) (ops : List (Op S.Key)) :
    run S sha256 ops p0 = .ok (stateOf S sha256 p0 (stateAfter .initial ops)) :=
  run_stateOf hl wf ok ops .initial

/-- **no assumption on the start package's signature header** once the first operation is a sign or a clear: the
history never fails and ends in the state the theorems below describe (`verify_signed`, `verify_cleared`,
`digests_signed`, `digests_cleared` speak about `stateOf` directly) -/
theorem run_total_any {p0 : Package} (hl : S.LegacyOk) (wl : LeadWF p0.md.lead) (wh : HeaderWF p0.md.header)
    (ok : SigRecsOk S sha256 (writeHeader p0.md.header)) (o : Op S.Key) (ho : (SigState.initial).after o ≠ .initial)
    (os : List (Op S.Key)) :
    run S sha256 (o :: os) p0 = .ok (stateOf S sha256 p0 (stateAfter .initial (o :: os))) := by
  have hstep : step S sha256 o p0 = .ok (stateOf S sha256 p0 ((SigState.initial).after o)) := by
    cases o with
    | sign k t => rfl
    | clear => rfl
    | writeParse => exact absurd rfl ho
  simp only [run, hstep, Out.bind_ok]
  exact run_stateOf_any hl wl wh ok os _ (fun h => absurd h ho)

theorem history_state {p0 p : Package} (hl : S.LegacyOk) (wf : MetadataWF p0.md)
    (ok : SigRecsOk S sha256 (writeHeader p0.md.header)) (ops : List (Op S.Key))
    (h : run S sha256 ops p0 = .ok p) : p = stateOf S sha256 p0 (stateAfter .initial ops) := by
  rw [run_total hl wf ok ops] at h
  exact (Out.ok.inj h).symm

/-- **main header, lead and payload are untouched** — as values and as serialised bytes -/
theorem history_bytes {p0 p : Package} (hl : S.LegacyOk) (wf : MetadataWF p0.md)
    (ok : SigRecsOk S sha256 (writeHeader p0.md.header)) (ops : List (Op S.Key))
    (h : run S sha256 ops p0 = .ok p) :
    writeHeader p.md.header = writeHeader p0.md.header ∧ p.content = p0.content
    ∧ p.md.header = p0.md.header ∧ p.md.lead = p0.md.lead := by
  obtain rfl := history_state hl wf ok ops h
  exact ⟨rfl, rfl, rfl, rfl⟩

/-- **every reachable state is well formed** -/
theorem history_wf {p0 p : Package} (hl : S.LegacyOk) (wf : MetadataWF p0.md)
    (ok : SigRecsOk S sha256 (writeHeader p0.md.header)) (ops : List (Op S.Key))
    (h : run S sha256 ops p0 = .ok p) : MetadataWF p.md := by
  obtain rfl := history_state hl wf ok ops h
  exact stateOf_wf hl wf.lead wf.hdr ok _ (fun _ => wf.sig)

/-- … hence write + re-parse changes nothing after any history -/
theorem history_writeParse {p0 p : Package} (hl : S.LegacyOk) (wf : MetadataWF p0.md)
    (ok : SigRecsOk S sha256 (writeHeader p0.md.header)) (ops : List (Op S.Key))
    (h : run S sha256 ops p0 = .ok p) : writeParse p = .ok p :=
  writeParse_id (history_wf hl wf ok ops h)

/-- before any sign / clear the package is the start package itself (whatever held of it still holds) -/
theorem history_initial {p0 p : Package} (hl : S.LegacyOk) (wf : MetadataWF p0.md)
    (ok : SigRecsOk S sha256 (writeHeader p0.md.header)) (ops : List (Op S.Key))
    (hs : stateAfter .initial ops = .initial) (h : run S sha256 ops p0 = .ok p) : p = p0 := by
  rw [history_state hl wf ok ops h, hs]
  rfl

theorem checkDeclared_notfound (c : Bytes) : checkDeclared (.err "notfound") c = .ok () := rfl
theorem checkDeclared_same (c : Bytes) : checkDeclared (.ok c) c = .ok () := by simp [checkDeclared]

theorem verifyDigests_sha256_only {p : Package}
    (h1 : getBinary p.md.signature SigTag.RPMSIGTAG_MD5 = .err "notfound")
    (h2 : getString p.md.signature SigTag.RPMSIGTAG_SHA1 = .err "notfound")
    (h3 : getString p.md.signature SigTag.RPMSIGTAG_SHA256 = .ok (shaHex sha256 (writeHeader p.md.header)))
    (h4 : checkPayload sha256 p = .ok ()) : verifyDigests md5 sha1 sha256 p = .ok () := by
  simp only [verifyDigests, h1, h2, h3, h4, shaHex, checkDeclared_notfound, checkDeclared_same, Out.bind_ok]

theorem digests_signed {p0 : Package} (hl : S.LegacyOk) (hp : PayloadDigestOk sha256 p0) (k : S.Key) (t : Nat) :
    verifyDigests md5 sha1 sha256 (stateOf S sha256 p0 (.signed k t)) = .ok () :=
  verifyDigests_sha256_only
    (signed_absent sha256 hl k t _ IndexData.asBinary _ (by decide) (by decide) (by decide) (by decide) (by decide))
    (signed_absent sha256 hl k t _ IndexData.asStr _ (by decide) (by decide) (by decide) (by decide) (by decide))
    (signed_sha256 sha256 hl k t _) hp

theorem digests_cleared {p0 : Package} (hp : PayloadDigestOk sha256 p0) :
    verifyDigests md5 sha1 sha256 (stateOf S sha256 p0 .cleared) = .ok () :=
  verifyDigests_sha256_only (cleared_absent sha256 _ IndexData.asBinary _ (by decide) (by decide))
    (cleared_absent sha256 _ IndexData.asStr _ (by decide) (by decide)) (cleared_sha256 sha256 _) hp

theorem verify_signed {p0 : Package} (hl : S.LegacyOk) (hb64 : S.B64) (hp : PayloadDigestOk sha256 p0)
    (k k' : S.Key) (t : Nat) :
    verifyWith S md5 sha1 sha256 k' (stateOf S sha256 p0 (.signed k t)) =
      if S.verify k' (writeHeader p0.md.header) (S.sign k (writeHeader p0.md.header) t) then .ok () else .err "verify" := by
  have e : getStringArray (stateOf S sha256 p0 (.signed k t)).md.signature SigTag.RPMSIGTAG_OPENPGP
      = .ok [S.b64enc (S.sign k (writeHeader p0.md.header) t)] := signed_openpgp sha256 hl k t _
  simp only [verifyWith, digests_signed hl hp k t, Out.bind_ok, e]
  simp only [List.isEmpty_cons, Bool.false_eq_true, if_false, verifyAll, hb64 _, stateOf]
  rfl

theorem verify_signed_iff {p0 : Package} (hl : S.LegacyOk) (hc : S.Correct) (hbind : S.Binds) (hb64 : S.B64)
    (hp : PayloadDigestOk sha256 p0) (k k' : S.Key) (t : Nat) :
    verifyWith S md5 sha1 sha256 k' (stateOf S sha256 p0 (.signed k t)) = .ok () ↔ k' = k := by
  rw [verify_signed hl hb64 hp]
  constructor
  · intro hv
    split at hv
    · rename_i hver; exact (hbind _ _ _ _ _ hver).1
    · cases hv
  · rintro rfl
    rw [hc]; rfl

theorem bind_err_ne_ok {α β} (x : Out α) (c : String) (b : β) : (x >>= fun _ => (Out.err c : Out β)) ≠ .ok b := by
  cases x <;> simp [bind]

theorem verify_unsigned {p : Package} (hu : Unsigned p.md.signature) (k' : S.Key) :
    verifyWith S md5 sha1 sha256 k' p ≠ .ok () := by
  obtain ⟨h0, h1, h2, h3⟩ := hu
  cases hg : getStringArray p.md.signature SigTag.RPMSIGTAG_OPENPGP with
  | ok l => exact absurd hg (h0 l)
  | err c =>
    simp only [verifyWith, hg, h1, h2, h3, Bool.not_false, Bool.and_self, if_true]
    exact bind_err_ne_ok _ _ _
  | panic c =>
    simp only [verifyWith, hg, h1, h2, h3, Bool.not_false, Bool.and_self, if_true]
    exact bind_err_ne_ok _ _ _

theorem pickLegacy_not_ok {g : Out Bytes} (h : g.isOk = false) (cur : Option Bytes) : pickLegacy cur g = cur := by
  cases g with
  | ok s => cases h
  | err c => rfl
  | panic c => rfl

theorem keyIds_unsigned {p : Package} (hu : Unsigned p.md.signature) : keyIds S p = .err "nosig" := by
  obtain ⟨h0, h1, h2, h3⟩ := hu
  unfold keyIds
  split
  · rename_i l hg; exact absurd hg (h0 l)
  · simp only [pickLegacy_not_ok h1, pickLegacy_not_ok h2, pickLegacy_not_ok h3]

theorem cleared_unsigned (hb : Bytes) : Unsigned (clearedSig sha256 hb) := by
  have e0 : getStringArray (clearedSig sha256 hb) SigTag.RPMSIGTAG_OPENPGP = .err "notfound" :=
    cleared_absent sha256 _ IndexData.asStringArray _ (by decide) (by decide)
  have e (tag : Nat) (h1 : tag ≠ SigTag.HEADER_SIGNATURES) (h5 : tag ≠ SigTag.RPMSIGTAG_SHA256) :
      (getBinary (clearedSig sha256 hb) tag).isOk = false :=
    congrArg Out.isOk (cleared_absent sha256 _ IndexData.asBinary tag h1 h5)
  refine ⟨fun l h => ?_, e _ (by decide) (by decide), e _ (by decide) (by decide), e _ (by decide) (by decide)⟩
  rw [e0] at h
  cases h

theorem verify_cleared {p0 : Package} (k' : S.Key) :
    verifyWith S md5 sha1 sha256 k' (stateOf S sha256 p0 .cleared) ≠ .ok () :=
  verify_unsigned (p := stateOf S sha256 p0 .cleared) (cleared_unsigned (sha256 := sha256) (writeHeader p0.md.header)) k'

theorem keyIds_signed {p0 : Package} (hl : S.LegacyOk) (hi : S.IssuerOk) (hb64 : S.B64) (k : S.Key) (t : Nat) :
    keyIds S (stateOf S sha256 p0 (.signed k t)) = .ok [S.keyId k] := by
  have e : getStringArray (stateOf S sha256 p0 (.signed k t)).md.signature SigTag.RPMSIGTAG_OPENPGP
      = .ok [S.b64enc (S.sign k (writeHeader p0.md.header) t)] := signed_openpgp sha256 hl k t _
  simp only [keyIds, e, idsAll, hb64 _, oneIssuer, hi _ _ _]
  rfl

theorem signer_some {K : Type} {s : SigState K} {k : K} (h : s.signer = some k) : ∃ t, s = .signed k t := by
  cases s with
  | signed k' t => exact ⟨t, by rw [← Option.some.inj h]⟩
  | initial => cases h
  | cleared => cases h

theorem signer_none {K : Type} {s : SigState K} (h : s.signer = none) : s = .initial ∨ s = .cleared := by
  cases s with
  | signed k' t => cases h
  | initial => exact .inl rfl
  | cleared => exact .inr rfl

/-- **digests still verify**: after at least one sign or clear, for ANY md5 / sha1 functions and the sha256 the
operations used, provided the start package's payload digest was fine -/
theorem history_digests {p0 p : Package} (hl : S.LegacyOk) (wf : MetadataWF p0.md)
    (ok : SigRecsOk S sha256 (writeHeader p0.md.header)) (hp : PayloadDigestOk sha256 p0) (ops : List (Op S.Key))
    (hs : stateAfter .initial ops ≠ .initial) (h : run S sha256 ops p0 = .ok p) :
    verifyDigests md5 sha1 sha256 p = .ok () := by
  obtain rfl := history_state hl wf ok ops h
  cases hst : stateAfter (SigState.initial (K := S.Key)) ops with
  | initial => exact absurd hst hs
  | cleared => exact digests_cleared hp
  | signed k t => exact digests_signed hl hp k t

/-- **exactly the last signer's key verifies** -/
theorem history_verify {p0 p : Package} (hl : S.LegacyOk) (hc : S.Correct) (hbind : S.Binds) (hb64 : S.B64)
    (wf : MetadataWF p0.md) (ok : SigRecsOk S sha256 (writeHeader p0.md.header)) (hp : PayloadDigestOk sha256 p0)
    (ops : List (Op S.Key)) (k : S.Key) (hs : lastSigner ops = some k) (h : run S sha256 ops p0 = .ok p) (k' : S.Key) :
    verifyWith S md5 sha1 sha256 k' p = .ok () ↔ k' = k := by
  obtain rfl := history_state hl wf ok ops h
  obtain ⟨t, hst⟩ := signer_some hs
  rw [hst]
  exact verify_signed_iff hl hc hbind hb64 hp k k' t

/-- **after a clear, or never signed from an unsigned start, no key verifies**. `Unsigned p0` is needed: a start package
signed by a foreign key and never re-signed has `lastSigner = none` and does verify -/
theorem history_verify_none {p0 p : Package} (hl : S.LegacyOk) (wf : MetadataWF p0.md)
    (ok : SigRecsOk S sha256 (writeHeader p0.md.header)) (hu : Unsigned p0.md.signature)
    (ops : List (Op S.Key)) (hs : lastSigner ops = none) (h : run S sha256 ops p0 = .ok p) (k' : S.Key) :
    verifyWith S md5 sha1 sha256 k' p ≠ .ok () := by
  obtain rfl := history_state hl wf ok ops h
  rcases signer_none hs with hst | hst <;> rw [hst]
  · exact verify_unsigned hu k'
  · exact verify_cleared k'

/-- after a clear no key verifies, whatever the start package carried -/
theorem history_verify_cleared {p0 p : Package} (hl : S.LegacyOk) (wf : MetadataWF p0.md)
    (ok : SigRecsOk S sha256 (writeHeader p0.md.header)) (ops : List (Op S.Key))
    (hs : stateAfter .initial ops = .cleared) (h : run S sha256 ops p0 = .ok p) (k' : S.Key) :
    verifyWith S md5 sha1 sha256 k' p ≠ .ok () := by
  rw [history_state hl wf ok ops h, hs]
  exact verify_cleared k'

/-- **exactly the last signer's key id is reported** -/
theorem history_keyids {p0 p : Package} (hl : S.LegacyOk) (hi : S.IssuerOk) (hb64 : S.B64)
    (wf : MetadataWF p0.md) (ok : SigRecsOk S sha256 (writeHeader p0.md.header))
    (ops : List (Op S.Key)) (k : S.Key) (hs : lastSigner ops = some k) (h : run S sha256 ops p0 = .ok p) :
    keyIds S p = .ok [S.keyId k] := by
  obtain rfl := history_state hl wf ok ops h
  obtain ⟨t, hst⟩ := signer_some hs
  rw [hst]
  exact keyIds_signed hl hi hb64 k t

/-- a cleared package reports no signer: the call is an error -/
theorem history_keyids_cleared {p0 p : Package} (hl : S.LegacyOk) (wf : MetadataWF p0.md)
    (ok : SigRecsOk S sha256 (writeHeader p0.md.header)) (ops : List (Op S.Key))
    (hs : stateAfter .initial ops = .cleared) (h : run S sha256 ops p0 = .ok p) :
    keyIds S p = .err "nosig" := by
  rw [history_state hl wf ok ops h, hs]
  exact keyIds_unsigned (cleared_unsigned _)

/-- the legacy tag of a signed package carries the raw signature of the last signer (what `gpgv` is given) -/
theorem history_legacy {p0 p : Package} (hl : S.LegacyOk) (wf : MetadataWF p0.md)
    (ok : SigRecsOk S sha256 (writeHeader p0.md.header)) (ops : List (Op S.Key)) (k : S.Key) (t : Nat)
    (hs : stateAfter .initial ops = .signed k t) (h : run S sha256 ops p0 = .ok p) :
    getBinary p.md.signature (S.legacyTag k) = .ok (S.sign k (writeHeader p0.md.header) t) := by
  rw [history_state hl wf ok ops h, hs]
  exact signed_legacy sha256 hl k t _

/-! ### one `verify_signature`, two mirrors (AUDIT2 a7)

`verifyWith` (this file: a key of an abstract scheme) and C02's `Verify.verifySignatureS` (any — even stateful — object
behind the `Verifying` trait, with the consult log) mirror the same Rust function. They ARE
the same function: same tag order, same short-circuits, same error classes. Everything C02 proves about
`verifySignatureS` therefore holds for `verifyWith` (used by `C02.tamper_rejected_build_sign`, Props/C02Bytes.lean), and a
change of the code needs ONE edit that both properties see. -/

theorem verifyWith_eq_verifySignatureS (S : SigScheme) (md5 sha1 sha256 : Bytes → Bytes) (k : S.Key) (p : Package) :
    verifyWith S md5 sha1 sha256 k p =
      (Verify.verifySignatureS md5 sha1 sha256 S.b64dec (Sign.verifierOf S k) p).1 :=
  Sign.verifyWith_eq_verifySignatureS S md5 sha1 sha256 k p

theorem verifierOf_stateless (S : SigScheme) (k : S.Key) (pre : List Verify.Consult) (d s : Bytes) :
    Sign.verifierOf S k pre d s = S.verify k d s := rfl

section signing_side
open RpmVerif.Gen.SigAlgs RpmVerif.AddData
variable {pubAlg : Bytes → Option Nat}

/-! ## the signing side with its failure and panic paths (G4, G7, G8) -/

/-! ### G7: the algorithm tables of the source -/

/-- **every algorithm `SignatureHeaderBuilder::build` accepts gets the RSA or the DSA legacy tag** (all algorithm
numbers; the table is scraped from the `match`) -/
theorem legacyTagOf_range {a t : Nat} (h : legacyTagOf a = some t) :
    t = SigTag.RPMSIGTAG_RSA ∨ t = SigTag.RPMSIGTAG_DSA := legacyTagOf_mem_range h

/-- the conversion `AlgorithmType → PublicKeyAlgorithm` has an arm for every variant -/
theorem toPgp_total (a : AlgorithmType) : toPgpArms.lookup a = some (toPgp a) := toPgp_lookup a

/-- **whatever `AlgorithmType` a signer stores, `build` has an arm for the algorithm its signatures carry** -/
theorem signer_tag_total (a : AlgorithmType) :
    legacyTagOf (toPgp a) = some (signerLegacyTag a) ∧
    (signerLegacyTag a = SigTag.RPMSIGTAG_RSA ∨ signerLegacyTag a = SigTag.RPMSIGTAG_DSA) :=
  ⟨signerLegacyTag_some a, signerLegacyTag_range a⟩

/-- **a key `Signer::new` accepts** is stored under the `AlgorithmType` that converts back to the key's own
algorithm, and `build` never answers `UnsupportedPGPKeyType` for it -/
theorem signer_algs_subset {n : Nat} {a : AlgorithmType} (h : signerNew n = .ok a) :
    toPgp a = n ∧ ∃ t, legacyTagOf (toPgp a) = some t := by
  have key : ∀ p ∈ signerNewArms, toPgp p.2 = p.1 := by decide
  exact ⟨key _ (signerNew_ok h), _, signerLegacyTag_some a⟩

/-- the verifier loads every key a signer can be made from, under the same `AlgorithmType` -/
theorem verifier_accepts_signer_keys {n : Nat} {a : AlgorithmType} (h : signerNew n = .ok a) : verifierLoad n = .ok a := by
  have key : ∀ p ∈ signerNewArms, verifierLoadArms.lookup p.1 = some p.2 := by decide
  simp only [verifierLoad, key _ (signerNew_ok h)]

/-- the refusals are errors, never panics -/
theorem signerNew_total (n : Nat) : (signerNew n).isPanic = false ∧ (verifierLoad n).isPanic = false := by
  unfold signerNew verifierLoad
  constructor <;> split <;> rfl

/-- **`LegacyOk` follows from the table** once the scheme's signatures parse and carry the algorithm that selects the
key's tag -/
theorem legacyOk_discharged (ha : AlgOk S pubAlg) : S.LegacyOk := legacyOk_of_algOk ha

/-! ### G8: the configuration `pgp::Signer::sign` assembles -/

/-- **exactly one Issuer sub-packet, the signing key's** -/
theorem config_one_issuer (a : AlgorithmType) (keyId fp : Bytes) (t : Int) : (mkConfig a keyId fp t).issuers = [keyId] :=
  mkConfig_issuers a keyId fp t

/-- exactly one IssuerFingerprint sub-packet -/
theorem config_one_fingerprint (a : AlgorithmType) (keyId fp : Bytes) (t : Int) :
    (mkConfig a keyId fp t).fingerprints = [fp] := mkConfig_fingerprints a keyId fp t

/-- **the creation time of the signature is the timestamp handed in** -/
theorem config_created_eq (a : AlgorithmType) (keyId fp : Bytes) (t : Int) : (mkConfig a keyId fp t).created = some t :=
  mkConfig_created a keyId fp t

/-- **`Utc.timestamp_opt(t, 0).unwrap()` cannot panic**: every `u32` is a representable instant -/
theorem timestamp_opt_total {t : Nat} (h : t < 4294967296) : signerCreated t = .ok (t : Int) := by
  simp only [signerCreated, chronoTimestampOpt_u32 h]

/-- `<pgp::Signer as Signing>::sign` is the `sign` of the derived scheme, for every `Timestamp` -/
theorem pgp_signer_sign (P : PgpScheme) (k : P.Key) (m : Bytes) {t : Nat} (h : t < 4294967296) :
    P.signerSign k m t = .ok (P.toSigScheme.sign k m t) := by
  simp only [PgpScheme.signerSign, timestamp_opt_total h, Out.bind_ok]
  rfl

/-- **`IssuerOk` is a theorem** for a scheme whose signatures are sealed configurations -/
theorem pgp_issuerOk (P : PgpScheme) (hp : P.ParseSeal) : P.toSigScheme.IssuerOk := P.issuerOk hp
theorem pgp_legacyOk (P : PgpScheme) : P.toSigScheme.LegacyOk := P.legacyOk
theorem pgp_algOk (P : PgpScheme) (hp : P.ParseSeal) : AlgOk P.toSigScheme P.pubAlg := P.algOk hp

/-! ### G4: one call of `sign_with_timestamp` / `sign` / `clear_signatures` -/

/-- the instants `Timestamp::now()` can convert -/
def ClockInRange (c : Timestamp.Instant) : Prop := 0 ≤ c.secs ∧ c.secs < 4294967296

theorem tsOk_iff (t : TsArg) : TsOk t ↔ C17.TsInRange t := by
  constructor
  · rintro ⟨n, hn⟩
    apply Classical.byContradiction
    intro h
    have := (C17.timestamp_setter_panics_iff t).mpr h
    rw [hn] at this; cases this
  · intro h
    cases t with
    | secs n => exact ⟨n, rfl⟩
    | src s => exact ⟨_, C17.timestamp_setter_ok s h⟩

theorem now_ok {c : Timestamp.Instant} (h : ClockInRange c) : Timestamp.now c = .ok c.secs.toNat := by
  have := (C20.ts_exact_systemtime c).1 h.1 h.2
  simp only [Timestamp.now, this]; rfl

theorem now_panics {c : Timestamp.Instant} (h : ¬ ClockInRange c) : ∃ s, Timestamp.now c = .panic s := by
  have h3 := C20.ts_exact_systemtime c
  by_cases h0 : c.secs < 0
  · exact ⟨_, by rw [Timestamp.now, h3.2.1 h0]⟩
  · have : 4294967296 ≤ c.secs := by unfold ClockInRange at h; omega
    exact ⟨_, by rw [Timestamp.now, h3.2.2 this]⟩

theorem nowOk_iff (c : Timestamp.Instant) : NowOk c ↔ ClockInRange c := by
  constructor
  · rintro ⟨n, hn⟩
    apply Classical.byContradiction
    intro h
    obtain ⟨s, hs⟩ := now_panics h
    rw [hs] at hn; cases hn
  · intro h; exact ⟨_, now_ok h⟩

/-- **on the success path `sign_with_timestamp` is `signOp`**: a usable key, a timestamp that converts -/
theorem sign_success_eq (ha : AlgOk S pubAlg) {t : TsArg} {n : Nat} (ht : timestampSetter t = .ok n) (k : S.Key)
    (p : Package) :
    signOpE S pubAlg sha256 ((SignerE.key k).sign S) t p = .ok (signOp S sha256 k n p) := signOpE_key ha ht k p

/-- the same for any `Signing` implementation that answers what key `k` would -/
theorem sign_success_eq_any (ha : AlgOk S pubAlg) {t : TsArg} {n : Nat} (ht : timestampSetter t = .ok n) (k : S.Key)
    (p : Package) (signer : Bytes → Nat → Out Bytes)
    (hs : signer (writeHeader p.md.header) n = .ok (S.sign k (writeHeader p.md.header) n)) :
    signOpE S pubAlg sha256 signer t p = .ok (signOp S sha256 k n p) := by
  rw [← signOpE_key (sha256 := sha256) ha ht k p]
  simp only [signOpE, ht, Out.bind_ok, hs, SignerE.sign]

/-- **every way out of `sign_with_timestamp`**, in the order the code takes them -/
theorem sign_outcomes (signer : Bytes → Nat → Out Bytes) (t : TsArg) (p : Package) :
    (∃ s, timestampSetter t = .panic s ∧ signOpE S pubAlg sha256 signer t p = .panic s) ∨
    (∃ n, timestampSetter t = .ok n ∧
      ((∃ c, signer (writeHeader p.md.header) n = .err c ∧ signOpE S pubAlg sha256 signer t p = .err c) ∨
       (∃ s, signer (writeHeader p.md.header) n = .panic s ∧ signOpE S pubAlg sha256 signer t p = .panic s) ∨
       (∃ sig, signer (writeHeader p.md.header) n = .ok sig ∧
         ((pubAlg sig = none ∧ signOpE S pubAlg sha256 signer t p = .err "NoSignatureFound") ∨
          (∃ a, pubAlg sig = some a ∧ legacyTagOf a = none ∧
            signOpE S pubAlg sha256 signer t p = .err "UnsupportedPGPKeyType") ∨
          (∃ a tag, pubAlg sig = some a ∧ legacyTagOf a = some tag ∧
            signOpE S pubAlg sha256 signer t p = .ok ⟨⟨p.md.lead,
              Bld.signatureHeader [(tag, sig, S.b64enc sig)] (some (shaHex sha256 (writeHeader p.md.header))),
              p.md.header⟩, p.content⟩))))) := by
  cases ht : timestampSetter t with
  | panic s => left; exact ⟨s, rfl, by simp only [signOpE, ht, Out.bind_panic]⟩
  | err c =>
    -- the setter never answers `Err`: a failed conversion is unwrapped
    exfalso
    cases t with
    | secs n => cases ht
    | src s => simp only [timestampSetter] at ht; split at ht <;> cases ht
  | ok n =>
    right
    refine ⟨n, rfl, ?_⟩
    simp only [signOpE, ht, Out.bind_ok]
    cases signer (writeHeader p.md.header) n with
    | err c => exact .inl ⟨c, rfl, rfl⟩
    | panic s => exact .inr (.inl ⟨s, rfl, rfl⟩)
    | ok sig =>
      refine .inr (.inr ⟨sig, rfl, ?_⟩)
      simp only [Out.bind_ok]
      cases hp : pubAlg sig with
      | none => exact .inl ⟨rfl, by rw [sigBuild_one_nosig S.b64enc _ hp]; rfl⟩
      | some a =>
        cases hl : legacyTagOf a with
        | none => exact .inr (.inl ⟨a, rfl, hl, by rw [sigBuild_one_unsupported S.b64enc _ hp hl]; rfl⟩)
        | some tag => exact .inr (.inr ⟨a, tag, rfl, hl, by rw [sigBuild_one_ok S.b64enc _ hp hl]; rfl⟩)

/-- **a failed signing leaves the package exactly as it was** (`&mut self` view: the package afterwards and the
result; a caller that goes on after the `Err` goes on with the same package). This is how `asMut` / `settle` are DEFINED
(Model/SignE.lean: every `?` and the `unwrap` of `sign_with_timestamp` come before its one assignment); nothing about
`signOpE` enters. -/
theorem sign_fail_unchanged (signer : Bytes → Nat → Out Bytes) (t : TsArg) (p : Package) (c : String)
    (h : signOpE S pubAlg sha256 signer t p = .err c) :
    asMut p (signOpE S pubAlg sha256 signer t p) = (p, .err c) ∧
    settle p (signOpE S pubAlg sha256 signer t p) = .ok p := by
  rw [h]; exact ⟨rfl, rfl⟩

/-- … and a successful one replaces the signature header and nothing else -/
theorem sign_ok_frame (signer : Bytes → Nat → Out Bytes) (t : TsArg) (p q : Package)
    (h : signOpE S pubAlg sha256 signer t p = .ok q) :
    q.md.lead = p.md.lead ∧ q.md.header = p.md.header ∧ q.content = p.content := by
  simp only [signOpE, Out.bind_eq_ok, Out.pure_eq, Out.ok.injEq] at h
  obtain ⟨_, _, _, _, _, _, rfl⟩ := h
  exact ⟨rfl, rfl, rfl⟩

/-- **`sign_with_timestamp` panics exactly when it is given a `SystemTime` / `DateTime` before 1970 or from
2106-02-07T06:28:16Z on** — whatever the signer (that does not panic itself) would have answered -/
theorem sign_panics_iff (signer : Bytes → Nat → Out Bytes) (hsg : ∀ m n, (signer m n).isPanic = false) (t : TsArg)
    (p : Package) :
    (signOpE S pubAlg sha256 signer t p).isPanic = true ↔ ¬ C17.TsInRange t := by
  rw [← C17.timestamp_setter_panics_iff]
  unfold signOpE
  rw [Out.bind_isPanic]
  refine ⟨fun h => ?_, .inl⟩
  rcases h with h | ⟨n, _, h⟩
  · exact h
  · -- what follows the conversion cannot panic
    rw [Out.bind_not_panic (hsg _ n) (fun sig _ =>
      Out.bind_not_panic (sigBuilderBuild_not_panic _ _ _) (fun _ _ => rfl))] at h
    cases h

/-- **`sign(s)` is `sign_with_timestamp(s, now)`**: for a clock inside the range it is the call with the clock's
whole seconds — the same as handing over the `SystemTime` itself -/
theorem sign_now_eq (signer : Bytes → Nat → Out Bytes) {c : Timestamp.Instant} (h : ClockInRange c) (p : Package) :
    signNowE S pubAlg sha256 signer c p = signOpE S pubAlg sha256 signer (.secs c.secs.toNat) p ∧
    signNowE S pubAlg sha256 signer c p = signOpE S pubAlg sha256 signer (.src (.sys c)) p := by
  have h1 := signNowE_ok (S := S) (pubAlg := pubAlg) (sha256 := sha256) (now_ok h) signer p
  refine ⟨h1, ?_⟩
  rw [h1]
  have : timestampSetter (.src (.sys c)) = .ok c.secs.toNat := C17.timestamp_setter_ok (.sys c) h
  simp only [signOpE, this]
  rfl

/-- … and outside the range `Timestamp::now()` panics before anything else happens -/
theorem sign_now_panics_iff (signer : Bytes → Nat → Out Bytes) (hsg : ∀ m n, (signer m n).isPanic = false)
    (c : Timestamp.Instant) (p : Package) :
    (signNowE S pubAlg sha256 signer c p).isPanic = true ↔ ¬ ClockInRange c := by
  constructor
  · intro hp hc
    rw [(sign_now_eq signer hc p).1, sign_panics_iff signer hsg] at hp
    exact hp trivial
  · intro hc
    obtain ⟨s, hs⟩ := now_panics hc
    simp only [signNowE, hs, Timestamp.Conv.toOut, Out.bind_panic, Out.isPanic]

/-- **`clear_signatures` cannot fail**: its `build()?` parses no signature -/
theorem clear_total (b64enc : Bytes → Bytes) (p : Package) :
    clearOpE pubAlg b64enc sha256 p = .ok (clearOp sha256 p) := rfl

/-- **a history with failed signing attempts is the history of its effective operations** — from ANY package: refused
attempts (`Err` from the signer, bytes `build` turns down) change nothing, successful ones are `signOp` -/
theorem runF_eq_run (ha : AlgOk S pubAlg) (ops : List (OpF S.Key)) (hq : ∀ o ∈ ops, o.Quiet pubAlg) (p : Package) :
    runF S pubAlg sha256 ops p = run S sha256 (effectiveOps ops) p := runF_quiet ha ops hq p

/-- a history of failed attempts only ends with the package it started from -/
theorem runF_failed_only (ha : AlgOk S pubAlg) (ops : List (OpF S.Key)) (hq : ∀ o ∈ ops, o.Quiet pubAlg)
    (he : effectiveOps ops = []) (p : Package) : runF S pubAlg sha256 ops p = .ok p := by
  rw [runF_eq_run ha ops hq, he]; rfl

/-- the operations that panic: an out-of-range timestamp argument / clock -/
def Panics {K : Type} : OpF K → Prop
  | .sign _ t => ¬ C17.TsInRange t
  | .signNow _ c => ¬ ClockInRange c
  | _ => False

theorem stepF_isPanic_iff (o : OpF S.Key) (p : Package) :
    (stepF S pubAlg sha256 o p).isPanic = true ↔ Panics o := by
  have settle_panic : ∀ r : Out Package, (settle p r).isPanic = r.isPanic := fun r => by cases r <;> rfl
  cases o with
  | writeParse =>
    have h : (stepF S pubAlg sha256 .writeParse p).isPanic = false := C04.parsePackage_total _
    rw [h]; exact ⟨nofun, nofun⟩
  | clear =>
    have h : (stepF S pubAlg sha256 .clear p).isPanic = false := rfl
    rw [h]; exact ⟨nofun, nofun⟩
  | sign sg t =>
    simp only [stepF, attemptF, settle_panic, Panics]
    exact sign_panics_iff _ (SignerE.sign_not_panic sg) t p
  | signNow sg c =>
    simp only [stepF, attemptF, settle_panic, Panics]
    exact sign_now_panics_iff _ (SignerE.sign_not_panic sg) c p

/-- **no history panics unless a timestamp is out of range** (any start package, any signers) -/
theorem runF_no_panic (ops : List (OpF S.Key)) (h : ∀ o ∈ ops, ¬ Panics o) (p : Package) :
    (runF S pubAlg sha256 ops p).isPanic = false := by
  induction ops generalizing p with
  | nil => rfl
  | cons o os ih =>
    simp only [runF]
    refine Out.bind_not_panic ?_ (fun q _ => ih (fun x hx => h x (List.mem_cons_of_mem _ hx)) q)
    cases hp : (stepF S pubAlg sha256 o p).isPanic with
    | false => rfl
    | true => exact absurd ((stepF_isPanic_iff o p).mp hp) (h o (List.mem_cons_self ..))

/-- **a history panics at its first out-of-range timestamp**: quiet operations before it, from a well-formed start -/
theorem runF_panics_at {p0 : Package} (ha : AlgOk S pubAlg) (wf : MetadataWF p0.md)
    (ok : SigRecsOk S sha256 (writeHeader p0.md.header)) (pre : List (OpF S.Key)) (hq : ∀ o ∈ pre, o.Quiet pubAlg)
    (o : OpF S.Key) (ho : Panics o) (rest : List (OpF S.Key)) :
    (runF S pubAlg sha256 (pre ++ o :: rest) p0).isPanic = true := by
  rw [runF_append, runF_eq_run ha pre hq, run_total (legacyOk_of_algOk ha) wf ok]
  simp only [Out.bind_ok, runF]
  exact Out.bind_isPanic.mpr (.inl ((stepF_isPanic_iff o _).mpr ho))

/-! the history theorems, for histories with failing attempts (`AlgOk` in place of `LegacyOk`) -/

theorem historyF_total {p0 : Package} (ha : AlgOk S pubAlg) (wf : MetadataWF p0.md)
    (ok : SigRecsOk S sha256 (writeHeader p0.md.header)) (ops : List (OpF S.Key)) (hq : ∀ o ∈ ops, o.Quiet pubAlg) :
    runF S pubAlg sha256 ops p0 = .ok (stateOf S sha256 p0 (stateAfter .initial (effectiveOps ops))) := by
  rw [runF_eq_run ha ops hq]; exact run_total (legacyOk_of_algOk ha) wf ok _

theorem historyF_bytes {p0 p : Package} (ha : AlgOk S pubAlg) (wf : MetadataWF p0.md)
    (ok : SigRecsOk S sha256 (writeHeader p0.md.header)) (ops : List (OpF S.Key)) (hq : ∀ o ∈ ops, o.Quiet pubAlg)
    (h : runF S pubAlg sha256 ops p0 = .ok p) :
    writeHeader p.md.header = writeHeader p0.md.header ∧ p.content = p0.content
    ∧ p.md.header = p0.md.header ∧ p.md.lead = p0.md.lead := by
  rw [runF_eq_run ha ops hq] at h; exact history_bytes (legacyOk_of_algOk ha) wf ok _ h

theorem historyF_writeParse {p0 p : Package} (ha : AlgOk S pubAlg) (wf : MetadataWF p0.md)
    (ok : SigRecsOk S sha256 (writeHeader p0.md.header)) (ops : List (OpF S.Key)) (hq : ∀ o ∈ ops, o.Quiet pubAlg)
    (h : runF S pubAlg sha256 ops p0 = .ok p) : writeParse p = .ok p := by
  rw [runF_eq_run ha ops hq] at h; exact history_writeParse (legacyOk_of_algOk ha) wf ok _ h

theorem historyF_digests {p0 p : Package} (ha : AlgOk S pubAlg) (wf : MetadataWF p0.md)
    (ok : SigRecsOk S sha256 (writeHeader p0.md.header)) (hp : PayloadDigestOk sha256 p0) (ops : List (OpF S.Key))
    (hq : ∀ o ∈ ops, o.Quiet pubAlg) (hs : stateAfter .initial (effectiveOps ops) ≠ .initial)
    (h : runF S pubAlg sha256 ops p0 = .ok p) : verifyDigests md5 sha1 sha256 p = .ok () := by
  rw [runF_eq_run ha ops hq] at h; exact history_digests (legacyOk_of_algOk ha) wf ok hp _ hs h

/-- **exactly the key of the last SUCCESSFUL signing verifies** — refused attempts in between do not count -/
theorem historyF_verify {p0 p : Package} (ha : AlgOk S pubAlg) (hc : S.Correct) (hbind : S.Binds) (hb64 : S.B64)
    (wf : MetadataWF p0.md) (ok : SigRecsOk S sha256 (writeHeader p0.md.header)) (hp : PayloadDigestOk sha256 p0)
    (ops : List (OpF S.Key)) (hq : ∀ o ∈ ops, o.Quiet pubAlg) (k : S.Key) (hs : lastSigner (effectiveOps ops) = some k)
    (h : runF S pubAlg sha256 ops p0 = .ok p) (k' : S.Key) :
    verifyWith S md5 sha1 sha256 k' p = .ok () ↔ k' = k := by
  rw [runF_eq_run ha ops hq] at h; exact history_verify (legacyOk_of_algOk ha) hc hbind hb64 wf ok hp _ k hs h k'

theorem historyF_verify_none {p0 p : Package} (ha : AlgOk S pubAlg) (wf : MetadataWF p0.md)
    (ok : SigRecsOk S sha256 (writeHeader p0.md.header)) (hu : Unsigned p0.md.signature)
    (ops : List (OpF S.Key)) (hq : ∀ o ∈ ops, o.Quiet pubAlg) (hs : lastSigner (effectiveOps ops) = none)
    (h : runF S pubAlg sha256 ops p0 = .ok p) (k' : S.Key) : verifyWith S md5 sha1 sha256 k' p ≠ .ok () := by
  rw [runF_eq_run ha ops hq] at h; exact history_verify_none (legacyOk_of_algOk ha) wf ok hu _ hs h k'

theorem historyF_keyids {p0 p : Package} (ha : AlgOk S pubAlg) (hi : S.IssuerOk) (hb64 : S.B64)
    (wf : MetadataWF p0.md) (ok : SigRecsOk S sha256 (writeHeader p0.md.header))
    (ops : List (OpF S.Key)) (hq : ∀ o ∈ ops, o.Quiet pubAlg) (k : S.Key) (hs : lastSigner (effectiveOps ops) = some k)
    (h : runF S pubAlg sha256 ops p0 = .ok p) : keyIds S p = .ok [S.keyId k] := by
  rw [runF_eq_run ha ops hq] at h; exact history_keyids (legacyOk_of_algOk ha) hi hb64 wf ok _ k hs h

theorem historyF_legacy {p0 p : Package} (ha : AlgOk S pubAlg) (wf : MetadataWF p0.md)
    (ok : SigRecsOk S sha256 (writeHeader p0.md.header)) (ops : List (OpF S.Key)) (hq : ∀ o ∈ ops, o.Quiet pubAlg)
    (k : S.Key) (t : Nat) (hs : stateAfter .initial (effectiveOps ops) = .signed k t)
    (h : runF S pubAlg sha256 ops p0 = .ok p) :
    getBinary p.md.signature (S.legacyTag k) = .ok (S.sign k (writeHeader p0.md.header) t) ∧
    (S.legacyTag k = SigTag.RPMSIGTAG_RSA ∨ S.legacyTag k = SigTag.RPMSIGTAG_DSA) := by
  rw [runF_eq_run ha ops hq] at h
  exact ⟨history_legacy (legacyOk_of_algOk ha) wf ok _ k t hs h, legacyOk_of_algOk ha k⟩

/-! the history theorems with `LegacyOk` discharged (`AlgOk` is a statement about the scheme's signatures and the
SCRAPED table, not about the range of tags) -/

theorem run_total_discharged {p0 : Package} (ha : AlgOk S pubAlg) (wf : MetadataWF p0.md)
    (ok : SigRecsOk S sha256 (writeHeader p0.md.header)) (ops : List (Op S.Key)) :
    run S sha256 ops p0 = .ok (stateOf S sha256 p0 (stateAfter .initial ops)) :=
  run_total (legacyOk_of_algOk ha) wf ok ops

theorem history_bytes_discharged {p0 p : Package} (ha : AlgOk S pubAlg) (wf : MetadataWF p0.md)
    (ok : SigRecsOk S sha256 (writeHeader p0.md.header)) (ops : List (Op S.Key)) (h : run S sha256 ops p0 = .ok p) :
    writeHeader p.md.header = writeHeader p0.md.header ∧ p.content = p0.content
    ∧ p.md.header = p0.md.header ∧ p.md.lead = p0.md.lead := history_bytes (legacyOk_of_algOk ha) wf ok ops h

theorem history_digests_discharged {p0 p : Package} (ha : AlgOk S pubAlg) (wf : MetadataWF p0.md)
    (ok : SigRecsOk S sha256 (writeHeader p0.md.header)) (hp : PayloadDigestOk sha256 p0) (ops : List (Op S.Key))
    (hs : stateAfter .initial ops ≠ .initial) (h : run S sha256 ops p0 = .ok p) :
    verifyDigests md5 sha1 sha256 p = .ok () := history_digests (legacyOk_of_algOk ha) wf ok hp ops hs h

theorem history_verify_discharged {p0 p : Package} (ha : AlgOk S pubAlg) (hc : S.Correct) (hbind : S.Binds) (hb64 : S.B64)
    (wf : MetadataWF p0.md) (ok : SigRecsOk S sha256 (writeHeader p0.md.header)) (hp : PayloadDigestOk sha256 p0)
    (ops : List (Op S.Key)) (k : S.Key) (hs : lastSigner ops = some k) (h : run S sha256 ops p0 = .ok p) (k' : S.Key) :
    verifyWith S md5 sha1 sha256 k' p = .ok () ↔ k' = k :=
  history_verify (legacyOk_of_algOk ha) hc hbind hb64 wf ok hp ops k hs h k'

theorem history_verify_none_discharged {p0 p : Package} (ha : AlgOk S pubAlg) (wf : MetadataWF p0.md)
    (ok : SigRecsOk S sha256 (writeHeader p0.md.header)) (hu : Unsigned p0.md.signature)
    (ops : List (Op S.Key)) (hs : lastSigner ops = none) (h : run S sha256 ops p0 = .ok p) (k' : S.Key) :
    verifyWith S md5 sha1 sha256 k' p ≠ .ok () := history_verify_none (legacyOk_of_algOk ha) wf ok hu ops hs h k'

theorem history_keyids_discharged {p0 p : Package} (ha : AlgOk S pubAlg) (hi : S.IssuerOk) (hb64 : S.B64)
    (wf : MetadataWF p0.md) (ok : SigRecsOk S sha256 (writeHeader p0.md.header))
    (ops : List (Op S.Key)) (k : S.Key) (hs : lastSigner ops = some k) (h : run S sha256 ops p0 = .ok p) :
    keyIds S p = .ok [S.keyId k] := history_keyids (legacyOk_of_algOk ha) hi hb64 wf ok ops k hs h

/-- the legacy tag of a signed package is RPMSIGTAG_RSA or RPMSIGTAG_DSA and carries the last signer's raw signature -/
theorem history_legacy_discharged {p0 p : Package} (ha : AlgOk S pubAlg) (wf : MetadataWF p0.md)
    (ok : SigRecsOk S sha256 (writeHeader p0.md.header)) (ops : List (Op S.Key)) (k : S.Key) (t : Nat)
    (hs : stateAfter .initial ops = .signed k t) (h : run S sha256 ops p0 = .ok p) :
    getBinary p.md.signature (S.legacyTag k) = .ok (S.sign k (writeHeader p0.md.header) t) ∧
    (S.legacyTag k = SigTag.RPMSIGTAG_RSA ∨ S.legacyTag k = SigTag.RPMSIGTAG_DSA) :=
  ⟨history_legacy (legacyOk_of_algOk ha) wf ok ops k t hs h, legacyOk_of_algOk ha k⟩

/-! … and for a `PgpScheme` neither `LegacyOk` nor `IssuerOk` nor `AlgOk` is assumed: what is left is that a written
packet reads back (`ParseSeal`) and the cryptography (`Correct`, `Binds`), base64 (`B64`), sizes -/

theorem pgp_history_verify (P : PgpScheme) {p0 p : Package} (hps : P.ParseSeal) (hc : P.toSigScheme.Correct)
    (hbind : P.toSigScheme.Binds) (hb64 : P.toSigScheme.B64) (wf : MetadataWF p0.md)
    (ok : SigRecsOk P.toSigScheme sha256 (writeHeader p0.md.header)) (hp : PayloadDigestOk sha256 p0)
    (ops : List (OpF P.Key)) (hq : ∀ o ∈ ops, o.Quiet P.pubAlg) (k : P.Key)
    (hs : lastSigner (effectiveOps ops) = some k)
    (h : runF P.toSigScheme P.pubAlg sha256 ops p0 = .ok p) (k' : P.Key) :
    verifyWith P.toSigScheme md5 sha1 sha256 k' p = .ok () ↔ k' = k :=
  historyF_verify (P.algOk hps) hc hbind hb64 wf ok hp ops hq k hs h k'

theorem pgp_history_keyids (P : PgpScheme) {p0 p : Package} (hps : P.ParseSeal) (hb64 : P.toSigScheme.B64)
    (wf : MetadataWF p0.md) (ok : SigRecsOk P.toSigScheme sha256 (writeHeader p0.md.header))
    (ops : List (OpF P.Key)) (hq : ∀ o ∈ ops, o.Quiet P.pubAlg) (k : P.Key)
    (hs : lastSigner (effectiveOps ops) = some k)
    (h : runF P.toSigScheme P.pubAlg sha256 ops p0 = .ok p) :
    keyIds P.toSigScheme p = .ok [P.keyId k] :=
  historyF_keyids (P.algOk hps) (P.issuerOk hps) hb64 wf ok ops hq k hs h

end signing_side

section nonvacuity
open RpmVerif.Sign.Sym

def ids (k : UInt8) : Bytes := [k]
abbrev T : SigScheme := scheme ids

def tMd5 (bs : Bytes) : Bytes := [bs.length.toUInt8, bs.foldl (· + ·) 0]
def tSha1 (bs : Bytes) : Bytes := [bs.foldl (· + ·) 0]
def tSha256 (bs : Bytes) : Bytes := [bs.foldl (· ^^^ ·) 0, bs.length.toUInt8, 171]

def content0 : Bytes := [7, 9, 9, 200]

/-- main header as the builder lays it out (records in tag order): name, payload digest, digest algorithm 8 -/
def hdr0 : Header := fromSorted [(IndexTag.RPMTAG_NAME, .str [97, 98, 99]),
    (IndexTag.RPMTAG_PAYLOADDIGEST, .strArray [hexLower (tSha256 content0)]),
    (IndexTag.RPMTAG_PAYLOADDIGESTALGO, .int32 [8])] IndexTag.RPMTAG_HEADERIMMUTABLE

/-- an unsigned package as the builder makes it: digest-only signature header -/
def p0 : Package := ⟨⟨Bld.leadNew [116], clearedSigE tSha256 (writeHeader hdr0), hdr0⟩, content0⟩

-- every hypothesis of the theorems holds for these values
example : T.Correct ∧ T.Binds ∧ T.IssuerOk ∧ T.B64 ∧ T.LegacyOk :=
  ⟨correct ids, binds ids, issuerOk ids, b64 ids, legacyOk ids⟩
theorem p0_reparse : parsePackage (writePackage p0) = .ok p0 := by decide +kernel
theorem p0_wf : MetadataWF p0.md := C16.parsed_wf p0_reparse
theorem p0_recs : SigRecsOk T tSha256 (writeHeader p0.md.header) :=
  sigRecsOk ids tSha256 _ (by decide +kernel)
theorem p0_payload : PayloadDigestOk tSha256 p0 := by unfold PayloadDigestOk; decide +kernel
theorem p0_cleared : stateOf T tSha256 p0 .cleared = p0 := by
  simp only [stateOf, sigFor, clearedSig_eq_E]
  rfl
theorem p0_unsigned : Unsigned p0.md.signature := by
  rw [← p0_cleared]
  exact cleared_unsigned _
theorem p0_digests : verifyDigests tMd5 tSha1 tSha256 p0 = .ok () := by
  rw [← p0_cleared]
  exact digests_cleared p0_payload
example : verifyDigests tMd5 tSha1 tSha256 p0 = .ok () := p0_digests

/-- two concrete agreements, legacy branch included (DSA rejected → `verify`; nothing readable → `nosig`) -/
example : verifyWith T (fun _ => []) (fun _ => []) (fun _ => []) (2 : UInt8)
      ⟨⟨Bld.leadNew [116], ⟨1, 1, [⟨267, .bin [9], 0, 1⟩], [9]⟩, Header.empty⟩, []⟩ = .err "verify"
    ∧ (Verify.verifySignatureS (fun _ => []) (fun _ => []) (fun _ => []) T.b64dec
        (Sign.verifierOf T (2 : UInt8))
        ⟨⟨Bld.leadNew [116], ⟨1, 1, [⟨267, .bin [9], 0, 1⟩], [9]⟩, Header.empty⟩, []⟩).1 = .err "verify"
    ∧ verifyWith T (fun _ => []) (fun _ => []) (fun _ => []) (2 : UInt8)
      ⟨⟨Bld.leadNew [116], Header.empty, Header.empty⟩, []⟩ = .err "nosig" := by decide +kernel

/-- a history: key 2 (DSA tag) signs, write + parse, key 0 (RSA tag) signs, clear, key 3 signs, write + parse -/
def hist : List (Op UInt8) := [.sign 2 5, .writeParse, .sign 0 7, .clear, .sign 3 1, .writeParse]

/-- verify bits for keys 0..3, reported key ids, digests, bytes untouched — after a history (evaluable form) -/
def observe (ops : List (Op UInt8)) : Out (List Bool × Out (List Bytes) × Out Unit × Bool) :=
  (runE T tSha256 ops p0).map fun p =>
    (([0, 1, 2, 3] : List UInt8).map fun k => decide (verifyWith T tMd5 tSha1 tSha256 k p = .ok ()), keyIds T p,
      verifyDigests tMd5 tSha1 tSha256 p,
      decide (writeHeader p.md.header = writeHeader p0.md.header ∧ p.content = p0.content))

/-- what the theorems above say `observe` returns: the sample observations below are instances -/
theorem observe_signed {ops : List (Op T.Key)} {k : T.Key} {t : Nat} (hs : stateAfter .initial ops = .signed k t) :
    observe ops = .ok (([0, 1, 2, 3] : List UInt8).map fun k' => decide (k' = k), .ok [[k]], .ok (), true) := by
  have hr := run_total (sha256 := tSha256) (legacyOk ids) p0_wf p0_recs ops
  rw [run_eq_runE (legacyOk ids), hs] at hr
  simp only [observe, hr, Out.map, verify_signed_iff (legacyOk ids) (correct ids) (binds ids) (b64 ids) p0_payload,
    keyIds_signed (legacyOk ids) (issuerOk ids) (b64 ids), digests_signed (legacyOk ids) p0_payload]
  simp only [stateOf, and_self, decide_true]
  rfl

theorem observe_unsigned {ops : List (Op T.Key)} (hs : lastSigner ops = none) :
    observe ops = .ok ([false, false, false, false], .err "nosig", .ok (), true) := by
  have hr := run_total (sha256 := tSha256) (legacyOk ids) p0_wf p0_recs ops
  have hst : stateOf T tSha256 p0 (stateAfter .initial ops) = p0 := by
    rcases signer_none hs with h | h <;> rw [h]
    · rfl
    · exact p0_cleared
  rw [run_eq_runE (legacyOk ids), hst] at hr
  simp only [observe, hr, Out.map, verify_unsigned p0_unsigned, keyIds_unsigned p0_unsigned, p0_digests, and_self,
    decide_true, decide_false]
  rfl

example : lastSigner hist = some 3 := rfl
example : observe hist = .ok ([false, false, false, true], .ok [[3]], .ok (), true) := observe_signed (k := (3 : UInt8)) (t := 1) rfl
example : observe (hist.take 3) = .ok ([true, false, false, false], .ok [[0]], .ok (), true) := observe_signed (k := (0 : UInt8)) (t := 7) rfl
example : observe (hist.take 2) = .ok ([false, false, true, false], .ok [[2]], .ok (), true) := observe_signed (k := (2 : UInt8)) (t := 5) rfl
example : observe (hist.take 4) = .ok ([false, false, false, false], .err "nosig", .ok (), true) := observe_unsigned rfl
example : observe [] = .ok ([false, false, false, false], .err "nosig", .ok (), true) := observe_unsigned rfl
-- `runE` is `run` (the kernel cannot evaluate `mergeSort`, so the evaluation goes through the sorted form)
example : run T tSha256 hist p0 = runE T tSha256 hist p0 := run_eq_runE (legacyOk ids) _ _ _
-- the general theorems, instantiated
example (p : Package) (h : run T tSha256 hist p0 = .ok p) (k' : UInt8) :
    verifyWith T tMd5 tSha1 tSha256 k' p = .ok () ↔ k' = 3 :=
  history_verify (legacyOk ids) (correct ids) (binds ids) (b64 ids) p0_wf p0_recs p0_payload hist (3 : UInt8) (by decide) h k'
example (p : Package) (h : run T tSha256 hist p0 = .ok p) : keyIds T p = .ok [[3]] :=
  history_keyids (legacyOk ids) (issuerOk ids) (b64 ids) p0_wf p0_recs hist (3 : UInt8) (by decide) h
example (p : Package) (h : run T tSha256 (hist.take 4) p0 = .ok p) (k' : UInt8) :
    verifyWith T tMd5 tSha1 tSha256 k' p ≠ .ok () :=
  history_verify_none (legacyOk ids) p0_wf p0_recs p0_unsigned (hist.take 4) (by decide) h k'


section signing_side_nonvacuity
open RpmVerif.Gen.SigAlgs RpmVerif.AddData

-- the scraped tables, as they stand
example : legacyTagOf 1 = some SigTag.RPMSIGTAG_RSA ∧ legacyTagOf 19 = some SigTag.RPMSIGTAG_DSA ∧
    legacyTagOf 22 = some SigTag.RPMSIGTAG_DSA ∧ legacyTagOf 27 = some SigTag.RPMSIGTAG_DSA ∧ legacyTagOf 17 = none := by decide
example : signerNew 22 = .ok .EdDSA ∧ signerNew 27 = .err "UnsupportedPGPKeyType" ∧ verifierLoad 27 = .ok .EdDSA ∧
    verifierLoad 17 = .err "UnsupportedPGPKeyType" := ⟨rfl, rfl, rfl, rfl⟩
example : mkConfig .EdDSA [1] [2, 2] 5 = ⟨4, 0, 22, 8, [.created 5, .issuer [1], .fingerprint [2, 2]], []⟩ := rfl
example : signerCreated 4294967295 = .ok 4294967295 := rfl
-- chrono's range does end somewhere: the unwrap is not vacuously safe
example : signerCreated 8210266876800 = .panic "timestamp_opt-unwrap" := rfl
-- the symbolic scheme satisfies `AlgOk`, so every `_discharged` / `historyF_*` theorem applies to it
example : AlgOk T Sym.pubAlg := algOk ids

/-- a history with attempts that fail in every way: a refusing signer, a foreign signer whose bytes are no
signature packet, between them real signings with a `u32`, a `SystemTime`, a `DateTime` and the wall clock -/
def histF : List (OpF T.Key) :=
  [.sign (.key (2 : UInt8)) (.src (.chrono ⟨⟨5, 999999999, by decide⟩, 3600⟩)), .sign (.failing "SignError") (.secs 9), .writeParse,
   .sign (.raw [1, 2, 3]) (.src (.sys ⟨7, 0, by decide⟩)), .signNow (.key (0 : UInt8)) ⟨7, 5, by decide⟩,
   .sign (.failing "KeyNotFoundError") (.secs 1), .signNow (.raw []) ⟨8, 0, by decide⟩]

theorem histF_quiet : ∀ o ∈ histF, o.Quiet Sym.pubAlg := by
  intro o ho
  simp only [histF, List.mem_cons, List.not_mem_nil, or_false] at ho
  rcases ho with rfl | rfl | rfl | rfl | rfl | rfl | rfl
  · exact ⟨⟨5, by decide⟩, trivial⟩
  · exact ⟨⟨9, rfl⟩, trivial⟩
  · trivial
  · exact ⟨⟨7, by decide⟩, .inl (by decide)⟩
  · exact ⟨⟨7, by decide⟩, trivial⟩
  · exact ⟨⟨1, rfl⟩, trivial⟩
  · exact ⟨⟨8, by decide⟩, .inl (by decide)⟩

theorem histF_effective : effectiveOps histF = ([.sign (2 : UInt8) 5, .writeParse, .sign (0 : UInt8) 7] : List (Op T.Key)) := by
  simp only [histF, effectiveOps, List.filterMap_cons, List.filterMap_nil, OpF.effective]
  rfl
example : lastSigner (effectiveOps histF) = some (0 : UInt8) := by rw [histF_effective]; rfl
example : runF T Sym.pubAlg tSha256 histF p0 = run T tSha256 ([.sign (2 : UInt8) 5, .writeParse, .sign (0 : UInt8) 7] : List (Op T.Key)) p0 := by
  rw [← histF_effective]; exact runF_eq_run (algOk ids) histF histF_quiet p0
example (p : Package) (h : runF T Sym.pubAlg tSha256 histF p0 = .ok p) (k' : UInt8) :
    verifyWith T tMd5 tSha1 tSha256 k' p = .ok () ↔ k' = 0 :=
  historyF_verify (algOk ids) (correct ids) (binds ids) (b64 ids) p0_wf p0_recs p0_payload histF histF_quiet (0 : UInt8)
    (by rw [histF_effective]; rfl) h k'
example (p : Package) (h : runF T Sym.pubAlg tSha256 histF p0 = .ok p) : keyIds T p = .ok [[0]] :=
  historyF_keyids (algOk ids) (issuerOk ids) (b64 ids) p0_wf p0_recs histF histF_quiet (0 : UInt8)
    (by rw [histF_effective]; rfl) h
-- the state the history ends in is the one the plain history ends in (evaluated above: `observe (hist.take 3)`)
example : runF T Sym.pubAlg tSha256 histF p0 = .ok (stateOf T tSha256 p0 (.signed (0 : UInt8) 7)) := by
  rw [historyF_total (algOk ids) p0_wf p0_recs histF histF_quiet, histF_effective]; rfl

-- failures leave the package alone: each `Err` class
example : signOpE T Sym.pubAlg tSha256 ((SignerE.failing "SignError").sign T) (.secs 9) p0 = .err "SignError" := rfl
example : signOpE T Sym.pubAlg tSha256 ((SignerE.raw [1, 2, 3]).sign T) (.secs 9) p0 = .err "NoSignatureFound" := rfl
-- a foreign signer answering with a token that names a key of an algorithm `build` has no arm for
example : signOpE T (fun _ => some 17) tSha256 ((SignerE.raw [1, 2, 3]).sign T) (.secs 9) p0 = .err "UnsupportedPGPKeyType" :=
  rfl
example : settle p0 (signOpE T Sym.pubAlg tSha256 ((SignerE.raw [1, 2, 3]).sign T) (.secs 9) p0) = .ok p0 :=
  (sign_fail_unchanged _ _ _ "NoSignatureFound" rfl).2

-- the panic: before 1970 / after 2106 as `SystemTime` or `DateTime`, even when the signer would have refused
example : ¬ C17.TsInRange (.src (.sys ⟨-1, 999999999, by decide⟩)) ∧ ¬ C17.TsInRange (.src (.chrono ⟨⟨4294967296, 0, by decide⟩, -3600⟩)) :=
  ⟨fun h => absurd h.1 (by decide), fun h => absurd h.2 (by decide)⟩
example : signOpE T Sym.pubAlg tSha256 ((SignerE.failing "SignError").sign T) (.src (.sys ⟨-1, 999999999, by decide⟩)) p0
    = .panic "timestamp-unwrap-underflow" := rfl
example : signNowE T Sym.pubAlg tSha256 ((SignerE.key (2 : UInt8)).sign T) ⟨4294967296, 0, by decide⟩ p0 = .panic "now-unwrap-overflow" := rfl
example : (runF T Sym.pubAlg tSha256 (histF ++ .sign (.key (1 : UInt8)) (.src (.chrono ⟨⟨-1, 0, by decide⟩, 0⟩)) :: histF) p0).isPanic = true :=
  runF_panics_at (algOk ids) p0_wf p0_recs histF histF_quiet _
    (by exact fun h => absurd h.1 (by decide)) histF

/-! a `PgpScheme` satisfying `ParseSeal`, `Correct`, `Binds`, `B64`: tokens `S k 1…1 0 data` with the creation time in unary -/
def toyP : PgpScheme where
  Key := UInt8
  decEq := inferInstance
  alg := Sym.algOf
  keyId := fun k => [k]
  fingerprint := fun k => [k, k]
  sealSig := fun k m c => 0x53 :: k :: (List.replicate (c.created.getD 0).toNat 1 ++ 0 :: m)
  parse := fun s => match s with
    | a :: k :: r => if a = 0x53 then some (mkConfig (Sym.algOf k) [k] [k, k] ((r.takeWhile (· == 1)).length : Nat)) else none
    | _ => none
  verify := fun k m s => match s with
    | a :: k' :: r => a == 0x53 && k' == k && r.dropWhile (· == 1) == 0 :: m
    | _ => false
  b64enc := Sym.enc
  b64dec := Sym.dec

theorem takeWhile_ones (n : Nat) (m : Bytes) :
    ((List.replicate n (1 : UInt8) ++ 0 :: m).takeWhile (· == 1)).length = n ∧
    (List.replicate n (1 : UInt8) ++ 0 :: m).dropWhile (· == 1) = 0 :: m := by
  induction n with
  | zero => exact ⟨rfl, rfl⟩
  | succ n ih =>
    simp only [List.replicate_succ, List.cons_append, List.takeWhile, List.dropWhile, beq_self_eq_true, List.length_cons]
    exact ⟨by rw [ih.1], ih.2⟩

theorem toyP_created (k : UInt8) (t : Nat) : ((toyP.configOf k t).created.getD 0).toNat = t := by
  show ((mkConfig _ _ _ (t : Int)).created.getD 0).toNat = t
  rw [mkConfig_created]; simp

theorem toyP_parseSeal : toyP.ParseSeal := by
  intro (k : UInt8) m t
  show (if (0x53 : UInt8) = 0x53 then some (mkConfig (Sym.algOf k) [k] [k, k]
    (((List.replicate ((toyP.configOf k t).created.getD 0).toNat (1 : UInt8) ++ 0 :: m).takeWhile (· == 1)).length : Nat)) else none) = _
  rw [toyP_created, (takeWhile_ones t m).1]
  rfl

theorem toyP_verify_sign (k k' : UInt8) (m m' : Bytes) (t : Nat) :
    toyP.toSigScheme.verify k' m' (toyP.toSigScheme.sign k m t) = (k == k' && m == m') := by
  show ((0x53 : UInt8) == 0x53 && k == k' &&
    (List.replicate ((toyP.configOf k t).created.getD 0).toNat (1 : UInt8) ++ 0 :: m).dropWhile (· == 1) == 0 :: m') = _
  rw [toyP_created, (takeWhile_ones t m).2]
  simp

theorem toyP_correct : toyP.toSigScheme.Correct := by
  intro (k : UInt8) m t
  rw [toyP_verify_sign]
  simp

theorem toyP_binds : toyP.toSigScheme.Binds := by
  intro (k : UInt8) (k' : UInt8) m m' t h
  rw [toyP_verify_sign] at h
  simp only [Bool.and_eq_true, beq_iff_eq] at h
  exact ⟨h.1.symm, h.2.symm⟩

example : toyP.ParseSeal ∧ toyP.toSigScheme.Correct ∧ toyP.toSigScheme.Binds ∧ toyP.toSigScheme.B64 ∧
    toyP.toSigScheme.IssuerOk ∧ toyP.toSigScheme.LegacyOk ∧ AlgOk toyP.toSigScheme toyP.pubAlg :=
  ⟨toyP_parseSeal, toyP_correct, toyP_binds, b64 ids, pgp_issuerOk toyP toyP_parseSeal, pgp_legacyOk toyP, pgp_algOk toyP toyP_parseSeal⟩
example : toyP.signerSign (2 : UInt8) [9] 3 = .ok [0x53, 2, 1, 1, 1, 0, 9] := rfl

end signing_side_nonvacuity

end nonvacuity

end RpmVerif.C10
