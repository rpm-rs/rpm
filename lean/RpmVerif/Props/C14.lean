import RpmVerif.Lemmas.Io
import RpmVerif.Lemmas.BufWriter
import RpmVerif.Props.C01
/-!
# C14 — serialisation does not depend on how the sink or source chunks I/O

Sink side: for EVERY package and EVERY response script (any length: all chunkings, any placement
of `Interrupted`, `Ok(0)` and hard failures), running the serialiser's call sequence `prog p`
emits a prefix of the canonical bytes `writePackage p`, and all of them if it reports success.
This rests on every call being a `write_all` (`prog_all_writeAll`, what fix d0a93f9 established);
with a single plain `write` the statement is false (`once_counterexample`).
The same on sinks keyed on the bytes accepted so far (what the harness' scripted sinks are): a program of
`write_all`s fails at exactly the sink's limit, whatever the grouping of its calls (`write_failure_offset`,
`write_no_failure`, `grouping_independent`).
`Package::write_file`: the same prefix-or-all guarantee through the `BufWriter` and the file, for every capacity and
every behaviour of the file (`write_file_prefix_or_all`); the code before d2dbd7b returned `Ok` on a failing file
(`write_file_old_witness`).
Source side: `Package::parse` over a source that splits its reads in ANY way (with `Interrupted`
anywhere) equals the list-level parser of C01 (`read_chunk_indep`), and every input cut before the payload starts is
rejected with an end-of-input error (`truncated_is_error`).
Both ends together: `write_file` followed by `open` is write + re-parse (`write_file_then_open`, `open_write_file_open`).
Last, the instances on the 194-byte sample.
-/
namespace RpmVerif.C14
open RpmVerif.Hdr RpmVerif.Io RpmVerif.Gen

/-- the serialiser's call sequence emits, in total, exactly the canonical bytes of C01's model -/
theorem concat_prog (p : Package) : concat (prog p) = writePackage p := by
  rw [prog, concat_append, concat_progMetadata, writePackage]
  simp [concat, Act.buf]

/-- every call `Package::write` makes is a `write_all` (true since d0a93f9; before it the four
calls per index entry were plain `write`s) -/
theorem prog_all_writeAll (p : Package) : ∀ a ∈ prog p, a.isAll = true :=
  List.forall_mem_append.mpr ⟨all_progMetadata _, all_of_eval rfl⟩

/-- the general form: ANY program made only of `write_all` calls, against ANY response script,
emits a prefix of what it wants to emit, all of it on success, and is `starved` only if the
script ran out. (So regrouping / merging / buffering calls in the serialiser keeps the property.) -/
theorem write_prefix_or_all_general (acts : List Act) (hall : ∀ a ∈ acts, a.isAll = true) (rs : List Resp)
    {emitted : Bytes} {st : St} {rest : List Resp} (h : run acts rs = (emitted, st, rest)) :
    emitted <+: concat acts ∧ (st = .ok → emitted = concat acts) ∧ (st = .starved → rest = []) := by
  have := run_spec acts hall rs
  rwa [h] at this

/-- **Main theorem (sink side).** `Package::write` into any sink obeying the `Write` contract:
a prefix of the canonical bytes, and exactly the canonical bytes when it returns `Ok`. -/
theorem write_prefix_or_all (p : Package) (rs : List Resp) {emitted : Bytes} {st : St} {rest : List Resp}
    (h : run (prog p) rs = (emitted, st, rest)) :
    emitted <+: writePackage p ∧ (st = .ok → emitted = writePackage p) ∧ (st = .starved → rest = []) := by
  rw [← concat_prog]
  exact write_prefix_or_all_general _ (prog_all_writeAll p) rs h

/-- the same for `PackageMetadata::write` -/
theorem write_prefix_or_all_metadata (m : Metadata) (rs : List Resp) {emitted : Bytes} {st : St} {rest : List Resp}
    (h : run (progMetadata m) rs = (emitted, st, rest)) :
    emitted <+: writeMetadata m ∧ (st = .ok → emitted = writeMetadata m) ∧ (st = .starved → rest = []) := by
  rw [← concat_progMetadata]
  exact write_prefix_or_all_general _ (all_progMetadata m) rs h

/-- **Documented negative.** With one plain `write` (count ignored) the conclusion fails: a sink
that takes one byte per call lets the program report success after emitting bytes that are not even
a prefix of what it meant to write. This is why `write_all` matters. -/
theorem once_counterexample :
    ∃ (acts : List Act) (rs : List Resp), (run acts rs).2.1 = .ok ∧ ¬ ((run acts rs).1 <+: concat acts) :=
  ⟨[.once [0, 0, 3, 232], .all [9]], [.ok 1, .ok 1], by decide, by decide⟩

/-- the pre-fix serialiser of an index entry (four plain `write`s), for the second witness -/
def progEntryOld (e : Entry) : List Act :=
  [.once (be32 e.tag), .once (be32 e.data.typeCode), .once (be32 e.off), .once (be32 e.cnt)]

/-- the pre-fix behaviour on a one-entry header: a 1-byte sink gets `Ok` with 21 of the 33 bytes -/
theorem once_counterexample_header :
    let h : Header := ⟨1, 1, [⟨1000, .str [], 0, 1⟩], [0]⟩
    let old := progIntro h.nEntries h.dataSize ++ progEntryOld ⟨1000, .str [], 0, 1⟩ ++ [.all h.store]
    concat old = writeHeader h
    ∧ (run old (List.replicate 40 (.ok 1))).2.1 = .ok
    ∧ (run old (List.replicate 40 (.ok 1))).1.length = 21
    ∧ (writeHeader h).length = 33 := by
  decide +kernel

/-! ### sinks keyed on the bytes accepted so far: the observable the correspondence compares -/

theorem all_eq_map {acts : List Act} (hall : ∀ a ∈ acts, a.isAll = true) : acts = (acts.map Act.buf).map Act.all := by
  induction acts with
  | nil => rfl
  | cons a as ih =>
    have ha := hall a (by simp)
    cases a with
    | once b => simp [Act.isAll] at ha
    | all b =>
      rw [List.map_cons, List.map_cons, ← ih (fun a' m => hall a' (by simp [m]))]
      rfl

theorem run_keyed (acts : List Act) (hall : ∀ a ∈ acts, a.isAll = true) (pat : List Chunk) (hwf : ScriptWF pat) (N : Nat)
    {atLimit : Resp} (ha : atLimit = .fail ∨ atLimit = .ok 0) :
    run acts (respRunK atLimit N (acts.map Act.buf) pat 0) =
      ((concat acts).take N, if (concat acts).length ≤ N then .ok else .err, []) := by
  have h := run_respRunK ha N (acts.map Act.buf) pat 0 []
  obtain ⟨e1, e2⟩ := runK_spec N (acts.map Act.buf) pat 0 hwf (Nat.zero_le _)
  rw [← all_eq_map hall, List.append_nil, e1, e2, Nat.sub_zero, Nat.zero_add] at h
  exact h

/-- **Failure offsets.** A sink that accepts bytes according to any chunk pattern (sizes ≥ 1,
`Interrupted` anywhere) until `N` bytes are in and fails every later call (hard error or `Ok(0)`):
any program of `write_all`s that wants to emit more than `N` bytes ends in an error having emitted
exactly the first `N` bytes — whatever the grouping of its calls. Stated on the sink's behaviour as
a response script (`respRunK`), i.e. inside the semantics `write_prefix_or_all` quantifies over. -/
theorem write_failure_offset (acts : List Act) (hall : ∀ a ∈ acts, a.isAll = true) (pat : List Chunk)
    (hwf : ScriptWF pat) (N : Nat) (hN : N < (concat acts).length) {atLimit : Resp} (ha : atLimit = .fail ∨ atLimit = .ok 0) :
    run acts (respRunK atLimit N (acts.map Act.buf) pat 0) = ((concat acts).take N, .err, []) := by
  rw [run_keyed acts hall pat hwf N ha, if_neg (Nat.not_le.mpr hN)]

theorem write_no_failure (acts : List Act) (hall : ∀ a ∈ acts, a.isAll = true) (pat : List Chunk)
    (hwf : ScriptWF pat) (N : Nat) (hN : (concat acts).length ≤ N) {atLimit : Resp} (ha : atLimit = .fail ∨ atLimit = .ok 0) :
    run acts (respRunK atLimit N (acts.map Act.buf) pat 0) = (concat acts, .ok, []) := by
  rw [run_keyed acts hall pat hwf N ha, if_pos hN, List.take_of_length_le hN]

/-- `Package::write` against such a sink -/
theorem write_failure_offset_package (p : Package) (pat : List Chunk) (hwf : ScriptWF pat) (N : Nat)
    (hN : N < (writePackage p).length) {atLimit : Resp} (ha : atLimit = .fail ∨ atLimit = .ok 0) :
    run (prog p) (respRunK atLimit N ((prog p).map Act.buf) pat 0) = ((writePackage p).take N, .err, []) := by
  have := write_failure_offset (prog p) (prog_all_writeAll p) pat hwf N (by rw [concat_prog]; exact hN) ha
  rw [concat_prog] at this
  exact this

/-- grouping independence, stated directly on keyed sinks: two `write_all` programs with the same
total output are indistinguishable (bytes emitted, result) by any keyed sink -/
theorem grouping_independent (b1 b2 : List Bytes) (h : b1.flatten = b2.flatten) (pat1 pat2 : List Chunk)
    (h1 : ScriptWF pat1) (h2 : ScriptWF pat2) (N : Nat) :
    (runK N b1 pat1 0).1 = (runK N b2 pat2 0).1 ∧ (runK N b1 pat1 0).2.1 = (runK N b2 pat2 0).2.1 := by
  obtain ⟨a1, a2⟩ := runK_spec N b1 pat1 0 h1 (Nat.zero_le _)
  obtain ⟨c1, c2⟩ := runK_spec N b2 pat2 0 h2 (Nat.zero_le _)
  rw [a1, a2, c1, c2, h]
  exact ⟨rfl, rfl⟩

/-! ## `Package::write_file`: the same guarantee through `BufWriter` and the file

`write_file` = `Package::write` into a `BufWriter` around the file, an explicit `flush()?` (fix d2dbd7b),
then the drop of the `BufWriter` (one more `flush_buf` whose result is discarded).  The file is the inner
sink: ANY response script (short writes, EINTR, ENOSPC / EFBIG / EIO at any byte). -/

/-- the buffers `Package::write` hands to its sink, in order -/
def bufs (p : Package) : List Bytes := (prog p).map Act.buf

theorem bufs_flatten (p : Package) : (bufs p).flatten = writePackage p := by
  rw [← concat_prog]; rfl

/-- **Main theorem (`write_file`).** For EVERY package, EVERY buffer capacity and EVERY behaviour of the
file: the bytes that reached the file are a prefix of the canonical bytes, and all of them when
`write_file` returns `Ok`. -/
theorem write_file_prefix_or_all (cap : Nat) (p : Package) (rs : List Resp) :
    (writeFile cap (bufs p) rs).1 <+: writePackage p
      ∧ ((writeFile cap (bufs p) rs).2 = .ok → (writeFile cap (bufs p) rs).1 = writePackage p) :=
  bufs_flatten p ▸ writeFile_spec cap (bufs p) rs

/-- … in general: any sequence of `write_all` calls through a `BufWriter`, flushed, dropped -/
theorem write_file_prefix_or_all_general (cap : Nat) (ds : List Bytes) (rs : List Resp) :
    (writeFile cap ds rs).1 <+: ds.flatten ∧ ((writeFile cap ds rs).2 = .ok → (writeFile cap ds rs).1 = ds.flatten) :=
  writeFile_spec cap ds rs

/-- **Documented negative (the code before d2dbd7b).** Without the explicit flush, a file that rejects
every write (`/dev/full`: ENOSPC) makes `write_file` return `Ok` with nothing written, whenever the
package is smaller than the buffer: here 3 bytes through a buffer of 8. -/
theorem write_file_old_witness :
    writeFileOld 8 [[1], [2, 3]] [.fail] = ([], .ok) ∧ writeFile 8 [[1], [2, 3]] [.fail, .fail] = ([], .err) :=
  (writeFile_fits_fail 8 [[1], [2, 3]] [] (by decide) (by decide)).symm

/-- the old code was wrong only in its result, never in the bytes: still a prefix -/
theorem write_file_old_prefix (cap : Nat) (p : Package) (rs : List Resp) :
    (writeFileOld cap (bufs p) rs).1 <+: writePackage p :=
  bufs_flatten p ▸ writeFileOld_prefix cap (bufs p) rs

/-- **Main theorem (source side).** However the source splits its reads — any chunk sizes ≥ 1,
`Interrupted` anywhere, any script length — `Package::parse` gives the result of the list-level
parser (value, error class or panic alike). -/
theorem read_chunk_indep (bs : Bytes) (script : List Chunk) (hwf : ScriptWF script) :
    parseChunked bs script = parsePackage bs :=
  parseChunked_eq bs script hwf

theorem read_chunk_indep_pair (bs : Bytes) (s1 s2 : List Chunk) (h1 : ScriptWF s1) (h2 : ScriptWF s2) :
    parseChunked bs s1 = parseChunked bs s2 := by
  rw [read_chunk_indep bs s1 h1, read_chunk_indep bs s2 h2]

theorem payload_starts_at {bs : Bytes} {p : Package} (hp : parsePackage bs = .ok p) :
    (writeMetadata p.md).length ≤ bs.length ∧ bs.drop (writeMetadata p.md).length = p.content := by
  obtain ⟨res1, pad, res2, l1, lp, l2, hbs, wf⟩ := parsePackage_ok hp
  rw [hbs, ← metaBytes_len wf l1 lp l2, List.length_append]
  exact ⟨Nat.le_add_right _ _, List.drop_left⟩

/-- **Truncation.** An accepted input cut anywhere before its payload starts is an error (never a
value, never a panic): precisely the end-of-input error. -/
theorem truncated_is_error {bs : Bytes} {p : Package} (hp : parsePackage bs = .ok p) (k : Nat)
    (hk : k < (writeMetadata p.md).length) : parsePackage (bs.take k) = .err "eof" := by
  obtain ⟨res1, pad, res2, l1, lp, l2, hbs, wf⟩ := parsePackage_ok hp
  rw [← metaBytes_len wf l1 lp l2] at hk
  rw [hbs, List.take_append_of_le_length (Nat.le_of_lt hk), parsePackage, parseMetadata_trunc wf l1 lp l2 k hk]
  rfl

theorem truncated_is_error_chunked {bs : Bytes} {p : Package} (hp : parsePackage bs = .ok p) (k : Nat)
    (hk : k < (writeMetadata p.md).length) (script : List Chunk) (hwf : ScriptWF script) :
    parseChunked (bs.take k) script = .err "eof" := by
  rw [read_chunk_indep _ _ hwf, truncated_is_error hp k hk]

/-- **`Package::write_file(path)` followed by `Package::open(path)` is write + re-parse.** For EVERY package value, EVERY
buffer capacity of the `BufWriter`, EVERY behaviour of the file while it is written (any response script) for which
`write_file` returns `Ok`, and EVERY way the `BufReader<File>` then splits its reads (any well-formed chunk script):
opening the file gives exactly what `Package::parse` gives on the bytes `Package::write` emits into a `Vec`
(`Sign.writeParse`, the `w` step of C10's histories; C10's step `W` and C01's `openrt01` exercise this). -/
theorem write_file_then_open (cap : Nat) (p : Package) (rs : List Resp) (hok : (writeFile cap (bufs p) rs).2 = .ok)
    (script : List Chunk) (hwf : ScriptWF script) :
    parseChunked (writeFile cap (bufs p) rs).1 script = parsePackage (writePackage p) := by
  rw [read_chunk_indep _ _ hwf, (write_file_prefix_or_all cap p rs).2 hok]

/-- … and for a value that was itself parsed (from ANY source kind: slice, `Cursor`, `open`), the file holds the
canonical bytes of the input and opens to the same value. -/
theorem open_write_file_open {bs : Bytes} {p : Package} (script0 : List Chunk) (h0 : ScriptWF script0)
    (hp : parseChunked bs script0 = .ok p) (cap : Nat) (rs : List Resp) (hok : (writeFile cap (bufs p) rs).2 = .ok)
    (script : List Chunk) (hwf : ScriptWF script) :
    (writeFile cap (bufs p) rs).1 = writePackage p ∧ parseChunked (writeFile cap (bufs p) rs).1 script = .ok p := by
  rw [read_chunk_indep _ _ h0] at hp
  refine ⟨(write_file_prefix_or_all cap p rs).2 hok, ?_⟩
  rw [write_file_then_open cap p rs hok script hwf, writePackage, writeMetadata_eq]
  exact parsePackage_write (parsePackage_wf hp) rfl List.length_replicate rfl p.content

/-- the accepted sample of C01 (non-zero reserved bytes and padding, BIN / STRING / INT32 entries, 2 payload bytes; 194 bytes) -/
def sample : Bytes := [237, 171, 238, 219, 3, 0, 0, 0, 0, 1, 116, 0, 0, 0, 0, 0, 0, 0, 0, 0, 0, 0, 0, 0, 0, 0, 0, 0, 0, 0, 0, 0, 0, 0, 0, 0, 0, 0, 0, 0, 0, 0, 0, 0, 0, 0, 0, 0, 0, 0, 0, 0, 0, 0, 0, 0, 0, 0, 0, 0, 0, 0, 0, 0, 0, 0, 0, 0, 0, 0, 0, 0, 0, 0, 0, 0, 0, 1, 0, 5, 0, 0, 0, 0, 0, 0, 0, 0, 0, 0, 0, 0, 0, 0, 0, 0, 142, 173, 232, 1, 170, 187, 204, 221, 0, 0, 0, 1, 0, 0, 0, 5, 0, 0, 3, 232, 0, 0, 0, 7, 0, 0, 0, 0, 0, 0, 0, 5, 104, 101, 108, 108, 111, 7, 7, 7, 142, 173, 232, 1, 1, 2, 3, 4, 0, 0, 0, 2, 0, 0, 0, 8, 0, 0, 3, 232, 0, 0, 0, 6, 0, 0, 0, 0, 0, 0, 0, 1, 0, 0, 3, 233, 0, 0, 0, 4, 0, 0, 0, 4, 0, 0, 0, 1, 97, 98, 99, 0, 0, 0, 0, 7, 9, 9]

/-- a mixed response script: short writes, interrupts, then 1 byte per call -/
def mixedScript : List Resp := [.ok 3, .intr, .ok 1, .intr, .intr, .ok 100, .ok 2] ++ List.replicate 200 (.ok 1)

theorem sample_parsed : parsePackage sample = .ok C01.samplePkg := C01.sample_parsed

example : (parsePackage sample).isOk = true := by rw [sample_parsed]; rfl
-- the serialiser makes 9 + (5 + 4 + 1) + 1 + (5 + 8 + 1) + 1 = 35 calls for it, all of them write_all
example : (parsePackage sample).map (fun p => (prog p).length) = .ok 35 := by rw [sample_parsed]; decide +kernel
-- success on a chunking + interrupting sink: all 194 canonical bytes
example : (parsePackage sample).map (fun p => ((run (prog p) mixedScript).2.1, (run (prog p) mixedScript).1 == writePackage p,
    (writePackage p).length)) = .ok (.ok, true, 194) := by
  have hst : (run (prog C01.samplePkg) mixedScript).2.1 = .ok := by decide +kernel
  have hall := ((run_spec _ (prog_all_writeAll C01.samplePkg) mixedScript).2.1 hst).trans (concat_prog _)
  have hlen : (writePackage C01.samplePkg).length = 194 := by decide +kernel
  rw [sample_parsed, Out.map, hst, hall, hlen, beq_self_eq_true]
-- responses are per call and clamped to the buffer: `ok 100` on the 4-byte magic takes 4, `ok 4` on the 1-byte
-- major takes 1, then a hard failure: error with 5 bytes emitted (a strict prefix)
example : (parsePackage sample).map (fun p =>
    let r := run (prog p) [.ok 100, .ok 4, .fail]
    (r.2.1, r.1 == (writePackage p).take 5)) = .ok (.err, true) := by rw [sample_parsed]; decide +kernel
-- Ok(0) is an error, too (WriteZero); a script that ends early leaves the call pending (starved)
example : (parsePackage sample).map (fun p => (run (prog p) [.ok 7, .ok 0]).2.1) = .ok .err := by rw [sample_parsed]; decide +kernel
example : (parsePackage sample).map (fun p => (run (prog p) [.ok 7, .intr]).2) = .ok (.starved, []) := by rw [sample_parsed]; decide +kernel
-- keyed sink, pattern of 3-byte chunks with interrupts, failing at 50: its script makes `run` fail with 50 bytes
example : ScriptWF [.size 3, .intr, .size 2] := by decide
example : (parsePackage sample).map (fun p =>
    let r := run (prog p) (respRunK .fail 50 ((prog p).map Act.buf) [.size 3, .intr, .size 2] 0)
    (r.2.1, r.1.length)) = .ok (.err, 50) := by rw [sample_parsed]; decide +kernel

theorem sample_written : (writeFile 16 (bufs C01.samplePkg) (List.replicate 100 (.ok 5))).2 = .ok := by decide +kernel

-- write_file through a 16-byte BufWriter into a file taking 5 bytes per call: all 194 bytes, Ok
example : (parsePackage sample).map (fun p => ((writeFile 16 (bufs p) (List.replicate 100 (.ok 5))).2,
    (writeFile 16 (bufs p) (List.replicate 100 (.ok 5))).1 == writePackage p)) = .ok (.ok, true) := by
  rw [sample_parsed, Out.map, sample_written, (write_file_prefix_or_all 16 _ _).2 sample_written, beq_self_eq_true]
-- … and into a file that fails after three short writes (EFBIG): error, a strict non-empty prefix on disk
-- (short writes against partly filled buffers: 17 bytes got through before the failure)
example : (parsePackage sample).map (fun p =>
    let r := writeFile 16 (bufs p) ([.ok 7, .ok 7, .ok 7] ++ List.replicate 10 .fail)
    (r.2, r.1.length, r.1 == (writePackage p).take 17)) = .ok (.err, 17, true) := by rw [sample_parsed]; decide +kernel
-- the whole package fits the buffer (cap 8192 > 194): a failing file is only noticed by the final flush
example : (parsePackage sample).map (fun p => (writeFile 8192 (bufs p) [.fail, .fail], writeFileOld 8192 (bufs p) [.fail])) =
    .ok (([], .err), ([], .ok)) := by
  have hl : (bufs C01.samplePkg).flatten.length = 194 := by decide +kernel
  have key := writeFile_fits_fail 8192 (bufs C01.samplePkg) [] (by rw [hl]; decide)
    (List.ne_nil_of_length_pos (by rw [hl]; decide))
  rw [sample_parsed, Out.map, key.1, key.2]
-- source side: 1-byte reads with interrupts, then larger chunks: same package
example : parseChunked sample ([.size 1, .intr, .size 1, .size 7, .intr] ++ List.replicate 150 (.size 1)) = parsePackage sample :=
  read_chunk_indep _ _ (by decide +kernel)
-- the hypothesis of `read_chunk_indep` is needed: a source that answers `Ok(0)` before the end breaks the Read contract
example : parseChunked sample [.size 0] = .err "eof" ∧ (parsePackage sample).isOk = true :=
  ⟨by decide +kernel, by rw [sample_parsed]; rfl⟩
-- truncation: the payload of the sample starts at 192; cut at 191 → error, at 192 → accepted (empty payload)
theorem sample_payload_at : (writeMetadata C01.samplePkg.md).length = 192 := by decide +kernel

example : (parsePackage sample).map (fun p => (writeMetadata p.md).length) = .ok 192 := by
  rw [sample_parsed, Out.map, sample_payload_at]
example : parsePackage (sample.take 191) = .err "eof" :=
  truncated_is_error sample_parsed 191 (by rw [sample_payload_at]; decide)
example : (parsePackage (sample.take 192)).isOk = true := by decide +kernel
-- write_file through a 16-byte BufWriter into a file that takes 5 bytes per call, then opened through 7-byte reads: the value again
example : (parsePackage sample).map (fun p =>
    ((writeFile 16 (bufs p) (List.replicate 100 (.ok 5))).2,
     parseChunked (writeFile 16 (bufs p) (List.replicate 100 (.ok 5))).1 (List.replicate 60 (.size 7)) == .ok p)) = .ok (.ok, true) := by
  have hp : parseChunked sample [] = .ok C01.samplePkg := (read_chunk_indep _ _ (by decide)).trans sample_parsed
  rw [sample_parsed, Out.map, sample_written,
    (open_write_file_open [] (by decide) hp 16 _ sample_written (List.replicate 60 (.size 7)) (by decide +kernel)).2,
    beq_self_eq_true]
example : ScriptWF (List.replicate 60 (Chunk.size 7)) := by decide +kernel

end RpmVerif.C14
