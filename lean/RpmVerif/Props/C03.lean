import RpmVerif.Lemmas.Digest
import RpmVerif.Props.C01
/-!
# C03 — digest verification succeeds exactly when all recorded digests match

All theorems hold for EVERY `Package` value (parsed or not, any entry counts, duplicated tags, wrong types, …)
and for ANY three hash functions `H : Hashes` (the `md-5` / `sha1` / `sha2` crates are parameters).

Through `Digest.verifyDigests_eq_outcome` the verdict is that of the first recorded digest, in the order md5, sha1,
sha256, payload, that is unsupported or differs; `model_satisfies_spec` ties it to the spec's `judge`, the verdict
function the driver applies to the real implementation's observation.
-/
namespace RpmVerif.C03
open RpmVerif.Hdr RpmVerif.Gen RpmVerif.DigestSpec RpmVerif.Digest RpmVerif.Canon

/-! ### shape of `Recorded`: three always-supported records, then at most one payload record -/

theorem recorded_shape (p : Package) :
    ∃ A B, Recorded p = A ++ B ∧ (∀ r ∈ A, Supported r.which) ∧ ∀ r ∈ B, B = [r] := by
  refine ⟨recMd5 p.md.signature ++ recSha1 p.md.signature ++ recSha256 p.md.signature, recPayload p.md.header, rfl, ?_, ?_⟩
  · intro r hr
    simp only [List.mem_append] at hr
    rcases hr with (hr | hr) | hr
    · unfold recMd5 at hr; split at hr <;> simp at hr; subst hr; trivial
    · unfold recSha1 at hr; split at hr <;> simp at hr; subst hr; trivial
    · unfold recSha256 at hr; split at hr <;> simp at hr; subst hr; trivial
  · unfold recPayload; split <;> simp

theorem outcome_supported (H : Hashes) (p : Package) (l : List Rec) (hl : ∀ r ∈ l, Supported r.which) :
    outcome H p l = .ok () ∨ outcome H p l = .err "mismatch" := by
  rw [outcome_find]
  split
  · exact .inl rfl
  · rename_i r hs
    exact .inr (by simp only [failureOf, hl r (List.mem_of_find?_eq_some hs), if_true])

/-- **success ⇔ all recorded digests match** (and their algorithm is one that can be recomputed) -/
theorem digests_iff (H : Hashes) (p : Package) :
    verifyDigests H.md5 H.sha1 H.sha256 p = .ok () ↔
      ∀ r ∈ Recorded p, Supported r.which ∧ r.declared = some (recompute H p r.which) := by
  rw [verifyDigests_eq_outcome, outcome_ok_iff]; rfl

/-- a number `DigestAlgorithm::from_u32` accepts -/
def KnownAlgo (a : Nat) : Prop := ∃ name, (name, a) ∈ digestAlgoTable

theorem known_iff (a : Nat) : (algoFromU32 a).isSome = true ↔ KnownAlgo a := by
  simp only [algoFromU32, Option.isSome_map, List.find?_isSome, KnownAlgo]
  constructor
  · rintro ⟨⟨n, a'⟩, hm, he⟩
    simp only [beq_iff_eq] at he
    exact ⟨n, he ▸ hm⟩
  · rintro ⟨n, hm⟩
    exact ⟨(n, a), hm, by simp⟩

/-- **check order**: with `Recorded p` in the order md5, sha1, sha256, payload, the FIRST record that is not fine
decides the result: a supported digest that differs gives the mismatch error; a payload digest under a known but
unsupported algorithm gives `UnsupportedDigestAlgorithm`, under an unknown number `InvalidTagValueEnumVariant`. -/
theorem digests_first_failure (H : Hashes) (p : Package) (pre post : List Rec) (r : Rec)
    (hrec : Recorded p = pre ++ r :: post)
    (hpre : ∀ x ∈ pre, Supported x.which ∧ x.declared = some (recompute H p x.which))
    (hr : ¬ (Supported r.which ∧ r.declared = some (recompute H p r.which))) :
    (Supported r.which → verifyDigests H.md5 H.sha1 H.sha256 p = .err "mismatch")
    ∧ (∀ a, r.which = .payload a → ¬ Supported r.which → KnownAlgo a →
        verifyDigests H.md5 H.sha1 H.sha256 p = .err "unsupported")
    ∧ (∀ a, r.which = .payload a → ¬ Supported r.which → ¬ KnownAlgo a →
        verifyDigests H.md5 H.sha1 H.sha256 p = .err "enum-variant") := by
  rw [verifyDigests_eq_outcome, hrec, outcome_first_failure H p pre post r hpre hr]
  refine ⟨fun hs => by simp [failureOf, hs], fun a ha hs hk => ?_, fun a ha hs hk => ?_⟩
  · have hs' : ¬ Supported (.payload a) := ha ▸ hs
    simp only [failureOf, ha, hs', if_false, (known_iff a).mpr hk, if_true]
  · have hs' : ¬ Supported (.payload a) := ha ▸ hs
    have : (algoFromU32 a).isSome = false := by
      cases h : (algoFromU32 a).isSome
      · rfl
      · exact absurd ((known_iff a).mp h) hk
    simp [failureOf, ha, hs', this]

/-- **any supported recorded digest that differs ⇒ the digest-mismatch error** (whatever else is recorded:
the only record that can be unsupported is checked last) -/
theorem digests_mismatch (H : Hashes) (p : Package)
    (h : ∃ r ∈ Recorded p, Supported r.which ∧ r.declared ≠ some (recompute H p r.which)) :
    verifyDigests H.md5 H.sha1 H.sha256 p = .err "mismatch" := by
  obtain ⟨A, B, hAB, hA, hB⟩ := recorded_shape p
  obtain ⟨r, hr, hs, hd⟩ := h
  rw [verifyDigests_eq_outcome, hAB, outcome_append]
  rw [hAB, List.mem_append] at hr
  rcases outcome_supported H p A hA with hok | hmm
  · rw [hok, Out.bind_ok]
    rcases hr with hr | hr
    · exact absurd ((outcome_ok_iff H p A).mp hok r hr).2 hd
    · have hng : ¬ Rec.good H p r := fun hg => hd hg.2
      rw [hB r hr]
      simp only [outcome, hng, if_false, failureOf, hs, if_true]
  · rw [hmm]; rfl

theorem digests_total (H : Hashes) (p : Package) : (verifyDigests H.md5 H.sha1 H.sha256 p).isPanic = false :=
  verifyDigests_total H.md5 H.sha1 H.sha256 p

/-- **a recorded payload digest with an unsupported algorithm (known or unknown number) ⇒ an error; never
success, never a panic** -/
theorem digests_unsupported (H : Hashes) (p : Package) (h : ∃ r ∈ Recorded p, ¬ Supported r.which) :
    ∃ c, verifyDigests H.md5 H.sha1 H.sha256 p = .err c := by
  obtain ⟨r, hr, hs⟩ := h
  have hnok : verifyDigests H.md5 H.sha1 H.sha256 p ≠ .ok () := fun hok => hs ((digests_iff H p).mp hok r hr).1
  have hnp := digests_total H p
  cases hv : verifyDigests H.md5 H.sha1 H.sha256 p with
  | ok u => exact absurd hv hnok
  | err c => exact ⟨c, rfl⟩
  | panic s => rw [hv] at hnp; cases hnp

/-- the class of that error when every other recorded digest matches: `UnsupportedDigestAlgorithm` for the
numbers of the enum, `InvalidTagValueEnumVariant` for all others -/
theorem digests_unsupported_class (H : Hashes) (p : Package) (pre : List Rec) (a : Nat) (d : Option Bytes)
    (hrec : Recorded p = pre ++ [⟨.payload a, d⟩]) (hs : ¬ Supported (.payload a))
    (hpre : ∀ x ∈ pre, Supported x.which ∧ x.declared = some (recompute H p x.which)) :
    (KnownAlgo a → verifyDigests H.md5 H.sha1 H.sha256 p = .err "unsupported")
    ∧ (¬ KnownAlgo a → verifyDigests H.md5 H.sha1 H.sha256 p = .err "enum-variant") := by
  have := digests_first_failure H p pre [] ⟨.payload a, d⟩ hrec hpre (fun hg => hs hg.1)
  exact ⟨fun hk => this.2.1 a rfl hs hk, fun hk => this.2.2 a rfl hs hk⟩

/-- the only number that is supported is the discriminant of `Sha2_256` in the generated table; every other
number — in the enum or not — is unsupported -/
theorem supported_iff (a : Nat) : Supported (.payload a) ↔ a = 8 := by
  simp only [Supported, digestAlgoTable]
  constructor
  · intro h; simp at h; omega
  · rintro rfl; simp

/-! ### what the code does where the property is silent: a payload digest without its algorithm tag

The property speaks of "SHA-256 over the payload" and of "a recorded payload digest whose algorithm it does not support".
A RPMTAG_PAYLOADDIGEST whose RPMTAG_PAYLOADDIGESTALGO is absent (or not an INT32) names no algorithm at all; the spec
leaves that shape undecided (`DigestSpec` don't-care region 2) and the code SKIPS the payload block (`if let (Ok(..), Ok(..))`).
Stated here so that the behaviour is a theorem of the model and not only a comment (audit item a1): whatever the digest
text says, the payload contributes nothing to the verdict. -/

theorem payload_digest_without_algo (sha256 : Bytes → Bytes) (p : Package)
    (halgo : ∀ a, getU32 p.md.header IndexTag.RPMTAG_PAYLOADDIGESTALGO ≠ .ok a) :
    checkPayload sha256 p = .ok () := by
  unfold checkPayload
  cases h1 : getStringArray p.md.header IndexTag.RPMTAG_PAYLOADDIGEST <;>
    cases h2 : getU32 p.md.header IndexTag.RPMTAG_PAYLOADDIGESTALGO <;> first | rfl | exact absurd h2 (halgo _)

theorem payload_algo_without_digest (sha256 : Bytes → Bytes) (p : Package)
    (hd : ∀ v, getStringArray p.md.header IndexTag.RPMTAG_PAYLOADDIGEST ≠ .ok v) :
    checkPayload sha256 p = .ok () := by
  unfold checkPayload
  cases h1 : getStringArray p.md.header IndexTag.RPMTAG_PAYLOADDIGEST <;>
    cases h2 : getU32 p.md.header IndexTag.RPMTAG_PAYLOADDIGESTALGO <;> first | rfl | exact absurd h1 (hd _)

def obsOfOut : Out Unit → Obs
  | .ok _ => .ok
  | .err c => if c = "mismatch" then .mismatch else .otherErr
  | .panic _ => .panic

theorem model_satisfies_spec (H : Hashes) (p : Package) :
    judge H p (obsOfOut (verifyDigests H.md5 H.sha1 H.sha256 p)) = true := by
  rw [verifyDigests_eq_outcome]
  cases h : outcome H p (Recorded p) with
  | ok u =>
    have hg := (outcome_ok_iff H p _).mp h
    have hu : (Recorded p).any (fun r => !decide (Supported r.which)) = false := by
      rw [List.any_eq_false]; intro r hr; simp [(hg r hr).1]
    have hd : (Recorded p).any (fun r => decide (Supported r.which) &&
        decide (r.declared ≠ some (recompute H p r.which))) = false := by
      rw [List.any_eq_false]; intro r hr; simp [(hg r hr).2]
    simp only [obsOfOut, judge, judgeWith, hu, hd]; rfl
  | panic s =>
    have := outcome_not_panic H p (Recorded p)
    rw [h] at this; cases this
  | err c =>
    rcases outcome_err H p _ c h with ⟨hc, r, hr, hs, hd⟩ | ⟨r, hr, hs⟩
    · subst hc
      simp only [obsOfOut, if_true, judge, judgeWith, Bool.or_eq_true, List.any_eq_true]
      exact .inl ⟨r, hr, by simp [hs, hd]⟩
    · have hu : (Recorded p).any (fun r => !decide (Supported r.which)) = true :=
        List.any_eq_true.mpr ⟨r, hr, by simp [hs]⟩
      by_cases hc : c = "mismatch" <;> simp [obsOfOut, hc, judge, judgeWith, hu]

/-- the five tags `verify_digests` reads, and the alternative payload digest, carry the numbers of rpm's `rpmtag.h`
(RPMSIGTAG_MD5 1004, RPMSIGTAG_SHA1 = RPMTAG_SHA1HEADER 269, RPMSIGTAG_SHA256 = RPMTAG_SHA256HEADER 273,
RPMTAG_PAYLOADDIGEST 5092, RPMTAG_PAYLOADDIGESTALGO 5093, RPMTAG_PAYLOADDIGESTALT 5097; SHA-256 is algorithm 8): a digest
looked up under another number would be "absent" on every rpm-built package and its comparison silently skipped -/
theorem digest_tags_standard :
    SigTag.RPMSIGTAG_MD5 = 1004 ∧ SigTag.RPMSIGTAG_SHA1 = 269 ∧ SigTag.RPMSIGTAG_SHA256 = 273
    ∧ IndexTag.RPMTAG_PAYLOADDIGEST = 5092 ∧ IndexTag.RPMTAG_PAYLOADDIGESTALGO = 5093 ∧ IndexTag.RPMTAG_PAYLOADDIGESTALT = 5097
    ∧ Gen.digestAlgoTable.lookup "Sha2_256" = some 8 ∧ Gen.digestAlgoTable.lookup "Md5" = some 1 := by decide +kernel

/-- for every accepted byte string: the re-serialised main header is the header region of the input in
canonical form (only the four reserved intro bytes zeroed), and the content is everything after it -/
theorem raw_ranges {bs p} (hp : parsePackage bs = .ok p) :
    rawHeader bs = writeHeader p.md.header ∧ rawContent bs = p.content := by
  obtain ⟨res1, pad, res2, hr1, hpad, hr2, hbs, wf⟩ := parsePackage_ok hp
  have hl := writeLead_length wf.lead
  obtain ⟨hlen, hpd⟩ := C01.hdrLen_hdrBytes hr1 wf.sig (pad ++ (hdrBytes res2 p.md.header ++ p.content))
  obtain ⟨hlen2, _⟩ := C01.hdrLen_hdrBytes hr2 wf.hdr p.content
  have hS := C01.hdrBytes_length hr1 wf.sig
  have hH := C01.hdrBytes_length hr2 wf.hdr
  -- the input, bracketed after the lead and before the main header: the two places the specification cuts it
  have e1 : bs = writeLead p.md.lead ++ (hdrBytes res1 p.md.signature ++ (pad ++ (hdrBytes res2 p.md.header ++ p.content))) := by
    rw [hbs]; simp only [metaBytes, List.append_assoc]
  have e2 : bs = (writeLead p.md.lead ++ (hdrBytes res1 p.md.signature ++ pad)) ++ (hdrBytes res2 p.md.header ++ p.content) := by
    rw [hbs, metaBytes, List.append_assoc]
  have d96 : bs.drop 96 = hdrBytes res1 p.md.signature ++ (pad ++ (hdrBytes res2 p.md.header ++ p.content)) := by
    rw [e1, ← hl, List.drop_left]
  have hstart : rawHdrStart bs = (writeLead p.md.lead ++ (hdrBytes res1 p.md.signature ++ pad)).length := by
    simp only [rawHdrStart, d96, hlen, hpd, List.length_append, hl, hS, hpad]
    omega
  have dH : bs.drop (rawHdrStart bs) = hdrBytes res2 p.md.header ++ p.content := by
    rw [hstart, e2, List.drop_left]
  have z := C01.zeroReserved_hdrBytes p.md.header hr2 []
  simp only [List.append_nil] at z
  constructor
  · simp only [rawHeader, dH, hlen2, ← hH, List.take_left, z, writeHeader_eq]
  · simp only [rawContent, dH, hlen2, ← hH, List.drop_left]

theorem recomputeRaw_eq (H : Hashes) {bs p} (hp : parsePackage bs = .ok p) (w : Which) :
    recomputeRaw H bs w = recompute H p w := by
  obtain ⟨h1, h2⟩ := raw_ranges hp
  cases w <;> simp only [recomputeRaw, recompute, h1, h2]

/-! ### non-vacuity: concrete packages (bytes) under three small toy hash functions -/

def toyH : Hashes where
  md5 := fun bs => [bs.length.toUInt8, bs.foldl (· + ·) 0]
  sha1 := fun bs => [bs.foldl (· + ·) 0]
  sha256 := fun bs => [bs.foldl (· ^^^ ·) 0, bs.length.toUInt8, 171]

def lead : Bytes := [237, 171, 238, 219, 3, 0, 0, 0, 0, 1, 116] ++ List.replicate 65 0 ++ [0, 1, 0, 5] ++ List.replicate 16 0

/-- all four digests recorded and correct (non-zero reserved bytes and padding: the header is hashed in canonical form) -/
def good : Bytes := lead ++ [142, 173, 232, 1, 170, 187, 204, 221, 0, 0, 0, 3, 0, 0, 0, 12, 0, 0, 1, 13, 0, 0, 0, 6, 0, 0, 0, 0, 0, 0, 0, 1, 0, 0, 1, 17, 0, 0, 0, 6, 0, 0, 0, 3, 0, 0, 0, 1, 0, 0, 3, 236, 0, 0, 0, 7, 0, 0, 0, 10, 0, 0, 0, 2, 53, 52, 0, 53, 97, 53, 48, 97, 98, 0, 84, 53, 7, 7, 7, 7, 142, 173, 232, 1, 1, 2, 3, 4, 0, 0, 0, 3, 0, 0, 0, 16, 0, 0, 3, 232, 0, 0, 0, 6, 0, 0, 0, 0, 0, 0, 0, 1, 0, 0, 19, 228, 0, 0, 0, 8, 0, 0, 0, 4, 0, 0, 0, 1, 0, 0, 19, 229, 0, 0, 0, 4, 0, 0, 0, 12, 0, 0, 0, 1, 97, 98, 99, 0, 99, 102, 48, 52, 97, 98, 0, 0, 0, 0, 0, 8, 7, 9, 9, 200]
/-- one bit of the MD5 flipped -/
def badMd5 : Bytes := lead ++ [142, 173, 232, 1, 170, 187, 204, 221, 0, 0, 0, 3, 0, 0, 0, 12, 0, 0, 1, 13, 0, 0, 0, 6, 0, 0, 0, 0, 0, 0, 0, 1, 0, 0, 1, 17, 0, 0, 0, 6, 0, 0, 0, 3, 0, 0, 0, 1, 0, 0, 3, 236, 0, 0, 0, 7, 0, 0, 0, 10, 0, 0, 0, 2, 53, 52, 0, 53, 97, 53, 48, 97, 98, 0, 84, 52, 7, 7, 7, 7, 142, 173, 232, 1, 1, 2, 3, 4, 0, 0, 0, 3, 0, 0, 0, 16, 0, 0, 3, 232, 0, 0, 0, 6, 0, 0, 0, 0, 0, 0, 0, 1, 0, 0, 19, 228, 0, 0, 0, 8, 0, 0, 0, 4, 0, 0, 0, 1, 0, 0, 19, 229, 0, 0, 0, 4, 0, 0, 0, 12, 0, 0, 0, 1, 97, 98, 99, 0, 99, 102, 48, 52, 97, 98, 0, 0, 0, 0, 0, 8, 7, 9, 9, 200]
/-- header SHA-256 text in upper case -/
def upperSha256 : Bytes := lead ++ [142, 173, 232, 1, 170, 187, 204, 221, 0, 0, 0, 3, 0, 0, 0, 12, 0, 0, 1, 13, 0, 0, 0, 6, 0, 0, 0, 0, 0, 0, 0, 1, 0, 0, 1, 17, 0, 0, 0, 6, 0, 0, 0, 3, 0, 0, 0, 1, 0, 0, 3, 236, 0, 0, 0, 7, 0, 0, 0, 10, 0, 0, 0, 2, 53, 52, 0, 53, 65, 53, 48, 65, 66, 0, 84, 53, 7, 7, 7, 7, 142, 173, 232, 1, 1, 2, 3, 4, 0, 0, 0, 3, 0, 0, 0, 16, 0, 0, 3, 232, 0, 0, 0, 6, 0, 0, 0, 0, 0, 0, 0, 1, 0, 0, 19, 228, 0, 0, 0, 8, 0, 0, 0, 4, 0, 0, 0, 1, 0, 0, 19, 229, 0, 0, 0, 4, 0, 0, 0, 12, 0, 0, 0, 1, 97, 98, 99, 0, 99, 102, 48, 52, 97, 98, 0, 0, 0, 0, 0, 8, 7, 9, 9, 200]
/-- payload digest text in upper case -/
def upperPayload : Bytes := lead ++ [142, 173, 232, 1, 170, 187, 204, 221, 0, 0, 0, 3, 0, 0, 0, 12, 0, 0, 1, 13, 0, 0, 0, 6, 0, 0, 0, 0, 0, 0, 0, 1, 0, 0, 1, 17, 0, 0, 0, 6, 0, 0, 0, 3, 0, 0, 0, 1, 0, 0, 3, 236, 0, 0, 0, 7, 0, 0, 0, 10, 0, 0, 0, 2, 100, 52, 0, 53, 97, 53, 48, 97, 98, 0, 84, 181, 7, 7, 7, 7, 142, 173, 232, 1, 1, 2, 3, 4, 0, 0, 0, 3, 0, 0, 0, 16, 0, 0, 3, 232, 0, 0, 0, 6, 0, 0, 0, 0, 0, 0, 0, 1, 0, 0, 19, 228, 0, 0, 0, 8, 0, 0, 0, 4, 0, 0, 0, 1, 0, 0, 19, 229, 0, 0, 0, 4, 0, 0, 0, 12, 0, 0, 0, 1, 97, 98, 99, 0, 67, 70, 48, 52, 65, 66, 0, 0, 0, 0, 0, 8, 7, 9, 9, 200]
/-- payload digest algorithm 1 (Md5: known, unsupported) -/
def algoMd5 : Bytes := lead ++ [142, 173, 232, 1, 170, 187, 204, 221, 0, 0, 0, 3, 0, 0, 0, 12, 0, 0, 1, 13, 0, 0, 0, 6, 0, 0, 0, 0, 0, 0, 0, 1, 0, 0, 1, 17, 0, 0, 0, 6, 0, 0, 0, 3, 0, 0, 0, 1, 0, 0, 3, 236, 0, 0, 0, 7, 0, 0, 0, 10, 0, 0, 0, 2, 52, 100, 0, 53, 51, 53, 48, 97, 98, 0, 84, 46, 7, 7, 7, 7, 142, 173, 232, 1, 1, 2, 3, 4, 0, 0, 0, 3, 0, 0, 0, 16, 0, 0, 3, 232, 0, 0, 0, 6, 0, 0, 0, 0, 0, 0, 0, 1, 0, 0, 19, 228, 0, 0, 0, 8, 0, 0, 0, 4, 0, 0, 0, 1, 0, 0, 19, 229, 0, 0, 0, 4, 0, 0, 0, 12, 0, 0, 0, 1, 97, 98, 99, 0, 99, 102, 48, 52, 97, 98, 0, 0, 0, 0, 0, 1, 7, 9, 9, 200]
/-- payload digest algorithm 99 (unknown number) -/
def algo99 : Bytes := lead ++ [142, 173, 232, 1, 170, 187, 204, 221, 0, 0, 0, 3, 0, 0, 0, 12, 0, 0, 1, 13, 0, 0, 0, 6, 0, 0, 0, 0, 0, 0, 0, 1, 0, 0, 1, 17, 0, 0, 0, 6, 0, 0, 0, 3, 0, 0, 0, 1, 0, 0, 3, 236, 0, 0, 0, 7, 0, 0, 0, 10, 0, 0, 0, 2, 97, 102, 0, 51, 49, 53, 48, 97, 98, 0, 84, 144, 7, 7, 7, 7, 142, 173, 232, 1, 1, 2, 3, 4, 0, 0, 0, 3, 0, 0, 0, 16, 0, 0, 3, 232, 0, 0, 0, 6, 0, 0, 0, 0, 0, 0, 0, 1, 0, 0, 19, 228, 0, 0, 0, 8, 0, 0, 0, 4, 0, 0, 0, 1, 0, 0, 19, 229, 0, 0, 0, 4, 0, 0, 0, 12, 0, 0, 0, 1, 97, 98, 99, 0, 99, 102, 48, 52, 97, 98, 0, 0, 0, 0, 0, 99, 7, 9, 9, 200]
/-- PAYLOADDIGEST array with zero strings -/
def emptyArray : Bytes := lead ++ [142, 173, 232, 1, 170, 187, 204, 221, 0, 0, 0, 3, 0, 0, 0, 12, 0, 0, 1, 13, 0, 0, 0, 6, 0, 0, 0, 0, 0, 0, 0, 1, 0, 0, 1, 17, 0, 0, 0, 6, 0, 0, 0, 3, 0, 0, 0, 1, 0, 0, 3, 236, 0, 0, 0, 7, 0, 0, 0, 10, 0, 0, 0, 2, 53, 51, 0, 52, 57, 52, 56, 97, 98, 0, 76, 52, 7, 7, 7, 7, 142, 173, 232, 1, 1, 2, 3, 4, 0, 0, 0, 3, 0, 0, 0, 8, 0, 0, 3, 232, 0, 0, 0, 6, 0, 0, 0, 0, 0, 0, 0, 1, 0, 0, 19, 228, 0, 0, 0, 8, 0, 0, 0, 4, 0, 0, 0, 0, 0, 0, 19, 229, 0, 0, 0, 4, 0, 0, 0, 4, 0, 0, 0, 1, 97, 98, 99, 0, 0, 0, 0, 8, 7, 9, 9, 200]
/-- two payload digest strings: first wrong, second right -/
def twoFirstWrong : Bytes := lead ++ [142, 173, 232, 1, 170, 187, 204, 221, 0, 0, 0, 3, 0, 0, 0, 12, 0, 0, 1, 13, 0, 0, 0, 6, 0, 0, 0, 0, 0, 0, 0, 1, 0, 0, 1, 17, 0, 0, 0, 6, 0, 0, 0, 3, 0, 0, 0, 1, 0, 0, 3, 236, 0, 0, 0, 7, 0, 0, 0, 10, 0, 0, 0, 2, 98, 100, 0, 52, 49, 53, 52, 97, 98, 0, 88, 158, 7, 7, 7, 7, 142, 173, 232, 1, 1, 2, 3, 4, 0, 0, 0, 3, 0, 0, 0, 20, 0, 0, 3, 232, 0, 0, 0, 6, 0, 0, 0, 0, 0, 0, 0, 1, 0, 0, 19, 228, 0, 0, 0, 8, 0, 0, 0, 4, 0, 0, 0, 2, 0, 0, 19, 229, 0, 0, 0, 4, 0, 0, 0, 16, 0, 0, 0, 1, 97, 98, 99, 0, 48, 48, 0, 99, 102, 48, 52, 97, 98, 0, 0, 0, 0, 0, 0, 8, 7, 9, 9, 200]
/-- two payload digest strings: first right, second wrong -/
def twoFirstRight : Bytes := lead ++ [142, 173, 232, 1, 170, 187, 204, 221, 0, 0, 0, 3, 0, 0, 0, 12, 0, 0, 1, 13, 0, 0, 0, 6, 0, 0, 0, 0, 0, 0, 0, 1, 0, 0, 1, 17, 0, 0, 0, 6, 0, 0, 0, 3, 0, 0, 0, 1, 0, 0, 3, 236, 0, 0, 0, 7, 0, 0, 0, 10, 0, 0, 0, 2, 98, 100, 0, 52, 49, 53, 52, 97, 98, 0, 88, 158, 7, 7, 7, 7, 142, 173, 232, 1, 1, 2, 3, 4, 0, 0, 0, 3, 0, 0, 0, 20, 0, 0, 3, 232, 0, 0, 0, 6, 0, 0, 0, 0, 0, 0, 0, 1, 0, 0, 19, 228, 0, 0, 0, 8, 0, 0, 0, 4, 0, 0, 0, 2, 0, 0, 19, 229, 0, 0, 0, 4, 0, 0, 0, 16, 0, 0, 0, 1, 97, 98, 99, 0, 99, 102, 48, 52, 97, 98, 0, 48, 48, 0, 0, 0, 0, 0, 0, 8, 7, 9, 9, 200]
/-- MD5 wrong AND unknown payload algorithm: the MD5 check comes first -/
def badMd5Algo99 : Bytes := lead ++ [142, 173, 232, 1, 170, 187, 204, 221, 0, 0, 0, 3, 0, 0, 0, 12, 0, 0, 1, 13, 0, 0, 0, 6, 0, 0, 0, 0, 0, 0, 0, 1, 0, 0, 1, 17, 0, 0, 0, 6, 0, 0, 0, 3, 0, 0, 0, 1, 0, 0, 3, 236, 0, 0, 0, 7, 0, 0, 0, 10, 0, 0, 0, 2, 97, 102, 0, 51, 49, 53, 48, 97, 98, 0, 84, 145, 7, 7, 7, 7, 142, 173, 232, 1, 1, 2, 3, 4, 0, 0, 0, 3, 0, 0, 0, 16, 0, 0, 3, 232, 0, 0, 0, 6, 0, 0, 0, 0, 0, 0, 0, 1, 0, 0, 19, 228, 0, 0, 0, 8, 0, 0, 0, 4, 0, 0, 0, 1, 0, 0, 19, 229, 0, 0, 0, 4, 0, 0, 0, 12, 0, 0, 0, 1, 97, 98, 99, 0, 99, 102, 48, 52, 97, 98, 0, 0, 0, 0, 0, 99, 7, 9, 9, 200]
/-- PAYLOADDIGEST stored as STRING (wrong type): not recorded -/
def pdAsString : Bytes := lead ++ [142, 173, 232, 1, 170, 187, 204, 221, 0, 0, 0, 3, 0, 0, 0, 12, 0, 0, 1, 13, 0, 0, 0, 6, 0, 0, 0, 0, 0, 0, 0, 1, 0, 0, 1, 17, 0, 0, 0, 6, 0, 0, 0, 3, 0, 0, 0, 1, 0, 0, 3, 236, 0, 0, 0, 7, 0, 0, 0, 10, 0, 0, 0, 2, 53, 50, 0, 53, 52, 53, 48, 97, 98, 0, 84, 51, 7, 7, 7, 7, 142, 173, 232, 1, 1, 2, 3, 4, 0, 0, 0, 3, 0, 0, 0, 16, 0, 0, 3, 232, 0, 0, 0, 6, 0, 0, 0, 0, 0, 0, 0, 1, 0, 0, 19, 228, 0, 0, 0, 6, 0, 0, 0, 4, 0, 0, 0, 1, 0, 0, 19, 229, 0, 0, 0, 4, 0, 0, 0, 12, 0, 0, 0, 1, 97, 98, 99, 0, 99, 102, 48, 52, 97, 98, 0, 0, 0, 0, 0, 8, 7, 9, 9, 200]
def run (bs : Bytes) : Out Unit := parsePackage bs >>= verifyDigests toyH.md5 toyH.sha1 toyH.sha256
def recs (bs : Bytes) : List Rec := match parsePackage bs with | .ok p => Recorded p | _ => []
def silent (bs : Bytes) : Bool := match parsePackage bs with | .ok p => dontcare p | _ => true

-- the good package records all four digests, they all match, and verification succeeds
example : recs good = [⟨.md5, some [84, 53]⟩, ⟨.sha1, some [53, 52]⟩, ⟨.sha256, some [53, 97, 53, 48, 97, 98]⟩,
    ⟨.payload 8, some [99, 102, 48, 52, 97, 98]⟩] := by decide +kernel
example : run good = .ok () := by decide +kernel
example : silent good = false := by decide +kernel
-- hypotheses of `digests_mismatch` are satisfiable, and each corruption gives exactly the mismatch error
example : run badMd5 = .err "mismatch" := by decide +kernel
example : run upperSha256 = .err "mismatch" ∧ silent upperSha256 = false := by decide +kernel
example : run upperPayload = .err "mismatch" ∧ silent upperPayload = false := by decide +kernel
example : run twoFirstWrong = .err "mismatch" ∧ run twoFirstRight = .ok () := by decide +kernel
-- unsupported algorithms: known and unknown numbers; check order
example : run algoMd5 = .err "unsupported" ∧ run algo99 = .err "enum-variant" := by decide +kernel
example : run badMd5Algo99 = .err "mismatch" := by decide +kernel
example : (recs algo99).map (·.which) = [.md5, .sha1, .sha256, .payload 99] := by decide +kernel
-- the don't-care region is inhabited, and the model still behaves as the code does there
example : run emptyArray = .err "mismatch" ∧ silent emptyArray = true := by decide +kernel
example : run pdAsString = .ok () ∧ silent pdAsString = true ∧ (recs pdAsString).length = 3 := by decide +kernel

end RpmVerif.C03
