import RpmVerif.Props.C02
import RpmVerif.Props.C03
import RpmVerif.Props.Pipeline
/-!
# C02, bytes level — the "consequently" clause from the FILE of a library-signed package (AUDIT2 c1, c2)

`Props/C02.lean: tamper_rejected*` speak of two `Package` VALUES with the hypotheses "same signature header" and
"`writeHeader` differs". This file supplies the bridge from bytes (`parse_of_prefix`, `tamper_rejected_bytes`) and from the
library's own signing (`tamper_rejected_build_sign`, at `Pipeline.buildAndSign`). `verify_ok_digests_spec` reads the
"digests fine" of `verify_ok_sound` in the words of C03's independent spec.
-/
namespace RpmVerif.C02
open RpmVerif.Hdr RpmVerif.Gen RpmVerif.Digest RpmVerif.Verify RpmVerif.Sign RpmVerif.Bld RpmVerif.Pipeline

/-- `Header::write` is injective on well-formed headers (every parsed / built header is one): equal bytes, equal value -/
theorem writeHeader_injective {h1 h2 : Header} (w1 : HeaderWF h1) (w2 : HeaderWF h2)
    (e : writeHeader h1 = writeHeader h2) : h1 = h2 := by
  have a := parseHeader_write w1 (res := [0, 0, 0, 0]) rfl []
  have b := parseHeader_write w2 (res := [0, 0, 0, 0]) rfl []
  rw [← writeHeader_eq] at a b
  rw [e, b] at a
  simp only [Out.ok.injEq, Prod.mk.injEq, and_true] at a
  exact a.symm

theorem take_hdr_offset {p : Package} (wf : MetadataWF p.md) :
    (writePackage p).take (offsets p.md).hdr = writeLead p.md.lead ++ writeSignature p.md.signature := by
  have hl := writeLead_length wf.lead
  have hs := C16.writeSignature_length wf.sig
  have o2 : (offsets p.md).hdr = (writeLead p.md.lead ++ writeSignature p.md.signature).length := by
    simp only [offsets, lds, List.length_append, hl, hs]; omega
  have e2 : writePackage p = (writeLead p.md.lead ++ writeSignature p.md.signature) ++ (writeHeader p.md.header ++ p.content) := by
    simp [writePackage, writeMetadata, List.append_assoc]
  rw [o2, e2, List.take_left]

/-- **an edit behind the signature header leaves lead and signature header as parsed**: if `bs'` agrees with the written
package `p` on the first `offsets.hdr` bytes (everything in front of the main header) and parses, the parsed package
has `p`'s lead and signature header; its main header and content are whatever the rest of `bs'` parses to -/
theorem parse_of_prefix {p : Package} (wf : MetadataWF p.md) {bs' : Bytes} {p' : Package}
    (hpre : bs'.take (offsets p.md).hdr = (writePackage p).take (offsets p.md).hdr)
    (hp : parsePackage bs' = .ok p') :
    p'.md.lead = p.md.lead ∧ p'.md.signature = p.md.signature
      ∧ parseHeader (bs'.drop (offsets p.md).hdr) = .ok (p'.md.header, p'.content) := by
  have hsplit : bs' = writeLead p.md.lead ++ (hdrBytes [0, 0, 0, 0] p.md.signature ++
      List.replicate (sigPad p.md.signature.dataSize) 0 ++ bs'.drop (offsets p.md).hdr) := by
    conv => lhs; rw [← List.take_append_drop (offsets p.md).hdr bs', hpre, take_hdr_offset wf, writeSignature_eq]
    simp only [List.append_assoc]
  generalize bs'.drop (offsets p.md).hdr = tail at hsplit ⊢
  -- run the parser over the written lead and signature header: what is left is `parseHeader tail`
  have ht (x : Bytes) : takeN LEAD_SIZE (writeLead p.md.lead ++ x) = .ok (writeLead p.md.lead, x) := by
    rw [lds, ← writeLead_length wf.lead, takeN_append]
  simp only [hsplit, parsePackage, parseMetadata, ht, Out.bind_ok, parseLead_write wf.lead,
    parseSignature_write wf.sig (res := [0, 0, 0, 0]) rfl (List.length_replicate ..) tail] at hp
  obtain ⟨⟨m, r⟩, hm, hp⟩ := Out.bind_eq_ok.mp hp
  obtain ⟨⟨hdr, r2⟩, h3, hm⟩ := Out.bind_eq_ok.mp hm
  cases hm
  cases hp
  exact ⟨rfl, rfl, h3⟩

section general
variable (md5 sha1 sha256 : Bytes → Bytes) (b64 : Bytes → Option Bytes)

/-- **value level, "changes what is parsed" literally**: `p` library-signed and verified; `p'` has `p`'s lead and signature
header and is a DIFFERENT package value (main header or content differ); both main headers well formed (every parsed
one is). Then `p'` does not verify — by the verifier (`Binds`) when the header differs, by the payload digest the
(then identical) header records when only the content differs. -/
theorem tamper_rejected_value (v : Verifier) (p p' : Package) (l : List Bytes) (a : Nat)
    (hlib : LibSigned p.md.signature) (wh : HeaderWF p.md.header) (wh' : HeaderWF p'.md.header)
    (hlead : p'.md.lead = p.md.lead) (hsig : p'.md.signature = p.md.signature)
    (hl : getStringArray p.md.header IndexTag.RPMTAG_PAYLOADDIGEST = .ok l)
    (ha : getU32 p.md.header IndexTag.RPMTAG_PAYLOADDIGESTALGO = .ok a)
    (hok : (verifySignatureS md5 sha1 sha256 b64 v p).1 = .ok ())
    (hne : p' ≠ p)
    (hb : Binds v (verifySignatureS md5 sha1 sha256 b64 v p).2)
    (hnc : NoCollision sha256 p.content p'.content) :
    (verifySignatureS md5 sha1 sha256 b64 v p').1 ≠ .ok () := by
  by_cases e : writeHeader p'.md.header = writeHeader p.md.header
  · have he : p'.md.header = p.md.header := writeHeader_injective wh' wh e
    have hc : p'.content ≠ p.content := by
      intro hc
      apply hne
      obtain ⟨⟨l1, s1, h1⟩, c1⟩ := p
      obtain ⟨⟨l2, s2, h2⟩, c2⟩ := p'
      simp only at hlead hsig he hc
      rw [hlead, hsig, he, hc]
    exact tamper_rejected_payload md5 sha1 sha256 b64 v v p p' l a a hl ha (he ▸ hl) (he ▸ ha) hok hc hnc
  · exact tamper_rejected md5 sha1 sha256 b64 v p p' hlib hsig hok e (.inr hb)

/-- **bytes level**: `p` library-signed, well formed and verified; `bs'` = the written package with ANY edit behind the
signature header (it agrees with `writePackage p` on the bytes in front of the main header: lead, signature header,
padding) that still parses and changes what is parsed (`p' ≠ p`). Then the parsed `p'` does not verify. -/
theorem tamper_rejected_bytes (v : Verifier) (p : Package) (bs' : Bytes) (p' : Package) (l : List Bytes) (a : Nat)
    (wf : MetadataWF p.md) (hlib : LibSigned p.md.signature)
    (hl : getStringArray p.md.header IndexTag.RPMTAG_PAYLOADDIGEST = .ok l)
    (ha : getU32 p.md.header IndexTag.RPMTAG_PAYLOADDIGESTALGO = .ok a)
    (hok : (verifySignatureS md5 sha1 sha256 b64 v p).1 = .ok ())
    (hb : Binds v (verifySignatureS md5 sha1 sha256 b64 v p).2)
    (hpre : bs'.take (offsets p.md).hdr = (writePackage p).take (offsets p.md).hdr)
    (hp : parsePackage bs' = .ok p') (hne : p' ≠ p)
    (hnc : NoCollision sha256 p.content p'.content) :
    (verifySignatureS md5 sha1 sha256 b64 v p').1 ≠ .ok () := by
  obtain ⟨h1, h2, _⟩ := parse_of_prefix wf hpre hp
  exact tamper_rejected_value md5 sha1 sha256 b64 v p p' l a hlib wf.hdr (C16.parsed_wf hp).hdr h1 h2 hl ha hok hne hb hnc

end general

/-- **success ⇒ every digest the package records matches, in C03's terms**: each record of `DigestSpec.Recorded p` (MD5 / SHA1 /
SHA256 of the signature header, the payload digest with its algorithm) is of a supported kind and equals the value
recomputed from the package (AUDIT2 c3: `verify_ok_sound` concludes `verifyDigests = ok` of the model; this is that
conclusion read through `C03.digests_iff`) -/
theorem verify_ok_digests_spec (H : DigestSpec.Hashes) (b64 : Bytes → Option Bytes) (v : Verifier) (p : Package)
    (h : (verifySignatureS H.md5 H.sha1 H.sha256 b64 v p).1 = .ok ()) :
    ∀ r ∈ DigestSpec.Recorded p, DigestSpec.Supported r.which ∧ r.declared = some (DigestSpec.recompute H p r.which) :=
  (C03.digests_iff H p).mp (verify_ok_sound H.md5 H.sha1 H.sha256 b64 v p h).2.2.2

section lib
variable (md5 sha1 sha256 : Bytes → Bytes) {S : SigScheme}

theorem signOp_libSigned (hl : S.LegacyOk) (k : S.Key) (t : Nat) (p : Package) :
    LibSigned (signOp S sha256 k t p).md.signature :=
  ⟨[S.b64enc (S.sign k (writeHeader p.md.header) t)], shaHex sha256 (writeHeader p.md.header),
    signed_openpgp sha256 hl k t _, by simp, signed_sha256 sha256 hl k t _⟩

/-- `verify_signature` on ANY package that carries the signature header `sign_with_timestamp(k, t)` made for header bytes
`hb0`, once its digests are fine: exactly one consult — that signature, over the package's OWN header bytes -/
theorem verify_of_signedSig (hl : S.LegacyOk) (hb64 : S.B64) (v : Verifier) (k : S.Key) (t : Nat) (hb0 : Bytes) (p : Package)
    (hs : p.md.signature = signedSig S sha256 k t hb0) (hd : verifyDigests md5 sha1 sha256 p = .ok ()) :
    verifySignatureS md5 sha1 sha256 S.b64dec v p =
      (if v [] (writeHeader p.md.header) (S.sign k hb0 t) then .ok () else .err "verify",
        [⟨writeHeader p.md.header, S.sign k hb0 t, v [] (writeHeader p.md.header) (S.sign k hb0 t), false⟩]) := by
  have e : getStringArray p.md.signature SigTag.RPMSIGTAG_OPENPGP = .ok [S.b64enc (S.sign k hb0 t)] := by
    rw [hs]; exact signed_openpgp sha256 hl k t _
  simp only [verifySignatureS, hd, e, List.isEmpty_cons, Bool.false_eq_true, if_false, openpgpLoop, hb64 _, List.nil_append]
  split <;> rfl

/-- a scheme that `Binds` gives C02's `Binds` for the verifier object of any key, on the log of any such run -/
theorem binds_of_scheme (hl : S.LegacyOk) (hbind : S.Binds) (hb64 : S.B64) (k k' : S.Key) (t : Nat) (p : Package) :
    Binds (verifierOf S k') (verifySignatureS md5 sha1 sha256 S.b64dec (verifierOf S k') (signOp S sha256 k t p)).2 := by
  intro c hc pre d hv
  rcases verify_cases md5 sha1 sha256 S.b64dec (verifierOf S k') (signOp S sha256 k t p) with
    ⟨_, _, e⟩ | ⟨_, _, e⟩ | ⟨hd, _, _⟩
  · rw [e] at hc; cases hc
  · rw [e] at hc; cases hc
  · rw [verify_of_signedSig md5 sha1 sha256 hl hb64 _ k t _ _ rfl hd] at hc
    cases List.mem_singleton.mp hc
    exact (hbind _ _ _ _ _ hv).2

variable (c : Cfg) (now : Nat) (archive payload : Bytes)

/-- **C02's "consequently" clause at the bytes of a package built and signed by the library.** `𝐏 = build_and_sign(k)`
for ANY configuration (valid in C06's sense), clock values, archive and payload, ANY scheme satisfying C10's laws.
Take its written bytes, change ANYTHING from the main header's first byte to the end of the file (insert, delete,
overwrite, truncate, append — `bs'` only has to agree with the file on lead and signature header), such that the result
still parses and what is parsed differs from `𝐏`. Then the parsed package verifies with NO key `k'` — neither the
signer's nor any other. (`NoCollision sha256` on the two payloads is needed for edits that leave the header bytes alone:
the signature covers the header, the header records the payload digest.) -/
theorem tamper_rejected_build_sign (hl : S.LegacyOk) (hc : S.Correct) (hbind : S.Binds) (hb64 : S.B64)
    (v : C06.Valid (mkCtx c now (hexOf sha256 payload) (hexOf sha256 archive)))
    (ok : SigRecsOk S sha256 (writeHeader (C06.hdrOf (mkCtx c now (hexOf sha256 payload) (hexOf sha256 archive)))))
    (now' : Nat) (k : S.Key) (bs' : Bytes) (p' : Package)
    (hpre : bs'.take (offsets (Pipeline.buildAndSign sha256 c now archive payload S now' k).md).hdr =
      (writePackage (Pipeline.buildAndSign sha256 c now archive payload S now' k)).take
        (offsets (Pipeline.buildAndSign sha256 c now archive payload S now' k).md).hdr)
    (hp : parsePackage bs' = .ok p') (hne : p' ≠ Pipeline.buildAndSign sha256 c now archive payload S now' k)
    (hnc : NoCollision sha256 payload p'.content) (k' : S.Key) :
    verifyWith S md5 sha1 sha256 k' p' ≠ .ok () := by
  rw [verifyWith_eq_verifySignatureS]
  have wf : MetadataWF (Pipeline.buildAndSign sha256 c now archive payload S now' k).md :=
    (Pipeline.built_history_reparse sha256 c now archive payload hl v ok [.sign k (clampNow c.sourceDate now')]
      (Pipeline.run_sign S sha256 _ _ _)).1
  by_cases hk : k' = k
  · subst hk
    have hok := (Pipeline.build_sign_verifies md5 sha1 sha256 c now archive payload hl hc hbind hb64 v ok now' k' k').mpr rfl
    rw [verifyWith_eq_verifySignatureS] at hok
    -- 8: the PAYLOADDIGESTALGO every built package records (SHA-256, `C08.payload_digest_algo`)
    exact tamper_rejected_bytes md5 sha1 sha256 S.b64dec (verifierOf S k') _ bs' p' _ 8 wf
      (signOp_libSigned sha256 hl _ _ _) (C08.payload_digest _) (C08.payload_digest_algo _) hok
      (binds_of_scheme md5 sha1 sha256 hl hbind hb64 _ _ _ _) hpre hp hne hnc
  · obtain ⟨_, hs, _⟩ := parse_of_prefix wf hpre hp
    intro hok'
    rw [verify_of_signedSig md5 sha1 sha256 hl hb64 _ k _ _ p' hs (verify_ok md5 sha1 sha256 S.b64dec _ p' hok').1] at hok'
    simp only at hok'
    split at hok'
    · rename_i hv; exact hk (hbind _ _ _ _ _ hv).1
    · cases hok'

end lib

section examples
open RpmVerif.Sign.Sym

example : writeHeader_injective C16.empty_wf C16.empty_wf rfl = rfl := rfl

def sSigned : Package := buildAndSign C10.tSha256 C06.sampleCfg sNow sArchive sPayload C10.T 1700000200 (2 : UInt8)

theorem sSigned_wf : MetadataWF sSigned.md :=
  (built_history_reparse C10.tSha256 C06.sampleCfg sNow sArchive sPayload (legacyOk C10.ids) s_valid s_recs
    [.sign (2 : UInt8) (clampNow C06.sampleCfg.sourceDate 1700000200)] (run_sign C10.T C10.tSha256 _ _ _)).1

/-- an edit in the PAYLOAD region: one byte appended to the file -/
def sAppended : Package := ⟨sSigned.md, sSigned.content ++ [0]⟩
/-- an edit in the HEADER region: the main header replaced by an empty one (16 bytes) -/
def sNoHeader : Package := ⟨⟨sSigned.md.lead, sSigned.md.signature, Header.empty⟩, sSigned.content⟩

theorem same_prefix (q : Package) (wfq : MetadataWF q.md) (hl : q.md.lead = sSigned.md.lead)
    (hs : q.md.signature = sSigned.md.signature) :
    (writePackage q).take (offsets sSigned.md).hdr = (writePackage sSigned).take (offsets sSigned.md).hdr := by
  have e : (offsets sSigned.md).hdr = (offsets q.md).hdr := by simp only [offsets, hs]
  rw [take_hdr_offset sSigned_wf, e, take_hdr_offset wfq, hl, hs]

/-- every hypothesis of `tamper_rejected_build_sign` holds for the appended byte (digest route: the toy SHA-256 tells the
two payloads apart by their length) … -/
example (k' : UInt8) : verifyWith C10.T C10.tMd5 C10.tSha1 C10.tSha256 k' sAppended ≠ .ok () :=
  tamper_rejected_build_sign C10.tMd5 C10.tSha1 C10.tSha256 C06.sampleCfg sNow sArchive sPayload (legacyOk C10.ids)
    (correct C10.ids) (binds C10.ids) (b64 C10.ids) s_valid s_recs 1700000200 (2 : UInt8) (writePackage sAppended) sAppended
    (same_prefix sAppended sSigned_wf rfl rfl) (C10.writeParse_id (p := sAppended) sSigned_wf)
    (show sAppended ≠ sSigned from fun h => by
      have := congrArg (·.content.length) h
      simp only [sAppended, List.length_append, List.length_cons, List.length_nil] at this
      omega)
    (fun _ => by show C10.tSha256 sPayload ≠ C10.tSha256 (sPayload ++ [0]); decide +kernel) k'

/-- … and for the replaced main header (verifier route: the signature was made for other header bytes) -/
example (k' : UInt8) : verifyWith C10.T C10.tMd5 C10.tSha1 C10.tSha256 k' sNoHeader ≠ .ok () :=
  tamper_rejected_build_sign C10.tMd5 C10.tSha1 C10.tSha256 C06.sampleCfg sNow sArchive sPayload (legacyOk C10.ids)
    (correct C10.ids) (binds C10.ids) (b64 C10.ids) s_valid s_recs 1700000200 (2 : UInt8) (writePackage sNoHeader) sNoHeader
    (same_prefix sNoHeader ⟨sSigned_wf.lead, sSigned_wf.sig, C16.empty_wf⟩ rfl rfl)
    (C10.writeParse_id (p := sNoHeader) ⟨sSigned_wf.lead, sSigned_wf.sig, C16.empty_wf⟩)
    (show sNoHeader ≠ sSigned from fun h => by
      have := congrArg (·.md.header.nEntries) h
      exact absurd this.symm (Nat.succ_ne_zero _))
    (fun h => absurd rfl h) k'

/-- the unedited file is NOT covered (its `hne` fails), and it verifies: the theorem's hypothesis `p' ≠ 𝐏` is needed -/
example : verifyWith C10.T C10.tMd5 C10.tSha1 C10.tSha256 (2 : UInt8) sSigned = .ok () :=
  (build_sign_verifies C10.tMd5 C10.tSha1 C10.tSha256 C06.sampleCfg sNow sArchive sPayload (legacyOk C10.ids) (correct C10.ids)
    (binds C10.ids) (b64 C10.ids) s_valid s_recs 1700000200 (2 : UInt8) (2 : UInt8)).mpr rfl

/-- `verify_ok_digests_spec` at the signed sample: its hypothesis holds (key 2 verifies) -/
example := verify_ok_digests_spec ⟨C10.tMd5, C10.tSha1, C10.tSha256⟩ C10.T.b64dec (verifierOf C10.T (2 : UInt8)) sSigned
  (by
    have h := (build_sign_verifies C10.tMd5 C10.tSha1 C10.tSha256 C06.sampleCfg sNow sArchive sPayload (legacyOk C10.ids)
      (correct C10.ids) (binds C10.ids) (b64 C10.ids) s_valid s_recs 1700000200 (2 : UInt8) (2 : UInt8)).mpr rfl
    exact (Sign.verifyWith_eq_verifySignatureS C10.T C10.tMd5 C10.tSha1 C10.tSha256 (2 : UInt8) sSigned).symm.trans h)

/-- `signOp_libSigned` at C10's toy start package (`parse_of_prefix`, `tamper_rejected_bytes`, `tamper_rejected_value` are
instantiated inside `tamper_rejected_build_sign` above) -/
example : LibSigned (signOp C10.T C10.tSha256 (2 : UInt8) 5 C10.p0).md.signature :=
  signOp_libSigned C10.tSha256 (legacyOk C10.ids) _ _ _

end examples
end RpmVerif.C02
