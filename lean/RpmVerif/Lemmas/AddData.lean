import RpmVerif.Lemmas.Path
import RpmVerif.Model.AddData
import RpmVerif.Spec.AddData
/-! Helper lemmas for C17: `add_data` on the two accepted shapes of destination, in terms of the
pieces of the text (`addData_slash`, `addData_dot`); the tie to `Spec/AddData` — a `Split` of the text is a split of its
pieces, and accepted destinations are exactly those (`addDataRaw_of_split`, `addDataRaw_ok`); the range test of
`Compressor::try_from`; the sequencing of `buildArgs`. -/
namespace RpmVerif.AddData
open RpmVerif.Path RpmVerif.AddDataSpec

/-- the stored directory for the directory text `x` (`x` has no leading `/`): `/x/`, or `/` -/
def dirOf (x : Bytes) : Bytes := if x = [] then [47] else 47 :: (x ++ [47])

theorem fixRootDir_wrap (x : Bytes) : fixRootDir (47 :: (x ++ [47])) = dirOf x := by
  cases x with
  | nil => rfl
  | cons a t =>
    simp only [fixRootDir, dirOf, List.cons_append]
    cases t <;> simp

theorem backPieces_slash (r : Bytes) : backPieces (47 :: r) = trimTriv (splitSep r).reverse := by
  simp [backPieces, body, lenBeforeBody, hasRoot, includeCurDir]

theorem parent_slash (r : Bytes) : parent (47 :: r) =
    match trimTriv (splitSep r).reverse with
    | [] => none
    | _ :: rest => some (47 :: joinSep (trimTriv rest).reverse) := by
  unfold parent
  rw [backPieces_slash]
  cases trimTriv (splitSep r).reverse <;> simp [lenBeforeBody, hasRoot, includeCurDir]

theorem fileName_slash (r : Bytes) : fileName (47 :: r) =
    match trimTriv (splitSep r).reverse with
    | [] => none
    | s :: _ => if s == [46, 46] then none else some s := by
  unfold fileName
  rw [backPieces_slash]
  cases trimTriv (splitSep r).reverse <;> rfl

theorem addData_slash (r : Bytes) : addDataRaw (47 :: r) =
    match trimTriv (splitSep r).reverse with
    | [] => errDest
    | s :: rest =>
      if s == [46, 46] then errDest
      else .ok (46 :: 47 :: r, dirOf (joinSep (trimTriv rest).reverse), s) := by
  unfold addDataRaw
  rw [parent_slash, fileName_slash]
  cases trimTriv (splitSep r).reverse with
  | nil => simp [strStartsWith]
  | cons s rest =>
    simp only [strStartsWith, toStringLossy]
    by_cases hs : (s == [46, 46]) = true
    · simp [hs, errDest]
    · simp [hs, ← fixRootDir_wrap]

theorem backPieces_dot (r : Bytes) : backPieces (46 :: 47 :: r) = trimTriv (splitSep (47 :: r)).reverse := by
  simp [backPieces, body, lenBeforeBody, hasRoot, includeCurDir]

theorem parent_dot (r : Bytes) : parent (46 :: 47 :: r) =
    match trimTriv (splitSep (47 :: r)).reverse with
    | [] => some []
    | _ :: rest => some (46 :: joinSep (trimTriv rest).reverse) := by
  unfold parent
  rw [backPieces_dot]
  cases trimTriv (splitSep (47 :: r)).reverse <;> simp [lenBeforeBody, hasRoot, includeCurDir]

theorem fileName_dot (r : Bytes) : fileName (46 :: 47 :: r) =
    match trimTriv (splitSep (47 :: r)).reverse with
    | [] => none
    | s :: _ => if s == [46, 46] then none else some s := by
  unfold fileName
  rw [backPieces_dot]
  cases trimTriv (splitSep (47 :: r)).reverse <;> rfl

theorem stripPrefixDot_nil : stripPrefixDot [] = none := by
  simp [stripPrefixDot, includeCurDir, hasRoot]

/-- `"." ++ text of K` has a `CurDir` component when the pieces `K` start a list that begins with the empty piece: the text
is empty or starts with `/` -/
theorem includeCurDir_dot_joinSep {T K R : List Bytes} (h : [] :: T = K ++ R) : includeCurDir (46 :: joinSep K) = true := by
  cases K with
  | nil => rfl
  | cons k K' =>
    simp only [List.cons_append, List.cons.injEq] at h
    obtain ⟨rfl, _⟩ := h
    cases K' <;> simp [joinSep, includeCurDir, hasRoot]

theorem stripPrefixDot_dot_cons {x : Bytes} (h : includeCurDir (46 :: x) = true) :
    stripPrefixDot (46 :: x) = some (joinSep (trimTriv (trimTriv (splitSep x)).reverse).reverse) := by
  simp [stripPrefixDot, h]

/-- the directory text of a `./` destination whose pieces before the file name are `rest` (reversed) -/
def dotDirText (rest : List Bytes) : Bytes :=
  joinSep (trimTriv (trimTriv (splitSep (joinSep (trimTriv rest).reverse))).reverse).reverse

theorem addData_dot (r : Bytes) : addDataRaw (46 :: 47 :: r) =
    match trimTriv (splitSep (47 :: r)).reverse with
    | [] => errDest
    | s :: rest =>
      if s == [46, 46] then errDest
      else .ok (46 :: 47 :: r, dirOf (dotDirText rest), s) := by
  unfold addDataRaw
  rw [parent_dot, fileName_dot]
  cases h : trimTriv (splitSep (47 :: r)).reverse with
  | nil => simp [strStartsWith, stripPrefixDot_nil, errDest]
  | cons s rest =>
    -- the parent text keeps its `CurDir` component: its pieces are a prefix of `[] :: splitSep r`
    have hinc : includeCurDir (46 :: joinSep (trimTriv rest).reverse) = true := by
      obtain ⟨post, hS, _⟩ := pieces_of_trimTriv_reverse h
      obtain ⟨post', hK, _⟩ := trimTriv_reverse_prefix rest.reverse
      rw [List.reverse_reverse] at hK
      rw [splitSep_cons_sep, hK, List.append_assoc] at hS
      exact includeCurDir_dot_joinSep hS
    simp only [strStartsWith, toStringLossy]
    rw [stripPrefixDot_dot_cons hinc]
    by_cases hs : (s == [46, 46]) = true
    · simp [hs, errDest]
    · simp [hs, ← fixRootDir_wrap, dotDirText]

theorem ne_dotdot_of_beq {s : Bytes} : ((s == [46, 46]) = true) ↔ s = [46, 46] := by simp

theorem trail_of_triv {J : List Bytes} (h : ∀ y ∈ J, isTriv y = true) : Trail (J.flatMap (fun x => 47 :: x)) := by
  induction J with
  | nil => exact Trail.nil
  | cons a t ih =>
    have ht := ih (fun y hy => h y (List.mem_cons_of_mem _ hy))
    rcases (isTriv_iff a).mp (h a (by simp)) with rfl | rfl
    · simpa using Trail.slash ht
    · simpa using Trail.slashDot ht

theorem triv_of_trail {t : Bytes} (h : Trail t) :
    ∃ J : List Bytes, (∀ y ∈ J, isTriv y = true) ∧ t = J.flatMap (fun x => 47 :: x) := by
  induction h with
  | nil => exact ⟨[], by simp, rfl⟩
  | slash _ ih =>
    obtain ⟨J, hJ, rfl⟩ := ih
    exact ⟨[] :: J, by intro y hy; rcases List.mem_cons.mp hy with rfl | hy; exact rfl; exact hJ y hy, by simp⟩
  | slashDot _ ih =>
    obtain ⟨J, hJ, rfl⟩ := ih
    exact ⟨[46] :: J, by intro y hy; rcases List.mem_cons.mp hy with rfl | hy; exact rfl; exact hJ y hy, by simp⟩

theorem isTriv_false_of_name {name : Bytes} (h0 : name ≠ []) (h1 : name ≠ [46]) : isTriv name = false :=
  Bool.eq_false_iff.mpr fun h => ((isTriv_iff name).mp h).elim h0 h1

theorem pieces_of_split {dest d name trail : Bytes} (h : Split dest d name trail) :
    ∃ J : List Bytes, (∀ y ∈ J, isTriv y = true) ∧ splitSep dest = splitSep d ++ name :: J := by
  obtain ⟨J, hJ, rfl⟩ := triv_of_trail h.trail
  refine ⟨J, hJ, ?_⟩
  have hjoin : name ++ J.flatMap (fun x => 47 :: x) = joinSep (name :: J) := rfl
  rw [h.eq, hjoin, splitSep_append_sep, splitSep_joinSep (by simp)]
  intro s hs
  rcases List.mem_cons.mp hs with rfl | hs
  · exact h.noSep
  · rcases (isTriv_iff s).mp (hJ s hs) with rfl | rfl <;> simp

theorem split_of_pieces {dest name : Bytes} {pre J : List Bytes} (hpre : pre ≠ [])
    (hS : splitSep dest = pre ++ name :: J) (hJ : ∀ y ∈ J, isTriv y = true)
    (hn : isTriv name = false) (hdd : name ≠ [46, 46]) :
    Split dest (joinSep pre) name (J.flatMap (fun x => 47 :: x)) where
  eq := by
    have := joinSep_splitSep dest
    rw [hS, joinSep_append_cons hpre] at this
    exact this.symm
  nonempty := by intro e; rw [e] at hn; cases hn
  noSep := noSep_of_mem_splitSep (p := dest) (by rw [hS]; simp)
  notDot := by intro e; rw [e] at hn; cases hn
  notDotDot := hdd
  trail := trail_of_triv hJ

theorem start_cases (dest : Bytes) :
    (∃ r, dest = 47 :: r) ∨ (∃ r, dest = 46 :: 47 :: r) ∨
    (strStartsWith dest [46, 47] = false ∧ strStartsWith dest [47] = false) := by
  by_cases h1 : strStartsWith dest [47] = true
  · obtain ⟨r, hr⟩ := List.isPrefixOf_iff_prefix.mp h1
    exact .inl ⟨r, hr.symm⟩
  · by_cases h2 : strStartsWith dest [46, 47] = true
    · obtain ⟨r, hr⟩ := List.isPrefixOf_iff_prefix.mp h2
      exact .inr (.inl ⟨r, hr.symm⟩)
    · exact .inr (.inr ⟨Bool.eq_false_iff.mpr h2, Bool.eq_false_iff.mpr h1⟩)

theorem addData_bad_start {dest : Bytes}
    (h : strStartsWith dest [46, 47] = false ∧ strStartsWith dest [47] = false) : addDataRaw dest = errDest := by
  unfold addDataRaw
  simp [h.1, h.2]

theorem dirOf_head (x : Bytes) : (dirOf x).head? = some 47 := by
  unfold dirOf; split <;> rfl

theorem dirOf_getLast (x : Bytes) : (dirOf x).getLast? = some 47 := by
  unfold dirOf; split
  · rfl
  · have e : 47 :: (x ++ [47]) = (47 :: x) ++ [47] := rfl
    rw [e, List.getLast?_append]; rfl

theorem dirOf_ne_nil (x : Bytes) : dirOf x ≠ [] := by
  unfold dirOf; split <;> simp

theorem mem_trimTriv {l : List Bytes} {s : Bytes} (h : s ∈ trimTriv l) : s ∈ l :=
  List.dropWhile_subset _ h

theorem nameComps_slash (r : Bytes) : nameComps (47 :: r) = nameParts (splitSep r) := by
  unfold nameComps
  rw [splitSep_cons_sep, nameParts_cons_triv rfl]

theorem nameComps_dot (r : Bytes) : nameComps (46 :: 47 :: r) = nameParts (splitSep r) := by
  unfold nameComps
  rw [splitSep_cons_ne (by decide), splitSep_cons_sep]
  exact nameParts_cons_triv rfl _

theorem nameComps_dirOf_append (x : Bytes) {name : Bytes} (hn : isTriv name = false)
    (h47 : (47 : UInt8) ∉ name) : nameComps (dirOf x ++ name) = nameParts (splitSep x) ++ [name] := by
  unfold dirOf
  split
  · next hx =>
    subst hx
    rw [List.cons_append, List.nil_append, nameComps_slash, splitSep_noSep h47, nameParts_cons_real hn]
    rfl
  · have e : 47 :: (x ++ [47]) ++ name = 47 :: (x ++ 47 :: name) := by simp
    rw [e, nameComps_slash, splitSep_append_sep, nameParts_append, splitSep_noSep h47, nameParts_cons_real hn]
    rfl

/-- `strip_prefix(".")` of the parent text names the same directories as the pieces it came from -/
theorem nameParts_dotDirText {rest : List Bytes} (h : ∀ s ∈ rest, (47 : UInt8) ∉ s) :
    nameParts (splitSep (dotDirText rest)) = nameParts rest.reverse := by
  unfold dotDirText
  have hK : ∀ s ∈ (trimTriv rest).reverse, (47 : UInt8) ∉ s :=
    fun s hs => h s (mem_trimTriv (List.mem_reverse.mp hs))
  rw [nameParts_splitSep_joinSep, nameParts_trim_right, nameParts_trimTriv,
    nameParts_splitSep_joinSep hK, nameParts_reverse, nameParts_trimTriv, nameParts_reverse]
  intro s hs
  have h1 := mem_trimTriv (List.mem_reverse.mp hs)
  have h2 := mem_trimTriv (List.mem_reverse.mp h1)
  exact noSep_of_mem_splitSep h2

theorem join_dir_base {dir base : Bytes} (hd : dir.getLast? = some 47) (hb : (47 : UInt8) ∉ base) :
    Path.join dir base = dir ++ base := by
  unfold Path.join
  have : hasRoot base = false := by
    unfold hasRoot
    split
    · exact absurd List.mem_cons_self hb
    · rfl
  simp [this, hd]

/-- both accepted shapes end in the same decision on the pieces `l` found from the back -/
theorem backPieces_ok_iff {l : List Bytes} {f : List Bytes → Bytes} {c cpio dir base : Bytes} :
    (match l with
      | [] => errDest
      | s :: rest => if s == [46, 46] then errDest else Out.ok (c, dirOf (f rest), s)) = .ok (cpio, dir, base) ↔
    ∃ rest, l = base :: rest ∧ base ≠ [46, 46] ∧ cpio = c ∧ dir = dirOf (f rest) := by
  constructor
  · intro h
    split at h
    · cases h
    · next s rest =>
      split at h
      · cases h
      · next hdd =>
        cases h
        exact ⟨rest, rfl, mt ne_dotdot_of_beq.mpr hdd, rfl, rfl⟩
  · rintro ⟨rest, rfl, hdd, rfl, rfl⟩
    exact if_neg (mt ne_dotdot_of_beq.mp hdd)

theorem addDataRaw_of_split {dest d name trail : Bytes} (hv : ValidStart dest) (hsp : Split dest d name trail) :
    ∃ cpio dir, addDataRaw dest = .ok (cpio, dir, name) := by
  have hn := isTriv_false_of_name hsp.nonempty hsp.notDot
  obtain ⟨J, hJ, hp⟩ := pieces_of_split hsp
  rw [splitSep_eq_cons d] at hp
  rcases hv with ⟨r, rfl⟩ | ⟨r, rfl⟩
  · rw [splitSep_cons_sep] at hp
    simp only [List.cons_append, List.cons.injEq] at hp
    rw [addData_slash, hp.2]
    exact ⟨_, _, backPieces_ok_iff.mpr ⟨_, trimTriv_reverse_of_pieces hJ hn, hsp.notDotDot, rfl, rfl⟩⟩
  · rw [splitSep_cons_ne (by decide), splitSep_cons_sep] at hp
    simp only [List.cons_append, List.cons.injEq, List.tail_cons] at hp
    have hS : splitSep (47 :: r) = ([] :: (splitSep d).tail) ++ name :: J := by rw [splitSep_cons_sep, hp.2]; rfl
    rw [addData_dot, hS]
    exact ⟨_, _, backPieces_ok_iff.mpr ⟨_, trimTriv_reverse_of_pieces hJ hn, hsp.notDotDot, rfl, rfl⟩⟩

/-- what an accepted destination looks like: its pieces are `pre ++ base :: J` with `base` the last real piece (not `..`),
`J` trivial; the archive name is `./…`; the directory is `dirOf x` for a text `x` that names the directories of `pre` -/
theorem addDataRaw_ok {dest cpio dir base : Bytes} (h : addDataRaw dest = .ok (cpio, dir, base)) :
    ∃ pre J x, pre ≠ [] ∧ splitSep dest = pre ++ base :: J ∧ (∀ y ∈ J, isTriv y = true) ∧ isTriv base = false ∧
      base ≠ [46, 46] ∧ ValidStart dest ∧ cpio = (if hasRoot dest then 46 :: dest else dest) ∧ dir = dirOf x ∧
      nameParts (splitSep x) = nameParts pre := by
  rcases start_cases dest with ⟨r, rfl⟩ | ⟨r, rfl⟩ | hb
  · rw [addData_slash] at h
    obtain ⟨rest, hb, hdd, rfl, rfl⟩ := backPieces_ok_iff.mp h
    obtain ⟨post, hS, hs, hpost⟩ := pieces_of_trimTriv_reverse hb
    refine ⟨[] :: rest.reverse, post, _, nofun, by rw [splitSep_cons_sep, hS]; rfl, hpost, hs, hdd,
      .inl ⟨r, rfl⟩, rfl, rfl, ?_⟩
    rw [nameParts_cons_triv rfl, ← nameParts_trim_right rest.reverse, List.reverse_reverse]
    refine nameParts_splitSep_joinSep fun y hy => noSep_of_mem_splitSep (p := r) ?_
    rw [hS]
    exact List.mem_append_left _ (List.mem_reverse.mpr (mem_trimTriv (List.mem_reverse.mp hy)))
  · rw [addData_dot] at h
    obtain ⟨rest, hb, hdd, rfl, rfl⟩ := backPieces_ok_iff.mp h
    obtain ⟨post, hS, hs, hpost⟩ := pieces_of_trimTriv_reverse hb
    rw [splitSep_cons_sep] at hS
    -- the pieces before `base` start with the empty piece in front of the first `/`
    cases hrr : rest.reverse with
    | nil => rw [hrr] at hS; rw [← (List.cons.inj hS).1] at hs; cases hs
    | cons u U =>
      rw [hrr] at hS
      simp only [List.cons_append, List.cons.injEq] at hS
      obtain ⟨rfl, hS⟩ := hS
      refine ⟨[46] :: U, post, _, nofun, by rw [splitSep_cons_ne (by decide), splitSep_cons_sep, hS]; rfl, hpost, hs,
        hdd, .inr ⟨r, rfl⟩, rfl, rfl, ?_⟩
      rw [nameParts_dotDirText, hrr, nameParts_cons_triv rfl, nameParts_cons_triv rfl]
      intro y hy
      rcases List.mem_cons.mp (hrr ▸ List.mem_reverse.mpr hy) with rfl | hy
      · nofun
      · exact noSep_of_mem_splitSep (p := r) (hS ▸ List.mem_append_left _ hy)
  · rw [addData_bad_start hb] at h; cases h

/-- the scraped flag says an out-of-range level is an `Err`, so `Compressor::try_from` is the range test, then the encoder -/
theorem compressorConstruct_eq (enc : Nat → Int → Out Unit) (v : Nat) (level : Int) :
    compressorConstruct enc v level = if levelInRange v level then enc v level else .err "level-out-of-range" := by
  have hflag : Gen.levelOutOfRangeIsErr = true := by decide
  unfold compressorConstruct
  cases levelInRange v level <;> simp [hflag]

theorem seqOut_not_panic {l : List (Out Unit)} (h : ∀ x ∈ l, x.isPanic = false) : (seqOut l).isPanic = false := by
  induction l with
  | nil => rfl
  | cons x r ih =>
    have hx := h x (by simp)
    have hr := ih (fun y hy => h y (List.mem_cons_of_mem _ hy))
    cases x with
    | ok a => exact hr
    | err c => rfl
    | panic s => cases hx

theorem discardOut_isPanic {α : Type} (x : Out α) : (discardOut x).isPanic = x.isPanic := by
  cases x <;> rfl

end RpmVerif.AddData
