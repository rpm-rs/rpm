import RpmVerif.Spec.RpmValid
import RpmVerif.Lemmas.FromEntries
/-! What the validator of `Spec/RpmValid.lean` sees of a record that `from_entries` laid out (data length, count, alignment,
position), of the order `from_entries` puts the records in and of its region trailer, and of a tag the header does not carry;
a bound on the store that does not depend on that order. -/
namespace RpmVerif.Hdr
open RpmVerif.RpmValid

/-- a record that occupies at least one byte and one item -/
def IndexData.NonEmpty : IndexData → Prop
  | .null => False
  | .char d => d ≠ []
  | .int8 d => d ≠ []
  | .bin d => d ≠ []
  | .int16 l => l ≠ []
  | .int32 l => l ≠ []
  | .int64 l => l ≠ []
  | .str _ => True
  | .strArray l => l ≠ []
  | .i18n l => l ≠ []

theorem numItems_pos {d : IndexData} (h : d.NonEmpty) : 1 ≤ d.numItems := by
  cases d with
  | null => exact h.elim
  | str s => exact Nat.le_refl 1
  | _ => exact List.length_pos_iff.mpr h

theorem typeCode_pos {d : IndexData} (h : d.NonEmpty) : 1 ≤ d.typeCode := by
  cases d with
  | null => exact h.elim
  | _ => simp [IndexData.typeCode]

theorem numItems_of_str {d : IndexData} (h : d.typeCode = 6) : d.numItems = 1 := by
  cases d <;> first | rfl | simp [IndexData.typeCode] at h

theorem be64_length (n : Nat) : (be64 n).length = 8 := rfl

theorem length_le_flatten_terminated (l : List Bytes) : l.length ≤ ((l.map (· ++ [0])).flatten).length := by
  induction l with
  | nil => exact Nat.le_refl 0
  | cons s ss ih => simp only [List.map_cons, List.flatten_cons, List.length_append, List.length_cons, List.length_nil]; omega

theorem numItems_le_enc (d : IndexData) : d.numItems ≤ d.enc.length := by
  cases d with
  | null | char _ | int8 _ | bin _ => exact Nat.le_refl _
  | int16 l => rw [IndexData.enc, flatten_map_length l be16 2 fun _ => rfl]; exact Nat.le_mul_of_pos_left _ (by decide)
  | int32 l => rw [IndexData.enc, flatten_map_length l be32 4 be32_length]; exact Nat.le_mul_of_pos_left _ (by decide)
  | int64 l => rw [IndexData.enc, flatten_map_length l be64 8 be64_length]; exact Nat.le_mul_of_pos_left _ (by decide)
  | str s => simp [IndexData.enc, IndexData.numItems]
  | strArray l | i18n l => exact length_le_flatten_terminated l

theorem enc_pos {d : IndexData} (h : d.NonEmpty) : 0 < d.enc.length :=
  Nat.lt_of_lt_of_le (numItems_pos h) (numItems_le_enc d)

theorem strLen_append (s post : Bytes) (h : (0 : UInt8) ∉ s) : strLen (s ++ 0 :: post) = some (s.length + 1) := by
  induction s with
  | nil => simp [strLen]
  | cons b r ih =>
    have hb : b ≠ 0 := fun e => h (by simp [e])
    have hr : (0 : UInt8) ∉ r := fun m => h (by simp [m])
    simp only [List.cons_append, strLen, if_neg hb, ih hr, Option.map_some, List.length_cons]

theorem stringsLen_enc (l : List Bytes) (post : Bytes) (h : ∀ s ∈ l, (0 : UInt8) ∉ s) :
    stringsLen l.length ((l.map (· ++ [0])).flatten ++ post) = some ((l.map (· ++ [0])).flatten).length := by
  induction l with
  | nil => rfl
  | cons s ss ih =>
    have ih := ih fun y m => h y (List.mem_cons_of_mem _ m)
    simp only [List.map_cons, List.flatten_cons, List.append_assoc, List.length_cons, stringsLen, List.cons_append,
      List.nil_append, strLen_append s _ (h s (List.mem_cons_self ..))]
    rw [List.append_cons, List.drop_left' (by simp), ih]
    simp only [Option.map_some, List.length_append, List.length_cons]
    exact congrArg some (Nat.add_right_comm ..)

theorem dataLen_enc {d : IndexData} (hc : d.Canon) (hn : d ≠ .null) (pre post : Bytes) :
    dataLen (pre ++ d.enc ++ post) pre.length d.typeCode d.numItems = some d.enc.length := by
  cases d with
  | null => exact absurd rfl hn
  | char b | int8 b | bin b => rfl
  | int16 l => exact congrArg some (flatten_map_length l be16 2 fun _ => rfl).symm
  | int32 l => exact congrArg some (flatten_map_length l be32 4 be32_length).symm
  | int64 l => exact congrArg some (flatten_map_length l be64 8 be64_length).symm
  | str s =>
    simp only [dataLen, IndexData.typeCode, IndexData.enc, List.append_assoc, List.drop_left, List.cons_append, List.nil_append]
    rw [strLen_append s post hc.1]; simp
  | strArray l | i18n l =>
    simp only [dataLen, IndexData.typeCode, IndexData.enc, IndexData.numItems, List.append_assoc, List.drop_left]
    exact stringsLen_enc l post (fun s m => (hc.2 s m).1)

theorem typeAlign_typeCode (d : IndexData) : typeAlign d.typeCode = d.align := by cases d <;> rfl

theorem align_cases (d : IndexData) : d.align = 1 ∨ d.align = 2 ∨ d.align = 4 ∨ d.align = 8 := by
  cases d <;> simp [IndexData.align]

theorem padTo_spec (n : Nat) (d : IndexData) : (n + padTo n d.align) % d.align = 0 ∧ padTo n d.align ≤ 7 := by
  unfold padTo
  rcases align_cases d with h | h | h | h <;> rw [h] <;> omega

theorem layout_aligned (rs : List (Nat × IndexData)) (store : Bytes) :
    ∀ e ∈ (layout rs store).1, e.off % e.data.align = 0 := by
  induction rs generalizing store with
  | nil => intro e he; cases he
  | cons r rs ih =>
    obtain ⟨tag, d⟩ := r
    intro e he
    simp only [layout, List.mem_cons] at he
    rcases he with rfl | he
    · exact (padTo_spec store.length d).1
    · exact ih _ e he

theorem entryLen_layout {rs : List (Nat × IndexData)} {store : Bytes} {e : Entry} (he : e ∈ (layout rs store).1)
    (hc : e.data.Canon) (hn : e.data ≠ .null) (tail : Bytes) :
    entryLen ((layout rs store).2 ++ tail) e = some e.data.enc.length := by
  obtain ⟨pre, post, hfin, hpre, hcnt, _⟩ := layout_inv rs store e he
  rw [entryLen, hfin, hcnt, ← hpre, List.append_assoc]
  exact dataLen_enc hc hn pre (post ++ tail)

theorem layout_seqFrom (st : Bytes) (rs : List (Nat × IndexData)) (store : Bytes)
    (h : ∀ e ∈ (layout rs store).1, entryLen st e = some e.data.enc.length) :
    SeqFrom st store.length (layout rs store).1 := by
  induction rs generalizing store with
  | nil => trivial
  | cons r rs ih =>
    obtain ⟨tag, d⟩ := r
    simp only [layout, List.forall_mem_cons] at h
    simp only [layout, SeqFrom, h.1, Option.getD_some]
    refine ⟨Nat.le_add_right _ _, ?_⟩
    have := ih _ h.2
    simpa only [List.length_append, List.length_replicate] using this

theorem i32Raw_region (c : Nat) (h : c + 1 ≤ 65535) : i32Raw (-(((c : Int) + 1) * 16)) = 4294967296 - 16 * (c + 1) := by
  unfold i32Raw
  omega

/-- `from_entries` sorts by tag: with pairwise distinct tags the order is strict -/
theorem sorted_strict {recs : List (Nat × IndexData)} (hn : (recs.map (·.1)).Nodup) :
    (recs.mergeSort (fun a b => decide (a.1 ≤ b.1))).Pairwise (fun a b => a.1 < b.1) := by
  have hle := List.pairwise_mergeSort (le := fun a b : Nat × IndexData => decide (a.1 ≤ b.1))
    (fun a b c hab hbc => decide_eq_true (Nat.le_trans (of_decide_eq_true hab) (of_decide_eq_true hbc)))
    (fun a b => by simp only [Bool.or_eq_true, decide_eq_true_eq]; exact Nat.le_total a.1 b.1) recs
  have hne : (recs.mergeSort (fun a b => decide (a.1 ≤ b.1))).Pairwise (fun a b => a.1 ≠ b.1) :=
    List.pairwise_map.mp (((List.mergeSort_perm recs _).map _).nodup_iff.mpr hn)
  exact (hle.and hne).imp fun h => Nat.lt_of_le_of_ne (of_decide_eq_true h.1) h.2

theorem body_fromEntries_mem {recs : List (Nat × IndexData)} {rt : Nat} {e : Entry}
    (he : e ∈ body (fromEntries recs rt)) : (e.tag, e.data) ∈ recs :=
  List.mem_mergeSort.mp (mem_of_mem_layout he)

theorem fromEntries_find_none {recs : List (Nat × IndexData)} {rt t : Nat}
    (hrt : rt ≠ t) (hn : ∀ r ∈ recs, r.1 ≠ t) : (fromEntries recs rt).entries.find? (fun e => e.tag == t) = none := by
  rw [List.find?_eq_none]
  intro e he
  rcases List.mem_cons.mp he with rfl | he
  · simpa using hrt
  · simpa using hn _ (body_fromEntries_mem (rt := rt) he)

theorem layout_store_le (rs : List (Nat × IndexData)) (store : Bytes) :
    (layout rs store).2.length ≤ store.length + (rs.map (fun r => r.2.enc.length + 7)).sum := by
  induction rs generalizing store with
  | nil => simp [layout]
  | cons r rs ih =>
    obtain ⟨tag, d⟩ := r
    simp only [layout, List.map_cons, List.sum_cons]
    have := ih (store ++ List.replicate (padTo store.length d.align) 0 ++ d.enc)
    simp only [List.length_append, List.length_replicate] at this
    have := (padTo_spec store.length d).2
    omega

/-- an explicit, order-independent bound on the store `from_entries` builds -/
theorem fromEntries_store_le (recs : List (Nat × IndexData)) (rt : Nat) :
    (fromEntries recs rt).store.length ≤ (recs.map (fun r => r.2.enc.length + 7)).sum + 16 := by
  simp only [fromEntries, List.length_append, regionTrailer_length]
  have h := layout_store_le (recs.mergeSort (fun a b => decide (a.1 ≤ b.1))) []
  have hp := ((List.mergeSort_perm recs (fun a b => decide (a.1 ≤ b.1))).map (fun r => r.2.enc.length + 7)).sum_nat
  simp only [List.length_nil, Nat.zero_add] at h
  omega
end RpmVerif.Hdr
