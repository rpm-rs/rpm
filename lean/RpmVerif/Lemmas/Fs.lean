import RpmVerif.Model.Fs
/-!
Facts about the file-system model: the node map under `set` / `del`; what a successful system call has done (`*_ok`)
and what a call does on a path that resolves to itself; the path walk when it meets no link (`walkComps_nolink`);
`create_dir_all` as a chain of `mkdir`s (`cdaRev_chain`) and its result when only directories are in the way (`cda_spec`).
-/
namespace RpmVerif.Fs

theorem lookup_erase (p q : Path) (l : List (Path × Node)) :
    lookup q (erase p l) = if q = p then none else lookup q l := by
  induction l with
  | nil => simp [erase, lookup]
  | cons e r ih =>
    obtain ⟨a, n⟩ := e
    by_cases h1 : a = p
    · subst h1
      simp only [erase, if_true, ih, lookup]
      by_cases h2 : q = a
      · subst h2; simp
      · have : ¬ a = q := fun h => h2 h.symm
        simp [h2, this]
    · simp only [erase, h1, if_false, lookup, ih]
      by_cases h2 : a = q
      · subst h2
        have : ¬ a = p := h1
        simp [this]
      · simp [h2]

theorem lookup_mem {p : Path} {n : Node} : ∀ {l : List (Path × Node)}, lookup p l = some n → (p, n) ∈ l := by
  intro l
  induction l with
  | nil => intro h; cases h
  | cons e r ih =>
    obtain ⟨a, m⟩ := e
    intro h
    simp only [lookup] at h
    split at h
    · rename_i he; subst he; injection h with h; subst h; simp
    · exact List.mem_cons_of_mem _ (ih h)

theorem get_set (fs : Fs) (p q : Path) (n : Node) :
    (fs.set p n).get q = if q = p then some n else fs.get q := by
  simp only [Fs.set, Fs.get, lookup, lookup_erase]
  by_cases h : q = p
  · subst h; simp
  · have : ¬ p = q := fun e => h e.symm
    simp [h, this]

theorem get_del (fs : Fs) (p q : Path) :
    (fs.del p).get q = if q = p then none else fs.get q := by
  simp only [Fs.del, Fs.get, lookup_erase]

abbrev Fs.DirAt (fs : Fs) (q : Path) : Prop := ∃ m, fs.get q = some (.dir m)

abbrev Fs.NoLinkAt (fs : Fs) (q : Path) : Prop := ∀ t, fs.get q ≠ some (.symlink t)

theorem take_ne_self_of_lt {T : Path} {k : Nat} (h : k < T.length) : T.take k ≠ T := by
  intro he
  have := congrArg List.length he
  simp at this; omega

/-- `P` holds of every proper, non-empty prefix of `cs` (of every ancestor of `cs` below the root) -/
def Ancestors (P : Path → Prop) (cs : Path) : Prop := ∀ k, 0 < k → k < cs.length → P (cs.take k)

def DirsTo (fs : Fs) (T : Path) : Prop := ∀ k, 0 < k → k ≤ T.length → fs.DirAt (T.take k)

theorem Fs.DirAt.noLink {fs : Fs} {q : Path} (h : fs.DirAt q) : fs.NoLinkAt q := fun t ht => by
  obtain ⟨m, hm⟩ := h; rw [hm] at ht; cases ht

theorem Fs.DirAt.set_vacant {fs : Fs} {p q : Path} (hv : fs.get p = none) (n : Node) (h : fs.DirAt q) :
    (fs.set p n).DirAt q := by
  obtain ⟨m, hm⟩ := h
  exact ⟨m, by rw [get_set, if_neg (fun e => by rw [e, hv] at hm; cases hm), hm]⟩

theorem Fs.DirAt.set_dir {fs : Fs} {q : Path} (p : Path) (x : Nat) (h : fs.DirAt q) : (fs.set p (.dir x)).DirAt q := by
  obtain ⟨m, hm⟩ := h
  unfold Fs.DirAt
  rw [get_set]
  by_cases he : q = p
  · exact ⟨x, by rw [if_pos he]⟩
  · exact ⟨m, by rw [if_neg he, hm]⟩

theorem dirs_set_self {fs : Fs} {T : Path} (hp : Ancestors fs.DirAt T)
    (x : Nat) : DirsTo (fs.set T (.dir x)) T := by
  intro k hk hk2
  rcases Nat.lt_or_ge k T.length with h | h
  · exact (hp k hk h).set_dir T x
  · exact ⟨x, by rw [List.take_of_length_le h, get_set, if_pos rfl]⟩

theorem mkdir_ok {fs fs' : Fs} {cs} (h : mkdir fs cs = .ok fs') :
    ∃ q, resolve fs false cs = .ok q ∧ fs.get q = none ∧ nameTooLong q = false ∧
      fs' = fs.set q (.dir (newDirMode fs q)) := by
  unfold mkdir at h
  split at h
  · cases h
  · rename_i q hq
    split at h
    · cases h
    · rename_i hg
      split at h
      · cases h
      · rename_i hs
        injection h with h
        exact ⟨q, hq, hg, by simpa using hs, h.symm⟩

theorem fileCreate_ok {fs fs' : Fs} {cs c} (h : fileCreate fs cs c = .ok fs') :
    ∃ q m, resolve fs true cs = .ok q ∧ fs' = fs.set q (.file c m) ∧
      ((fs.get q = none ∧ m = fs.masked 0o666) ∨ ∃ c0, fs.get q = some (.file c0 m)) := by
  unfold fileCreate at h
  split at h
  · cases h
  · rename_i q hq
    split at h
    · rename_i hg
      split at h
      · cases h
      · injection h with h
        exact ⟨q, _, hq, h.symm, Or.inl ⟨hg, rfl⟩⟩
    · rename_i c0 m hg
      injection h with h
      exact ⟨q, m, hq, h.symm, Or.inr ⟨c0, hg⟩⟩
    · cases h
    · cases h

theorem setPerm_ok {fs fs' : Fs} {cs perm} (h : setPerm fs cs perm = .ok fs') :
    ∃ q, resolve fs true cs = .ok q ∧
      ((∃ m, fs.get q = some (.dir m) ∧ fs' = fs.set q (.dir perm)) ∨
       (∃ c m, fs.get q = some (.file c m) ∧ fs' = fs.set q (.file c perm))) := by
  unfold setPerm at h
  split at h
  · cases h
  · rename_i q hq
    split at h
    · cases h
    · rename_i m hg
      injection h with h
      exact ⟨q, hq, Or.inl ⟨m, hg, h.symm⟩⟩
    · rename_i c m hg
      injection h with h
      exact ⟨q, hq, Or.inr ⟨c, m, hg, h.symm⟩⟩
    · cases h

theorem unlink_ok {fs fs' : Fs} {cs} (h : unlink fs cs = .ok fs') :
    ∃ q n, resolve fs false cs = .ok q ∧ fs.get q = some n ∧ n.isDir = false ∧ fs' = fs.del q := by
  unfold unlink at h
  split at h
  · cases h
  · rename_i q hq
    split at h
    · cases h
    · rename_i n hg
      split at h
      · cases h
      · rename_i hd
        injection h with h
        exact ⟨q, n, hq, hg, by simpa using hd, h.symm⟩

theorem symlink_ok {fs fs' : Fs} {cs t} (h : symlink fs cs t = .ok fs') :
    ∃ q, resolve fs false cs = .ok q ∧ fs.get q = none ∧ t ≠ [] ∧ nameTooLong q = false ∧
      fs' = fs.set q (.symlink t) := by
  unfold symlink at h
  split at h
  · cases h
  · rename_i ht
    split at h
    · cases h
    · rename_i q hq
      split at h
      · cases h
      · rename_i hg
        split at h
        · cases h
        · rename_i hs
          injection h with h
          exact ⟨q, hq, hg, by simpa using ht, by simpa using hs, h.symm⟩

def Normal (c : Name) : Prop := c ≠ dot ∧ c ≠ [] ∧ c ≠ dotdot

/-- a name a file system accepts: at most `NAME_MAX` bytes -/
def Short (c : Name) : Prop := c.length ≤ nameMax

instance (c : Name) : Decidable (Short c) := by unfold Short; infer_instance

theorem nameTooLong_concat (p : Path) (x : Name) : nameTooLong (p ++ [x]) = decide (nameMax < x.length) := by
  simp [nameTooLong]

theorem nameTooLong_of_short {T : Path} (hT : ∀ c ∈ T, Short c) {c : List Name} (hc : ∀ x ∈ c, Short x) :
    nameTooLong (T ++ c) = false := by
  unfold nameTooLong
  cases h : (T ++ c).getLast? with
  | none => rfl
  | some x =>
    have : Short x := List.forall_mem_append.mpr ⟨hT, hc⟩ x (List.mem_of_getLast? h)
    unfold Short at this
    simp only [decide_eq_false_iff_not]
    omega

instance (c : Name) : Decidable (Normal c) := by unfold Normal; infer_instance

theorem walkComps_cons_normal (fs : Fs) (follow fl cur) (c : Name) (rest : List Name) (hc : Normal c) :
    walkComps fs follow fl cur (c :: rest) =
      match fs.get (cur ++ [c]) with
      | none => if rest.isEmpty then .ok (cur ++ [c]) else .error .ENOENT
      | some (.dir _) => walkComps fs follow fl (cur ++ [c]) rest
      | some (.file _ _) => if rest.isEmpty then .ok (cur ++ [c]) else .error .ENOTDIR
      | some (.symlink t) =>
        if rest.isEmpty && !fl then .ok (cur ++ [c])
        else if t.isEmpty then .error .ENOENT
        else follow (if (parseText t).1 then [] else cur) ((parseText t).2 ++ rest) := by
  obtain ⟨h1, h2, h3⟩ := hc
  rw [walkComps]
  simp only [h1, h2, h3, or_self, if_false]
  generalize fs.get (cur ++ [c]) = o
  cases o with
  | none => rfl
  | some n => cases n <;> rfl

def NoneOrDir (o : Option Node) : Prop := o = none ∨ ∃ m, o = some (.dir m)

theorem NoneOrDir.noLink {fs : Fs} {q : Path} (h : NoneOrDir (fs.get q)) : fs.NoLinkAt q := fun t ht => by
  rcases h with h | ⟨m, h⟩ <;> rw [h] at ht <;> cases ht

theorem walkComps_nolink (fs : Fs) (follow) (fl : Bool) : ∀ (cs : List Name) (cur : Path),
    (∀ c ∈ cs, Normal c) →
    (∀ k, 0 < k → k < cs.length → fs.NoLinkAt (cur ++ cs.take k)) →
    (fl = true → fs.NoLinkAt (cur ++ cs)) →
    (walkComps fs follow fl cur cs = .ok (cur ++ cs) ∧
      ∀ k, 0 < k → k < cs.length → fs.DirAt (cur ++ cs.take k)) ∨
    ∃ k, 0 < k ∧ k < cs.length ∧
      ((fs.get (cur ++ cs.take k) = none ∧ walkComps fs follow fl cur cs = .error .ENOENT) ∨
        ∃ c m, fs.get (cur ++ cs.take k) = some (.file c m) ∧ walkComps fs follow fl cur cs = .error .ENOTDIR) := by
  intro cs
  induction cs with
  | nil => intro cur _ _ _; simp [walkComps]
  | cons c rest ih =>
    intro cur hn hs hl
    rw [walkComps_cons_normal _ _ _ _ _ _ (hn c (by simp))]
    cases rest with
    | nil =>
      refine Or.inl ⟨?_, fun k hk hk2 => absurd hk2 (by simp; omega)⟩
      cases hg : fs.get (cur ++ [c]) with
      | none => rfl
      | some n =>
        cases n with
        | dir m => rfl
        | file c0 m => rfl
        | symlink t =>
          cases fl with
          | true => exact absurd hg (hl rfl t)
          | false => rfl
    | cons d r =>
      cases hg : fs.get (cur ++ [c]) with
      | none => exact Or.inr ⟨1, by omega, by simp, Or.inl ⟨hg, rfl⟩⟩
      | some n =>
        cases n with
        | file c0 m => exact Or.inr ⟨1, by omega, by simp, Or.inr ⟨c0, m, hg, rfl⟩⟩
        | symlink t => exact absurd hg (hs 1 (by omega) (by simp) t)
        | dir m =>
          simp only
          have e : ∀ k, cur ++ [c] ++ (d :: r).take k = cur ++ (c :: d :: r).take (k + 1) := fun _ => List.append_assoc ..
          have e' : cur ++ [c] ++ (d :: r) = cur ++ (c :: d :: r) := List.append_assoc ..
          rcases ih (cur ++ [c]) (fun x hx => hn x (List.mem_cons_of_mem _ hx))
            (fun k hk hk2 t => by rw [e]; exact hs (k + 1) (by omega) (Nat.succ_lt_succ hk2) t)
            (fun hfl t => by rw [e']; exact hl hfl t) with ⟨hok, hd⟩ | ⟨k, hk, hk2, hcase⟩
          · refine Or.inl ⟨by rw [← e']; exact hok, fun k hk hk2 => ?_⟩
            rcases Nat.lt_or_ge 1 k with hk1 | hk1
            · rw [show k = (k - 1) + 1 by omega, ← e]
              exact hd (k - 1) (by omega) (by simp only [List.length_cons] at hk2 ⊢; omega)
            · rw [show k = 1 by omega]
              exact ⟨m, hg⟩
          · exact Or.inr ⟨k + 1, by omega, Nat.succ_lt_succ hk2, by rw [← e]; exact hcase⟩

theorem resolve_nolink (fs : Fs) (fl : Bool) (cs : List Name)
    (hn : ∀ c ∈ cs, Normal c)
    (hs : Ancestors fs.NoLinkAt cs)
    (hl : fl = true → fs.NoLinkAt cs) :
    (resolve fs fl cs = .ok cs ∧ Ancestors fs.DirAt cs) ∨
    ∃ k, 0 < k ∧ k < cs.length ∧
      ((fs.get (cs.take k) = none ∧ resolve fs fl cs = .error .ENOENT) ∨
        ∃ c m, fs.get (cs.take k) = some (.file c m) ∧ resolve fs fl cs = .error .ENOTDIR) :=
  -- `resolve` is `walk` with the budget `maxSymlinks` = 39 + 1, i.e. `walkComps` following a link by `walk … 39`
  walkComps_nolink fs (walk fs fl 39) fl cs [] hn hs hl

theorem resolve_ok (fs : Fs) (fl : Bool) (cs : List Name)
    (hn : ∀ c ∈ cs, Normal c)
    (hs : Ancestors fs.NoLinkAt cs)
    (hl : fl = true → fs.NoLinkAt cs)
    {q} (h : resolve fs fl cs = .ok q) :
    q = cs ∧ Ancestors fs.DirAt cs := by
  rcases resolve_nolink fs fl cs hn hs hl with ⟨hok, hd⟩ | ⟨k, _, _, ⟨_, he⟩ | ⟨_, _, _, he⟩⟩
  · rw [hok] at h; injection h with h; exact ⟨h.symm, hd⟩
  · rw [he] at h; cases h
  · rw [he] at h; cases h

theorem resolve_parents (fs : Fs) (fl : Bool) (cs : List Name)
    (hn : ∀ c ∈ cs, Normal c)
    (hd : Ancestors fs.DirAt cs)
    (hl : fl = true → fs.NoLinkAt cs) :
    resolve fs fl cs = .ok cs := by
  rcases resolve_nolink fs fl cs hn (fun k hk hk2 => (hd k hk hk2).noLink) hl with ⟨hok, _⟩ | ⟨k, hk, hk2, ⟨hv, _⟩ | ⟨_, _, hv, _⟩⟩
  · exact hok
  · obtain ⟨m, hm⟩ := hd k hk hk2; rw [hm] at hv; cases hv
  · obtain ⟨m, hm⟩ := hd k hk hk2; rw [hm] at hv; cases hv

def Ext (fs fs' : Fs) (L : List Path) : Prop :=
  fs'.log = L ++ fs.log ∧ ∀ q, q ∉ L → fs'.get q = fs.get q

theorem Ext.refl (fs : Fs) : Ext fs fs [] := ⟨rfl, fun _ _ => rfl⟩

theorem Ext.trans {a b c : Fs} {L1 L2} (h1 : Ext a b L1) (h2 : Ext b c L2) : Ext a c (L2 ++ L1) := by
  refine ⟨by rw [h2.1, h1.1, List.append_assoc], fun q hq => ?_⟩
  simp only [List.mem_append, not_or] at hq
  rw [h2.2 q hq.1, h1.2 q hq.2]

theorem Ext.set (fs : Fs) (p : Path) (n : Node) : Ext fs (fs.set p n) [p] := by
  refine ⟨rfl, fun q hq => ?_⟩
  simp only [List.mem_singleton] at hq
  simp [get_set, hq]

theorem Ext.del (fs : Fs) (p : Path) : Ext fs (fs.del p) [p] := by
  refine ⟨rfl, fun q hq => ?_⟩
  simp only [List.mem_singleton] at hq
  simp [get_del, hq]

theorem forall_take_append {P : Path → Prop} {T r : Path} (h1 : ∀ k, 0 < k → k ≤ T.length → P (T.take k))
    (h2 : ∀ k, 0 < k → k < r.length → P (T ++ r.take k)) :
    Ancestors P (T ++ r) := by
  intro k hk hk2
  by_cases hle : k ≤ T.length
  · rw [List.take_append_of_le_length hle]; exact h1 k hk hle
  · rw [List.take_append, List.take_of_length_le (by omega)]
    exact h2 (k - T.length) (by omega) (by simp at hk2; omega)

theorem mkdir_vacant {fs : Fs} {cs} (hr : resolve fs false cs = .ok cs) (hv : fs.get cs = none)
    (hs : nameTooLong cs = false) :
    mkdir fs cs = .ok (fs.set cs (.dir (newDirMode fs cs))) := by
  unfold mkdir; rw [hr]; simp only [hv, hs, Bool.false_eq_true, if_false]

theorem mkdir_exists {fs : Fs} {cs n} (hr : resolve fs false cs = .ok cs) (hv : fs.get cs = some n) :
    mkdir fs cs = .error .EEXIST := by
  unfold mkdir; rw [hr]; simp only [hv]

theorem isDir_dir {fs : Fs} {cs m} (hr : resolve fs true cs = .ok cs) (hv : fs.get cs = some (.dir m)) :
    isDir fs cs = true := by
  unfold isDir; rw [hr]; simp only [hv]

theorem fileCreate_vacant {fs : Fs} {cs} (c : Bytes) (hr : resolve fs true cs = .ok cs) (hv : fs.get cs = none)
    (hs : nameTooLong cs = false) :
    fileCreate fs cs c = .ok (fs.set cs (.file c (fs.masked 0o666))) := by
  unfold fileCreate; rw [hr]; simp only [hv, hs, Bool.false_eq_true, if_false]

theorem setPerm_file {fs : Fs} {cs c m} (p : Nat) (hr : resolve fs true cs = .ok cs) (hv : fs.get cs = some (.file c m)) :
    setPerm fs cs p = .ok (fs.set cs (.file c p)) := by
  unfold setPerm; rw [hr]; simp only [hv]

theorem setPerm_dir {fs : Fs} {cs m} (p : Nat) (hr : resolve fs true cs = .ok cs) (hv : fs.get cs = some (.dir m)) :
    setPerm fs cs p = .ok (fs.set cs (.dir p)) := by
  unfold setPerm; rw [hr]; simp only [hv]

theorem lexists_vacant {fs : Fs} {cs} (hr : resolve fs false cs = .ok cs) (hv : fs.get cs = none) :
    lexists fs cs = false := by
  unfold lexists; rw [hr]; simp only [hv]; rfl

theorem symlink_vacant {fs : Fs} {cs} {t : Bytes} (ht : t ≠ []) (hr : resolve fs false cs = .ok cs) (hv : fs.get cs = none)
    (hs : nameTooLong cs = false) :
    symlink fs cs t = .ok (fs.set cs (.symlink t)) := by
  unfold symlink
  have : t.isEmpty = false := by cases t <;> simp_all
  rw [this, hr]; simp only [hv, hs, Bool.false_eq_true, if_false]

theorem mkdir_resolve_error {fs : Fs} {cs e} (h : resolve fs false cs = .error e) : mkdir fs cs = .error e := by
  unfold mkdir; rw [h]

/-- what `create_dir_all` accepts of the `mkdir` of one path: it made the directory, or the directory was there -/
def MkdirP (fs : Fs) (P : Path) (fs' : Fs) : Prop :=
  mkdir fs P = .ok fs' ∨ (fs' = fs ∧ mkdir fs P = .error .EEXIST ∧ isDir fs P = true)

theorem cdaRev_direct {fs fs' : Fs} {x rp P} (hrev : (x :: rp).reverse = P) (h : MkdirP fs P fs') :
    createDirAllRev fs (x :: rp) = .ok fs' := by
  unfold createDirAllRev; rw [hrev]
  rcases h with h | ⟨rfl, h, hd⟩
  · rw [h]
  · rw [h]; simp only [hd, if_true]

theorem cdaRev_parent {fs fs1 fs2 : Fs} {x rp P} (hrev : (x :: rp).reverse = P) (h : mkdir fs P = .error .ENOENT)
    (h1 : createDirAllRev fs rp = .ok fs1) (h2 : MkdirP fs1 P fs2) : createDirAllRev fs (x :: rp) = .ok fs2 := by
  unfold createDirAllRev; rw [hrev, h]
  rcases h2 with h2 | ⟨rfl, h2, hd⟩
  · simp only [h1, h2]
  · simp only [h1, h2, hd, if_true]

structure CdaPost (T : Path) (c : List Name) (fs fs1 : Fs) : Prop where
  made : ∀ p, p <+: c → fs1.DirAt (T ++ p)
  only : ∀ q, fs1.get q = fs.get q ∨
    (fs.get q = none ∧ fs1.DirAt q ∧ ∃ p, p <+: c ∧ q = T ++ p)

theorem CdaPost.persist {T c fs fs1} (h : CdaPost T c fs fs1) {q n} (hq : fs.get q = some n) : fs1.get q = some n := by
  rcases h.only q with h1 | ⟨h1, _⟩
  · rw [h1, hq]
  · rw [hq] at h1; cases h1

theorem CdaPost.dirAt {T c fs fs1} (h : CdaPost T c fs fs1) {q} : fs.DirAt q → fs1.DirAt q :=
  fun ⟨m, hm⟩ => ⟨m, h.persist hm⟩

theorem snocInduction {α} {P : List α → Prop} (nil : P []) (snoc : ∀ l a, P l → P (l ++ [a])) : ∀ l, P l := by
  intro l
  rw [← List.reverse_reverse l]
  induction l.reverse with
  | nil => exact nil
  | cons a r ih => rw [List.reverse_cons]; exact snoc _ a ih

section
variable {T : Path} (hT : ∀ c ∈ T, Normal c)
include hT

theorem resolve_of_dirs {fs : Fs} (fl : Bool) (c : List Name) (hc : ∀ x ∈ c, Normal x)
    (htop : DirsTo fs T)
    (hd : ∀ k, k < c.length → fs.DirAt (T ++ c.take k))
    (hl : fl = true → fs.NoLinkAt (T ++ c)) :
    resolve fs fl (T ++ c) = .ok (T ++ c) :=
  resolve_parents fs fl (T ++ c) (List.forall_mem_append.mpr ⟨hT, hc⟩)
    (forall_take_append (P := fs.DirAt) htop fun k _ => hd k) hl

theorem cda_last {fs : Fs} (c' : List Name) (x : Name) (hc : ∀ y ∈ c' ++ [x], Normal y) (hsx : Short x)
    (htop : DirsTo fs T)
    (hd : ∀ p, p <+: c' → fs.DirAt (T ++ p))
    (hp : NoneOrDir (fs.get (T ++ (c' ++ [x])))) :
    (fs.get (T ++ (c' ++ [x])) = none ∧
      mkdir fs (T ++ (c' ++ [x])) = .ok (fs.set (T ++ (c' ++ [x])) (.dir (newDirMode fs (T ++ (c' ++ [x])))))) ∨
    (fs.DirAt (T ++ (c' ++ [x])) ∧ mkdir fs (T ++ (c' ++ [x])) = .error .EEXIST ∧
      isDir fs (T ++ (c' ++ [x])) = true) := by
  have hd' : ∀ k, k < (c' ++ [x]).length → fs.DirAt (T ++ (c' ++ [x]).take k) := by
    intro k hk
    simp at hk
    rw [List.take_append_of_le_length (by omega)]
    exact hd _ (List.take_prefix _ _)
  rcases hp with hv | ⟨m, hv⟩
  · left
    refine ⟨hv, mkdir_vacant (resolve_of_dirs hT false _ hc htop hd' (by simp)) hv ?_⟩
    rw [← List.append_assoc, nameTooLong_concat]
    unfold Short at hsx
    simp only [decide_eq_false_iff_not]; omega
  · right
    refine ⟨⟨m, hv⟩, mkdir_exists (resolve_of_dirs hT false _ hc htop hd' (by simp)) hv,
      isDir_dir (resolve_of_dirs hT true _ hc htop hd' (fun _ t h => ?_)) hv⟩
    rw [hv] at h; cases h

omit hT in
theorem Ancestors.below {P : Path → Prop} {c : List Name} {x : Name} (h : Ancestors P (T ++ (c ++ [x]))) (hne : T ≠ []) :
    ∀ p, p <+: c → P (T ++ p) := by
  intro p hp
  have hlen := hp.length_le
  have h0 : 0 < T.length := List.length_pos_iff.mpr hne
  have := h (T.length + p.length) (by omega) (by simp; omega)
  rwa [List.take_length_add_append, List.take_append_of_le_length hlen, ← List.prefix_iff_eq_take.mp hp] at this

/-- one more component: in a state `fs1` in which `create_dir_all` has made the ancestors, the last `mkdir` -/
theorem CdaPost.snoc {fs fs1 : Fs} {c' : List Name} {x : Name} (hc : ∀ y ∈ c' ++ [x], Normal y) (hsx : Short x)
    (htop : DirsTo fs T) (hP : NoneOrDir (fs.get (T ++ (c' ++ [x])))) (post1 : CdaPost T c' fs fs1) :
    ∃ fs2, CdaPost T (c' ++ [x]) fs fs2 ∧ MkdirP fs1 (T ++ (c' ++ [x])) fs2 := by
  have hP1 : fs1.get (T ++ (c' ++ [x])) = fs.get (T ++ (c' ++ [x])) := by
    rcases post1.only (T ++ (c' ++ [x])) with h | ⟨_, _, p, hp, hq⟩
    · exact h
    · have hl := congrArg List.length hq
      have := hp.length_le
      simp only [List.length_append, List.length_cons, List.length_nil] at hl
      omega
  have only1 : ∀ q, fs1.get q = fs.get q ∨
      (fs.get q = none ∧ fs1.DirAt q ∧ ∃ p, p <+: c' ++ [x] ∧ q = T ++ p) := fun q =>
    (post1.only q).imp id fun ⟨h0, hm, p, hp, hq⟩ => ⟨h0, hm, p, hp.trans (List.prefix_append _ _), hq⟩
  rcases cda_last hT c' x hc hsx (fun k hk hk2 => post1.dirAt (htop k hk hk2)) post1.made (hP1 ▸ hP)
    with ⟨hv, hmk⟩ | ⟨⟨m, hv⟩, hmk, hisd⟩
  · refine ⟨_, ⟨fun p hp => ?_, fun q => ?_⟩, Or.inl hmk⟩
    · rcases List.prefix_concat_iff.mp hp with rfl | hp'
      · exact ⟨_, by rw [get_set, if_pos rfl]⟩
      · exact (post1.made p hp').set_dir _ _
    · unfold Fs.DirAt
      rw [get_set]
      by_cases hq : q = T ++ (c' ++ [x])
      · subst hq
        exact Or.inr ⟨hP1 ▸ hv, ⟨_, by rw [if_pos rfl]⟩, _, List.prefix_refl _, rfl⟩
      · rw [if_neg hq]; exact only1 q
  · refine ⟨fs1, ⟨fun p hp => ?_, only1⟩, Or.inr ⟨rfl, hmk, hisd⟩⟩
    rcases List.prefix_concat_iff.mp hp with rfl | hp'
    · exact ⟨m, hv⟩
    · exact post1.made p hp'

theorem cda_spec (hne : T ≠ []) (c : List Name) : ∀ (fs : Fs), (∀ x ∈ c, Normal x) → (∀ x ∈ c, Short x) →
    DirsTo fs T →
    (∀ p, p <+: c → NoneOrDir (fs.get (T ++ p))) →
    ∃ fs1, createDirAll fs (T ++ c) = .ok fs1 ∧ CdaPost T c fs fs1 := by
  induction c using snocInduction with
  | nil =>
    intro fs _ _ htop _
    obtain ⟨m, hm⟩ := htop T.length (List.length_pos_iff.mpr hne) (Nat.le_refl _)
    rw [List.take_length] at hm
    have hres : ∀ fl, resolve fs fl T = .ok T := fun fl =>
      resolve_parents fs fl T hT (fun k hk hk2 => htop k hk (Nat.le_of_lt hk2)) (fun _ t h => by rw [hm] at h; cases h)
    refine ⟨fs, ?_, ⟨fun p hp => ?_, fun q => Or.inl rfl⟩⟩
    · unfold createDirAll
      rw [List.append_nil]
      cases hr : T.reverse with
      | nil => exact absurd (List.reverse_eq_nil_iff.mp hr) hne
      | cons x rp =>
        exact cdaRev_direct (by rw [← hr, List.reverse_reverse])
          (Or.inr ⟨rfl, mkdir_exists (hres false) hm, isDir_dir (hres true) hm⟩)
    · rw [List.prefix_nil.mp hp, List.append_nil]; exact ⟨m, hm⟩
  | snoc c' x ih =>
    intro fs hc hsh htop hnd
    have hrev : (x :: (T ++ c').reverse).reverse = T ++ (c' ++ [x]) := by simp
    have last := fun fs1 => CdaPost.snoc hT hc (hsh x (by simp)) htop (hnd _ (List.prefix_refl _)) (fs1 := fs1)
    have hndP : Ancestors (fun q => NoneOrDir (fs.get q)) (T ++ (c' ++ [x])) :=
      forall_take_append (P := fun q => NoneOrDir (fs.get q)) (fun k hk hk2 => Or.inr (htop k hk hk2))
        fun k _ _ => hnd _ (List.take_prefix k _)
    unfold createDirAll
    rw [show (T ++ (c' ++ [x])).reverse = x :: (T ++ c').reverse by simp]
    rcases resolve_nolink fs false _ (List.forall_mem_append.mpr ⟨hT, hc⟩) (fun k hk hk2 => (hndP k hk hk2).noLink)
      (by simp) with ⟨_, hdirs⟩ | ⟨k, hk, hk2, ⟨_, hen⟩ | ⟨_, _, hf, _⟩⟩
    · -- the path resolves: all ancestors exist
      obtain ⟨fs2, post, hm⟩ := last fs ⟨hdirs.below hne, fun q => Or.inl rfl⟩
      exact ⟨fs2, cdaRev_direct hrev hm, post⟩
    · -- a missing ancestor: `ENOENT`, the parent is created first
      obtain ⟨fs1, h1, post1⟩ := ih fs (fun y hy => hc y (by simp [hy])) (fun y hy => hsh y (by simp [hy])) htop
        fun p hp => hnd p (hp.trans (List.prefix_append _ _))
      obtain ⟨fs2, post, hm⟩ := last fs1 post1
      exact ⟨fs2, cdaRev_parent hrev (mkdir_resolve_error hen) h1 hm, post⟩
    · rcases hndP k hk hk2 with h | ⟨m, h⟩ <;> rw [h] at hf <;> cases hf

end
/-- `create_dir_all` is a sequence of successful `mkdir`s on prefixes of its path, and so is what a failed one leaves
behind: a reflexive and transitive relation that holds across each such `mkdir` holds across both -/
theorem cdaRev_chain {R : Fs → Fs → Prop} (hrefl : ∀ fs, R fs fs) (htrans : ∀ {a b c}, R a b → R b c → R a c)
    {p : List Name} (hstep : ∀ {fs fs' cs}, cs <+: p → cs ≠ [] → mkdir fs cs = .ok fs' → R fs fs') :
    ∀ (rev : List Name), rev.reverse <+: p → ∀ fs,
      (∀ fs', createDirAllRev fs rev = .ok fs' → R fs fs') ∧ R fs (createDirAllLeftRev fs rev) := by
  intro rev
  induction rev with
  | nil =>
    intro _ fs
    refine ⟨fun fs' h => ?_, hrefl fs⟩
    unfold createDirAllRev at h
    split at h
    · injection h with h; subst h; exact hrefl _
    · cases h
  | cons c rp ih =>
    intro hp fs
    have hp' : rp.reverse <+: p := List.IsPrefix.trans (by simp) hp
    have hne : (c :: rp).reverse ≠ [] := by simp
    constructor
    · intro fs' h
      unfold createDirAllRev at h
      split at h
      · rename_i fs1 hm; injection h with h; subst h; exact hstep hp hne hm
      · split at h
        · cases h
        · rename_i fs1 h1
          have g1 := (ih hp' fs).1 fs1 h1
          split at h
          · rename_i fs2 h2; injection h with h; subst h; exact htrans g1 (hstep hp hne h2)
          · split at h
            · injection h with h; subst h; exact g1
            · cases h
      · split at h
        · injection h with h; subst h; exact hrefl _
        · cases h
    · unfold createDirAllLeftRev
      split
      · split
        · exact (ih hp' fs).2
        · rename_i fs1 h1; exact (ih hp' fs).1 fs1 h1
      · exact hrefl _

end RpmVerif.Fs
