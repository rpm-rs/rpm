import RpmVerif.Model.BufWriter
import RpmVerif.Lemmas.Io
/-! `BufWriter` / `write_file`: bytes are neither lost, duplicated nor reordered between the buffer and the inner
sink. Invariant: (accepted by the inner sink) ++ (still buffered) is a prefix of (previously buffered) ++ (data written),
and equals it while everything reports `Ok`; the buffer never exceeds the capacity. -/
namespace RpmVerif.Io

theorem flushBuf_spec (buf : Bytes) (rs : List Resp) :
    (flushBuf buf rs).1 ++ (flushBuf buf rs).2.2.2 = buf
      ∧ ((flushBuf buf rs).2.1 = .ok → (flushBuf buf rs).2.2.2 = []) := by
  obtain ⟨⟨t, ht⟩, h2, _⟩ := writeAll_spec buf rs
  simp only [flushBuf]
  constructor
  · have : buf.drop (writeAll buf rs).1.length = t := by
      conv => lhs; arg 2; rw [← ht]
      exact List.drop_left
    rw [this, ht]
  · intro h
    rw [h2 h, List.drop_length]

theorem flushBuf_len (buf : Bytes) (rs : List Resp) : (flushBuf buf rs).2.2.2.length ≤ buf.length := by
  simp only [flushBuf, List.length_drop]; omega

theorem bwDrop_prefix (buf : Bytes) (rs : List Resp) : bwDrop buf rs <+: buf :=
  ⟨_, (flushBuf_spec buf rs).1⟩

theorem bwDrop_nil (rs : List Resp) : bwDrop [] rs = [] :=
  List.prefix_nil.mp (bwDrop_prefix [] rs)

/-- what `bwPut` guarantees when it is entered with an empty buffer or with data that fits -/
theorem bwPut_spec (cap : Nat) (e buf data : Bytes) (rs : List Resp)
    (h : cap ≤ data.length → buf = []) (hl : data.length < cap → buf.length + data.length ≤ cap) (hb : buf.length ≤ cap) :
    (bwPut cap e buf data rs).1 ++ (bwPut cap e buf data rs).2.2.2 <+: e ++ buf ++ data
      ∧ ((bwPut cap e buf data rs).2.1 = .ok → (bwPut cap e buf data rs).1 ++ (bwPut cap e buf data rs).2.2.2 = e ++ buf ++ data)
      ∧ (bwPut cap e buf data rs).2.2.2.length ≤ cap := by
  unfold bwPut
  split
  · rename_i hc
    obtain ⟨w1, w2, _⟩ := writeAll_spec data rs
    dsimp only
    rw [h hc]
    simp only [List.append_nil, List.length_nil, Nat.zero_le, and_true]
    exact ⟨(List.prefix_append_right_inj e).mpr w1, fun hh => by rw [w2 hh]⟩
  · rename_i hc
    simp only [List.append_assoc, List.length_append]
    exact ⟨List.prefix_refl _, fun _ => trivial, hl (by omega)⟩

theorem bwWriteAll_spec (cap : Nat) (buf data : Bytes) (rs : List Resp) (hb : buf.length ≤ cap) :
    (bwWriteAll cap buf data rs).1 ++ (bwWriteAll cap buf data rs).2.2.2 <+: buf ++ data
      ∧ ((bwWriteAll cap buf data rs).2.1 = .ok →
          (bwWriteAll cap buf data rs).1 ++ (bwWriteAll cap buf data rs).2.2.2 = buf ++ data)
      ∧ (bwWriteAll cap buf data rs).2.2.2.length ≤ cap := by
  unfold bwWriteAll
  split
  · rename_i h1
    exact ⟨List.prefix_refl _, fun _ => rfl, by rw [List.length_append]; omega⟩
  · split
    · -- `write_all_cold` flushes first: on success the buffer is empty when the data is put
      obtain ⟨f1, f2⟩ := flushBuf_spec buf rs
      have f3 := flushBuf_len buf rs
      generalize flushBuf buf rs = f at f1 f2 f3 ⊢
      obtain ⟨w, st, rs', left⟩ := f
      dsimp only at f1 f2 f3 ⊢
      split
      · rename_i hok
        obtain rfl := f2 hok
        have := bwPut_spec cap w [] data rs' (fun _ => rfl) (fun h => by rw [List.length_nil]; omega) (Nat.zero_le _)
        rwa [f1] at this
      · rename_i hne
        exact ⟨f1 ▸ List.prefix_append _ _, fun h => absurd h hne, Nat.le_trans f3 hb⟩
    · -- data.length = cap - buf.length exactly: no flush needed
      have := bwPut_spec cap [] buf data rs (fun hc => List.eq_nil_of_length_eq_zero (by omega)) (fun _ => by omega) hb
      rwa [List.nil_append] at this

theorem bwRun_spec (cap : Nat) (ds : List Bytes) (buf : Bytes) (rs : List Resp) (hb : buf.length ≤ cap) :
    (bwRun cap ds buf rs).1 ++ (bwRun cap ds buf rs).2.2.2 <+: buf ++ ds.flatten
      ∧ ((bwRun cap ds buf rs).2.1 = .ok →
          (bwRun cap ds buf rs).1 ++ (bwRun cap ds buf rs).2.2.2 = buf ++ ds.flatten) := by
  induction ds generalizing buf rs with
  | nil => simp [bwRun]
  | cons d ds ih =>
    obtain ⟨s1, s2, s3⟩ := bwWriteAll_spec cap buf d rs hb
    rw [bwRun]
    dsimp only
    split
    · rename_i hok
      have heq := s2 hok
      obtain ⟨i1, i2⟩ := ih (bwWriteAll cap buf d rs).2.2.2 (bwWriteAll cap buf d rs).2.2.1 s3
      simp only [List.flatten_cons, ← List.append_assoc, ← heq]
      simp only [List.append_assoc]
      exact ⟨(List.prefix_append_right_inj _).mpr i1, fun h => by rw [i2 h]⟩
    · rename_i hne
      refine ⟨?_, fun h => absurd h hne⟩
      rw [List.flatten_cons, ← List.append_assoc]
      exact List.IsPrefix.trans s1 (List.prefix_append _ _)

/-- **`write_file`, any inner-sink behaviour**: what reached the file is a prefix of what was written,
and everything when the result is `Ok`. -/
theorem writeFile_spec (cap : Nat) (ds : List Bytes) (rs : List Resp) :
    (writeFile cap ds rs).1 <+: ds.flatten ∧ ((writeFile cap ds rs).2 = .ok → (writeFile cap ds rs).1 = ds.flatten) := by
  obtain ⟨r1, r2⟩ := bwRun_spec cap ds [] rs (Nat.zero_le _)
  rw [List.nil_append] at r1 r2
  rw [writeFile]
  generalize bwRun cap ds [] rs = r at r1 r2 ⊢
  obtain ⟨e, st, rs', buf⟩ := r
  dsimp only at r1 r2 ⊢
  split
  · rename_i hok
    obtain ⟨f1, f2⟩ := flushBuf_spec buf rs'
    generalize flushBuf buf rs' = f at f1 f2 ⊢
    obtain ⟨w, st2, rs2, left⟩ := f
    dsimp only at f1 f2 ⊢
    rw [← r2 hok, ← f1, List.append_assoc]
    refine ⟨(List.prefix_append_right_inj e).mpr ((List.prefix_append_right_inj w).mpr (bwDrop_prefix _ _)), fun h => ?_⟩
    rw [f2 h, bwDrop_nil]
  · rename_i hne
    exact ⟨((List.prefix_append_right_inj e).mpr (bwDrop_prefix buf rs')).trans r1, fun h => absurd h hne⟩

/-- the old `write_file` still only ever produced a prefix … -/
theorem writeFileOld_prefix (cap : Nat) (ds : List Bytes) (rs : List Resp) :
    (writeFileOld cap ds rs).1 <+: ds.flatten := by
  obtain ⟨r1, _⟩ := bwRun_spec cap ds [] rs (Nat.zero_le _)
  rw [List.nil_append] at r1
  simp only [writeFileOld]
  exact List.IsPrefix.trans ((List.prefix_append_right_inj _).mpr (bwDrop_prefix _ _)) r1

theorem bwWriteAll_fits {cap : Nat} {buf data : Bytes} {rs : List Resp} (h : data.length < cap - buf.length) :
    bwWriteAll cap buf data rs = ([], .ok, rs, buf ++ data) := by rw [bwWriteAll, if_pos h]

theorem bwRun_fits (cap : Nat) (ds : List Bytes) (buf : Bytes) (rs : List Resp) (h : buf.length + ds.flatten.length < cap) :
    bwRun cap ds buf rs = ([], .ok, rs, buf ++ ds.flatten) := by
  induction ds generalizing buf with
  | nil => rw [bwRun, List.flatten_nil, List.append_nil]
  | cons d ds ih =>
    rw [List.flatten_cons, List.length_append] at h
    rw [bwRun, bwWriteAll_fits (by omega)]
    dsimp only
    rw [if_pos rfl, ih (buf ++ d) (by rw [List.length_append]; omega), List.flatten_cons, List.append_assoc]
    rfl

/-- **a package smaller than the buffer reaches a failing file only at the flush**: nothing is written, `write_file`
reports the error, the code before d2dbd7b (no explicit flush; the drop's error is discarded) reported `Ok`.
Two `.fail`s for `write_file`: one meets `flush()`, one the drop's second `flush_buf`; the old code only has the drop. -/
theorem writeFile_fits_fail (cap : Nat) (ds : List Bytes) (rs : List Resp) (h : ds.flatten.length < cap)
    (hne : ds.flatten ≠ []) :
    writeFile cap ds (.fail :: .fail :: rs) = ([], .err) ∧ writeFileOld cap ds (.fail :: rs) = ([], .ok) := by
  have hr (rs) := bwRun_fits cap ds [] rs (by rw [List.length_nil, Nat.zero_add]; exact h)
  rw [writeFile, writeFileOld, hr, hr, List.nil_append]
  match hd : ds.flatten, hne with
  | b :: t, _ => exact ⟨rfl, rfl⟩
end RpmVerif.Io
