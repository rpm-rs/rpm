import RpmVerif.Model.Calendar
/-! Arithmetic behind `daysFromCivil` (C20): `yearPart` as 365 days a year plus the leap days of the Gregorian rule, and the
month lengths inside `monthPart`. -/
namespace RpmVerif.Calendar

theorem yearPart_eq (Y : Int) : yearPart Y = 365 * Y + Y / 4 - Y / 100 + Y / 400 := by
  unfold yearPart; omega

theorem succ_ediv (a : Int) {n : Int} (hn : 0 < n) :
    (a + 1) / n = a / n + if (a + 1) % n = 0 then 1 else 0 := by
  have h := Int.emod_add_mul_ediv a n
  have h0 := Int.emod_nonneg a (Int.ne_of_gt hn)
  have h1 := Int.emod_lt_of_pos a hn
  have key : ∀ q r : Int, r + n * q = a + 1 → 0 ≤ r → r < n → (a + 1) / n = q ∧ (a + 1) % n = r :=
    fun q r e r0 r1 => (Int.ediv_emod_unique hn).mpr ⟨e, r0, r1⟩
  by_cases hr : a % n + 1 < n
  · obtain ⟨e1, e2⟩ := key (a / n) (a % n + 1) (by omega) (by omega) hr
    rw [e1, e2, if_neg (by omega)]; omega
  · obtain ⟨e1, e2⟩ := key (a / n + 1) 0 (by rw [Int.mul_add]; omega) (by omega) hn
    rw [e1, e2, if_pos rfl]
/-- the leap-year rule counts the multiples of 4, less those of 100, plus those of 400; `a`, `b`, `c` are the remainders of
the year modulo 4, 100, 400 -/
theorem leap_rule {a b c : Int} (d1 : c = 0 → b = 0) (d2 : b = 0 → a = 0) :
    (365 : Int) + ((if a = 0 then 1 else 0) - (if b = 0 then 1 else 0) + (if c = 0 then 1 else 0)) =
      if a = 0 ∧ (b ≠ 0 ∨ c = 0) then 366 else 365 := by
  by_cases a0 : a = 0
  · by_cases b0 : b = 0
    · by_cases c0 : c = 0
      · rw [if_pos a0, if_pos b0, if_pos c0, if_pos ⟨a0, .inr c0⟩]; rfl
      · rw [if_pos a0, if_pos b0, if_neg c0, if_neg (fun h => h.2.elim (· b0) c0)]; rfl
    · rw [if_pos a0, if_neg b0, if_neg (fun h => b0 (d1 h)), if_pos ⟨a0, .inl b0⟩]; rfl
  · rw [if_neg a0, if_neg (fun h => a0 (d2 h)), if_neg (fun h => a0 (d2 (d1 h))), if_neg (fun h => a0 h.1)]; rfl

theorem emod_zero_of_dvd {y m k : Int} (hmk : m ∣ k) (h : y % k = 0) : y % m = 0 :=
  Int.emod_eq_zero_of_dvd (Int.dvd_trans hmk (Int.dvd_of_emod_eq_zero h))

/-- the month lengths as `monthPart` has them, March to December (January follows on December in the same shifted year,
February closes it) -/
theorem monthPart_step : ∀ m < 12, 1 ≤ m → m ≠ 2 →
    monthPart (shiftedMonth (m + 1)) = monthPart (shiftedMonth m) + daysInMonth 0 m := by
  decide

theorem daysInMonth_ge (y : Int) (m : Nat) : 28 ≤ daysInMonth y m := by
  unfold daysInMonth; split <;> split <;> omega

/-- a shifted year has 365 days, 366 when the civil year its February lies in is a leap year -/
theorem yearPart_succ (Y : Int) : yearPart (Y + 1) = yearPart Y + (if isLeapYear (Y + 1) then 366 else 365) := by
  rw [yearPart_eq, yearPart_eq, succ_ediv Y (n := 4) (by decide), succ_ediv Y (n := 100) (by decide),
    succ_ediv Y (n := 400) (by decide)]
  have e := leap_rule (a := (Y + 1) % 4) (b := (Y + 1) % 100) (c := (Y + 1) % 400)
    (emod_zero_of_dvd ⟨4, rfl⟩) (emod_zero_of_dvd ⟨25, rfl⟩)
  unfold isLeapYear
  rw [← e]
  -- what is left is linear in the three indicators; `omega` need not look into them
  generalize (if (Y + 1) % 4 = 0 then (1 : Int) else 0) = i4
  generalize (if (Y + 1) % 100 = 0 then (1 : Int) else 0) = i100
  generalize (if (Y + 1) % 400 = 0 then (1 : Int) else 0) = i400
  clear e
  omega

theorem month_step (y : Int) (m : Nat) (hm1 : 1 ≤ m) (hm2 : m ≤ 12) :
    daysFromCivil (if m < 12 then y else y + 1) (if m < 12 then m + 1 else 1) 1 =
      daysFromCivil y m (daysInMonth y m) + 1 := by
  unfold daysFromCivil
  by_cases h12 : m < 12
  · simp only [h12, if_true]
    by_cases hf : m = 2
    · subst hf
      have hy := yearPart_succ (y - 1)
      rw [show y - 1 + 1 = y by omega] at hy
      have e1 : shiftedYear y 3 = y := rfl
      have e2 : shiftedYear y 2 = y - 1 := rfl
      have e3 : monthPart (shiftedMonth 3) = 0 := by decide
      have e4 : monthPart (shiftedMonth 2) = 337 := by decide
      simp only [e1, e2, e3, e4, hy, daysInMonth, if_true]
      split <;> omega
    · have hY : shiftedYear y (m + 1) = shiftedYear y m :=
        ite_congr (propext (by omega)) (fun _ => rfl) (fun _ => rfl)
      have hd : daysInMonth y m = daysInMonth 0 m := by unfold daysInMonth; rw [if_neg hf, if_neg hf]
      rw [hY, monthPart_step m h12 hm1 hf, hd]
      omega
  · obtain rfl : m = 12 := by omega
    have hY : shiftedYear (y + 1) 1 = shiftedYear y 12 := by show y + 1 - 1 = y; omega
    have hM : monthPart (shiftedMonth 1) = monthPart (shiftedMonth 12) + 31 := by decide
    have hd : daysInMonth y 12 = 31 := rfl
    simp only [h12, if_false]
    rw [hY, hM, hd]
    omega

end RpmVerif.Calendar
