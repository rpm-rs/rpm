import RpmVerif.Model.FileIter
import RpmVerif.Lemmas.Cpio
/-!
Lemmas for Model/FileIter.lean: the position-keeping readers have the outcomes of the `Out`-valued readers of
Model/Cpio.lean (`readerNewS_out`, `readDataS_out`), the counter of `next` (`next_count`), fuel independence of
`drain`, and `iterateE` as the prefix of the drained items up to the first error (`iterateE_is_prefix_gen`).
-/
namespace RpmVerif.FileIter
open RpmVerif.Cpio RpmVerif.Gen

/-- outcome of a `Rd (PayloadEntry × Nat)` in the tuple shape of `readerNew` -/
def out3 (m : Rd (PayloadEntry × Nat)) (bs : Bytes) : Out (PayloadEntry × Nat × Bytes) :=
  match m bs with
  | (.ok (e, fs), r) => .ok (e, fs, r)
  | (.err c, _) => .err c
  | (.panic s, _) => .panic s

theorem out_exact (n : Nat) (bs : Bytes) : (exact n).out bs = takeN n bs := by
  unfold Rd.out exact takeN
  by_cases h : n ≤ bs.length <;> simp only [h, if_true, if_false]

theorem out_bind {α β} (m : Rd α) (f : α → Rd β) (bs : Bytes) :
    (m >>= f).out bs = (m.out bs >>= fun x => (f x.1).out x.2) := by
  show (Rd.bind m f).out bs = _
  unfold Rd.out Rd.bind
  rcases h : m bs with ⟨o, r⟩
  cases o <;> rfl

theorem out_hex8 (bs : Bytes) : hex8.out bs = readHex8 bs := by
  unfold hex8 readHex8
  rw [out_bind, out_exact]
  cases takeN 8 bs with
  | ok x =>
    obtain ⟨f, r⟩ := x
    show Rd.out _ r = _
    simp only [Out.bind_ok]
    cases parseHex8 f <;> rfl
  | err c => rfl
  | panic s => rfl

theorem out3_bind {α} {m : Rd α} {o : Bytes → Out (α × Bytes)} (hm : ∀ bs, m.out bs = o bs)
    {f : α → Rd (PayloadEntry × Nat)} {g : α × Bytes → Out (PayloadEntry × Nat × Bytes)}
    (h : ∀ a r, out3 (f a) r = g (a, r)) (bs : Bytes) : out3 (m >>= f) bs = (o bs >>= g) := by
  show out3 (Rd.bind m f) bs = _
  rw [← hm]
  unfold out3 Rd.out Rd.bind
  rcases m bs with ⟨o, r⟩
  cases o with
  | ok a => exact h a r
  | err c => rfl
  | panic s => rfl

theorem out3_ite {c : Prop} [Decidable c] {a b : Rd (PayloadEntry × Nat)} {bs : Bytes}
    {x y : Out (PayloadEntry × Nat × Bytes)} (ha : out3 a bs = x) (hb : out3 b bs = y) :
    out3 (if c then a else b) bs = if c then x else y := by
  split
  · exact ha
  · exact hb

theorem readerNewS_out (sizes : List Nat) (bs : Bytes) : out3 (readerNewS sizes) bs = readerNew sizes bs := by
  unfold readerNewS readerNew
  refine out3_bind (out_exact 6) (fun magic r => out3_ite ?_ (out3_ite ?_ rfl)) bs
  · iterate 11 refine out3_bind out_hex8 (fun _ r => ?_) r
    refine out3_bind out_hex8 (fun nameLen r => ?_) r
    refine out3_bind out_hex8 (fun _ r => out3_ite rfl ?_) r
    refine out3_bind (out_exact nameLen) (fun _ r => out3_ite rfl (out3_ite rfl ?_)) r
    exact out3_bind (out_exact _) (fun _ _ => rfl) r
  · refine out3_bind out_hex8 (fun idx r => ?_) r
    refine out3_bind (out_exact _) (fun _ r => out3_ite rfl ?_) r
    cases sizes[idx]? <;> rfl

theorem readDataS_out (fileSize : Nat) (r : Bytes) : (readDataS fileSize).out r = readData fileSize r := by
  unfold Rd.out readDataS readData
  by_cases h : (r.take fileSize).length < fileSize
  · simp only [h, if_true]
  · simp only [h, if_false]
    have := out_exact (padLen fileSize) (r.drop fileSize)
    unfold Rd.out at this
    rw [← this]
    rcases exact (padLen fileSize) (r.drop fileSize) with ⟨o, r'⟩
    cases o <;> rfl

theorem stepMem_spec (paths : List Bytes) (sizes : List Nat) (bs : Bytes) :
    match readerNew sizes bs with
    | .ok (e, fileSize, r) =>
      if isTrailer e then stepMem paths sizes bs = .trailer r else
      match fileIndex paths e with
      | none => stepMem paths sizes bs = .item (.err "no-such-file") r
      | some i =>
        match readData fileSize r with
        | .ok (content, r') => stepMem paths sizes bs = .item (.ok (i, e, content)) r'
        | .err c => ∃ s, stepMem paths sizes bs = .item (.err c) s
        | .panic p => ∃ s, stepMem paths sizes bs = .item (.panic p) s
    | .err c => ∃ s, stepMem paths sizes bs = .item (.err c) s
    | .panic p => ∃ s, stepMem paths sizes bs = .item (.panic p) s := by
  rw [← readerNewS_out, out3, stepMem]
  rcases readerNewS sizes bs with ⟨⟨e, fs⟩ | _ | _, r⟩
  · dsimp only
    split
    · rfl
    cases fileIndex paths e with
    | none => rfl
    | some i =>
      dsimp only
      rw [← readDataS_out, Rd.out]
      rcases readDataS fs r with ⟨_ | _ | _, r2⟩
      · rfl
      · exact ⟨r2, rfl⟩
      · exact ⟨r2, rfl⟩
  · exact ⟨r, rfl⟩
  · exact ⟨r, rfl⟩

variable {σ : Type}

theorem next_of_ge (step : σ → Step σ) (n : Nat) (st : St σ) (h : st.count ≥ n) : next step n st = (none, st) := by
  unfold next; rw [if_pos h]

theorem next_count (step : σ → Step σ) (n : Nat) (st : St σ) :
    (st.count ≥ n ∧ next step n st = (none, st)) ∨
    (st.count < n ∧ (next step n st).2.count = st.count + 1) := by
  unfold next
  by_cases h : st.count ≥ n
  · left; exact ⟨h, by rw [if_pos h]⟩
  · right; refine ⟨by omega, ?_⟩
    rw [if_neg h]; cases step st.stream <;> rfl

theorem next_some_count (step : σ → Step σ) (n : Nat) (st : St σ) (o : Out Item) (st' : St σ)
    (h : next step n st = (some o, st')) : st.count < n ∧ st'.count = st.count + 1 := by
  rcases next_count step n st with ⟨_, h2⟩ | ⟨h1, h2⟩
  · rw [h2] at h; cases h
  · rw [h] at h2; exact ⟨h1, h2⟩

theorem drain_length (step : σ → Step σ) (n : Nat) (fuel : Nat) (st : St σ) :
    (drain step n fuel st).length ≤ n - st.count := by
  induction fuel generalizing st with
  | zero => simp [drain]
  | succ k ih =>
    unfold drain
    split
    · simp
    · next o st' h =>
      obtain ⟨h1, h2⟩ := next_some_count step n st o st' h
      have := ih st'
      simp only [List.length_cons]; omega

theorem drain_fuel (step : σ → Step σ) (n : Nat) (fuel : Nat) (st : St σ) (hf : n - st.count ≤ fuel) :
    drain step n fuel st = drain step n (n - st.count) st := by
  induction fuel generalizing st with
  | zero =>
    have : n - st.count = 0 := by omega
    rw [this]
  | succ k ih =>
    by_cases hc : st.count ≥ n
    · have h0 : n - st.count = 0 := by omega
      rw [h0]; unfold drain; rw [next_of_ge step n st hc]
    · obtain ⟨m, hm⟩ : ∃ m, n - st.count = m + 1 := ⟨n - st.count - 1, by omega⟩
      rw [hm]
      unfold drain
      cases h : next step n st with
      | mk a st' =>
        cases a with
        | none => rfl
        | some o =>
          obtain ⟨h1, h2⟩ := next_some_count step n st o st' h
          dsimp only
          have e : m = n - st'.count := by omega
          rw [ih st' (by omega), e]

theorem answers_some_le (step : σ → Step σ) (n : Nat) (k : Nat) (st : St σ) :
    ((answers step n k st).filter Option.isSome).length ≤ n - st.count := by
  induction k generalizing st with
  | zero => simp [answers]
  | succ k ih =>
    unfold answers
    rcases next_count step n st with ⟨h1, h2⟩ | ⟨h1, h2⟩
    · rw [h2]; have := ih st
      simp only [List.filter_cons, Option.isSome_none, Bool.false_eq_true, if_false]; exact this
    · have := ih (next step n st).2
      rw [List.filter_cons]; split <;> (try simp only [List.length_cons]) <;> omega

theorem stateAfter_count_ge (step : σ → Step σ) (n : Nat) (k : Nat) (st : St σ) (h : st.count + k ≥ n) :
    (stateAfter step n k st).count ≥ n := by
  induction k generalizing st with
  | zero => simpa [stateAfter] using h
  | succ k ih =>
    unfold stateAfter
    rcases next_count step n st with ⟨h1, h2⟩ | ⟨h1, h2⟩
    · rw [h2]; exact ih st (by omega)
    · exact ih _ (by omega)

/-- `stepMem` is the body of `iterateE` with the stream kept -/
theorem iterateE_succ (paths : List Bytes) (sizes : List Nat) (fuel : Nat) (bs : Bytes) :
    iterateE paths sizes (fuel + 1) bs = match stepMem paths sizes bs with
      | .trailer _ => []
      | .item (.ok x) r => .ok x :: iterateE paths sizes fuel r
      | .item o _ => [o] := by
  rw [iterateE, ← readerNewS_out, out3, stepMem]
  rcases readerNewS sizes bs with ⟨⟨e, fs⟩ | _ | _, r⟩
  · dsimp only
    split
    · rfl
    cases fileIndex paths e with
    | none => rfl
    | some i =>
      dsimp only
      rw [← readDataS_out, Rd.out]
      rcases readDataS fs r with ⟨_ | _ | _, r2⟩
      · rfl
      · rfl
      · rfl
  · rfl
  · rfl

theorem iterateE_is_prefix_gen (after : Bytes → Bytes) (paths : List Bytes) (sizes : List Nat) (n fuel c : Nat) (bs : Bytes)
    (h : c + fuel ≤ n) :
    uptoErr (drain (stepAfter after paths sizes) n fuel ⟨c, bs⟩) = iterateE paths sizes fuel bs := by
  induction fuel generalizing c bs with
  | zero => rfl
  | succ k ih =>
    rw [iterateE_succ, drain, next, if_neg (by omega : ¬ c ≥ n), stepAfter]
    cases stepMem paths sizes bs with
    | trailer s => rfl
    | item o s =>
      cases o with
      | ok x => exact congrArg (List.cons _) (ih (c + 1) s (by omega))
      | err e => rfl
      | panic p => rfl

theorem stepAfter_id (paths : List Bytes) (sizes : List Nat) : stepAfter id paths sizes = stepMem paths sizes := by
  funext bs
  unfold stepAfter
  cases stepMem paths sizes bs with
  | trailer s => rfl
  | item o s => cases o <;> rfl

theorem uptoErr_of_all_ok {α} (l : List (Out α)) (h : ∀ o ∈ l, o.isOk = true) : uptoErr l = l := by
  induction l with
  | nil => rfl
  | cons o r ih =>
    cases o with
    | ok a => simp only [uptoErr]; rw [ih (fun o ho => h o (List.mem_cons_of_mem _ ho))]
    | err c => have := h (.err c) (List.mem_cons_self ..); cases this
    | panic s => have := h (.panic s) (List.mem_cons_self ..); cases this

theorem uptoErr_eq_self {α} (l : List (Out α)) (h : ∀ o ∈ uptoErr l, o.isOk = true) : uptoErr l = l := by
  induction l with
  | nil => rfl
  | cons o r ih =>
    cases o with
    | ok a =>
      simp only [uptoErr] at h ⊢
      rw [ih (fun o ho => h o (List.mem_cons_of_mem _ ho))]
    | err c => have := h (.err c) (by simp [uptoErr]); cases this
    | panic s => have := h (.panic s) (by simp [uptoErr]); cases this

theorem stepMem_nil (paths : List Bytes) (sizes : List Nat) : stepMem paths sizes [] = .item (.err "eof") [] := rfl

theorem drain_nil (paths : List Bytes) (sizes : List Nat) (n fuel c : Nat) :
    drain (stepMem paths sizes) n fuel ⟨c, []⟩ = List.replicate (min fuel (n - c)) (.err "eof") := by
  induction fuel generalizing c with
  | zero => simp [drain]
  | succ k ih =>
    unfold drain next
    by_cases hc : c ≥ n
    · simp only [hc, if_true]
      have : n - c = 0 := by omega
      simp [this]
    · simp only [hc, if_false, stepMem_nil]
      rw [ih (c + 1)]
      have : min (k + 1) (n - c) = min k (n - (c + 1)) + 1 := by omega
      rw [this, List.replicate_succ]

end RpmVerif.FileIter
