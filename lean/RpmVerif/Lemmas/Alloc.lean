import RpmVerif.Lemmas.Header
import RpmVerif.Lemmas.Decode
/-!
# Memory lemmas for Props/C04.lean and Props/C04Alloc.lean

What the byte budget of `parse_header` charges an entry covers what the entry keeps (`stores_charged`); the bounds on the
calls and the kept data of the second loop (`keptOfCallsB_le_linear`, `keptOfCalls_le_linear`, `keptOfCalls_le`); the allocation account of an
accepted header (`acct_of_written`); the family of headers whose entries share their store bytes (`overlapHeader`).
-/
namespace RpmVerif.Hdr
open RpmVerif.Gen RpmVerif

theorem lossyAux_length (fuel : Nat) (bs acc : Bytes) :
    (Utf8.lossyAux fuel bs acc).length ≤ acc.length + 3 * bs.length := by
  induction fuel generalizing bs acc with
  | zero => simp [Utf8.lossyAux]
  | succ f ih =>
    cases bs with
    | nil => simp [Utf8.lossyAux]
    | cons b r =>
      simp only [Utf8.lossyAux]
      generalize Utf8.step (b :: r) = st
      obtain ⟨n, ok⟩ := st
      simp only
      have hm : 1 ≤ (if n = 0 then 1 else n) := by split <;> omega
      generalize (if n = 0 then 1 else n) = m at hm
      split
      · refine Nat.le_trans (ih _ _) ?_
        simp only [List.length_append, List.length_reverse, List.length_take, List.length_drop, List.length_cons]
        omega
      · refine Nat.le_trans (ih _ _) ?_
        simp only [List.length_append, List.length_reverse, List.length_drop, List.length_cons, Utf8.repl, List.length_nil]
        omega

theorem lossy_length_le (bs : Bytes) : (Utf8.lossy bs).length ≤ 3 * bs.length := by
  have := lossyAux_length bs.length bs []
  simpa [Utf8.lossy] using this

theorem strings_kept_le (raws : List Bytes) :
    ((raws.map Utf8.lossy).map fun s => STRING_HEADER_BYTES + s.length).sum ≤ 24 * ((raws.map (· ++ [0])).flatten).length := by
  induction raws with
  | nil => simp
  | cons r rs ih =>
    have := lossy_length_le r
    simp only [List.map_cons, List.sum_cons, List.flatten_cons, List.length_append, List.length_cons, List.length_nil,
      STRING_HEADER_BYTES] at ih ⊢
    omega

theorem reserveOf_le (cnt remLen : Nat) : reserveOf cnt remLen ≤ remLen ∧ reserveOf cnt remLen ≤ cnt := by
  simp only [reserveOf, reserveArg]
  exact ⟨Nat.min_le_right _ _, Nat.min_le_left _ _⟩

theorem decodeReserve_le (store : Bytes) (ty off cnt : Nat) :
    decodeReserve store ty off cnt ≤ 8 * (store.length - off) := by
  have := (reserveOf_le cnt (store.length - off)).1
  fun_cases decodeReserve store ty off cnt with
  | case1 | case5 => exact Nat.zero_le _
  | case2 | case3 | case4 => exact Nat.mul_le_mul (by decide) this

theorem stringsPushed_le (k : Nat) (bs : Bytes) : stringsPushed k bs ≤ 24 * bs.length := by
  fun_induction stringsPushed k bs with
  | case1 | case2 => exact Nat.zero_le _
  | case3 k bs b rest' hrest ih =>
    -- `bs` is the string taken, then `b :: rest'`
    have e := congrArg List.length (takeTill0_spec bs).1
    have hl := lossy_length_le (takeTill0 bs).1
    rw [hrest] at e
    simp only [List.length_append, List.length_cons, STRING_HEADER_BYTES] at e ⊢
    omega

theorem decodePartial_le (store : Bytes) (ty off cnt : Nat) : decodePartial store ty off cnt ≤ 24 * store.length := by
  have h : stringsPushed cnt (store.drop off) ≤ 24 * store.length :=
    Nat.le_trans (stringsPushed_le cnt _) (Nat.mul_le_mul_left 24 (List.length_drop ▸ Nat.sub_le _ _))
  fun_cases decodePartial store ty off cnt with
  | case1 | case4 => exact Nat.zero_le _
  | case2 | case3 => exact h

theorem strings_length (raws : List Bytes) : raws.length ≤ ((raws.map (· ++ [0])).flatten).length := by
  induction raws with
  | nil => simp
  | cons r rs ih => simp only [List.map_cons, List.flatten_cons, List.length_append, List.length_cons, List.length_nil]; omega

/-- **what the budget charges an entry covers it**: the charged bytes are there from the entry's offset on; the decoded
data is at most 24 bytes (a `String` value per NUL) per charged byte; there is at most one item per charged byte (a STRING
is one item, whatever its count says), and except for NULL and STRING the count is the number of items -/
theorem stores_charged {store off cnt d} (hs : Stores store off cnt d) :
    decodeUsed store off cnt d ≤ store.length - off ∧ d.keptBytes ≤ 24 * decodeUsed store off cnt d ∧
      d.numItems ≤ decodeUsed store off cnt d + 1 ∧
      (d.typeCode ≠ 0 → d.typeCode ≠ 6 → cnt ≤ decodeUsed store off cnt d) := by
  have hdrop : ∀ (x rest : Bytes), store.drop off = x ++ rest → x.length ≤ store.length - off := by
    intro x rest e
    have := congrArg List.length e
    simp only [List.length_drop, List.length_append] at this
    omega
  cases hs with
  | null _ => simp [decodeUsed, IndexData.keptBytes, IndexData.numItems, IndexData.typeCode]
  | char b rest e l _ | int8 b rest e l _ | bin b rest e l _ =>
    exact ⟨hdrop _ _ e, Nat.le_mul_of_pos_left _ (by decide), Nat.le_succ _, fun _ _ => Nat.le_of_eq l.symm⟩
  | int16 l rest e len _ _ =>
    have := hdrop _ _ e; rw [flatten_map_length l be16 2 (fun _ => rfl)] at this
    have hle : l.length ≤ 2 * l.length := Nat.le_mul_of_pos_left _ (by decide)
    exact ⟨this, Nat.le_mul_of_pos_left _ (by decide), Nat.le_succ_of_le hle, fun _ _ => len ▸ hle⟩
  | int32 l rest e len _ _ =>
    have := hdrop _ _ e; rw [flatten_map_length l be32 4 (fun _ => rfl)] at this
    have hle : l.length ≤ 4 * l.length := Nat.le_mul_of_pos_left _ (by decide)
    exact ⟨this, Nat.le_mul_of_pos_left _ (by decide), Nat.le_succ_of_le hle, fun _ _ => len ▸ hle⟩
  | int64 l rest e len _ _ =>
    have := hdrop _ _ e; rw [flatten_map_length l be64 8 (fun _ => by simp [be64, be32_length])] at this
    have hle : l.length ≤ 8 * l.length := Nat.le_mul_of_pos_left _ (by decide)
    exact ⟨this, Nat.le_mul_of_pos_left _ (by decide), Nat.le_succ_of_le hle, fun _ _ => len ▸ hle⟩
  | str raw rest e nn _ =>
    have hl := lossy_length_le raw
    -- the string loop stops where the specification says: `raw` is what `takeTill0` takes, with or without terminator
    have ht : (takeTill0 (store.drop off)).1 = raw ∧ raw.length ≤ store.length - off := by
      rcases e with e | e
      · exact ⟨by rw [e, takeTill0_append raw rest nn], hdrop _ _ e⟩
      · obtain ⟨s1, s2, s3⟩ := takeTill0_spec raw
        have := congrArg List.length e
        simp only [List.length_drop] at this
        refine ⟨?_, by omega⟩
        rcases s3 with z | ⟨r, z⟩
        · rw [z, List.append_nil] at s1; rw [e]; exact s1.symm
        · exact absurd (by rw [s1, z]; simp) nn
    simp only [decodeUsed, IndexData.keptBytes, IndexData.numItems, IndexData.typeCode, ht.1, Nat.min_def]
    split <;> omega
  | strArray raws rest e len nn _ | i18n raws rest e len nn _ =>
    have := hdrop _ _ e; have := strings_kept_le raws; have := strings_length raws
    simp only [decodeUsed, IndexData.keptBytes, IndexData.numItems, List.length_map]
    rw [e, ← len, strConsumed_enc raws rest nn]; omega

theorem decodeUsed_le {store ty off cnt d} (h : decode store ty off cnt = .ok d) :
    decodeUsed store off cnt d ≤ store.length - off :=
  (stores_charged (decode_stores h)).1

theorem decode_kept_le_used {store ty off cnt d} (h : decode store ty off cnt = .ok d) :
    d.keptBytes ≤ 24 * decodeUsed store off cnt d :=
  (stores_charged (decode_stores h)).2.1

theorem decode_kept_le {store ty off cnt d} (h : decode store ty off cnt = .ok d) :
    d.keptBytes ≤ 24 * (store.length - off) :=
  Nat.le_trans (decode_kept_le_used h) (Nat.mul_le_mul_left 24 (decodeUsed_le h))

/-- **with the budget the decoded data is LINEAR in the store, whatever the index says**: the entries the budget
covered keep at most 24 bytes per budget byte; the one entry at which the loop stopped (undecodable, or refused by the
budget after it was decoded) at most 24 bytes per store byte -/
theorem keptOfCallsB_le_linear (store : Bytes) (budget : Nat) (raws : List (Nat × Nat × Nat × Nat)) :
    keptOfCallsB store budget raws ≤ 24 * budget + 24 * store.length := by
  fun_induction keptOfCallsB store budget raws with
  | case1 => exact Nat.zero_le _
  | case2 budget tag ty off cnt r d hd =>
    exact Nat.le_trans (decode_kept_le hd) (Nat.le_trans (Nat.mul_le_mul_left 24 (Nat.sub_le _ _)) (Nat.le_add_left _ _))
  | case3 budget tag ty off cnt r d hd hle ih =>
    have := decode_kept_le_used hd
    omega
  | case4 budget tag ty off cnt r =>
    exact Nat.le_trans (decodePartial_le store ty off cnt) (Nat.le_add_left _ _)

theorem keptOfCalls_le_linear (store : Bytes) (raws : List (Nat × Nat × Nat × Nat)) :
    keptOfCalls store raws ≤ 48 * store.length := by
  have := keptOfCallsB_le_linear store store.length raws
  simp only [keptOfCalls]; omega

/-- the bound without the budget's help: one entry keeps at most 24 bytes per store byte; from two entries on
`keptOfCalls_le_linear` is at least as sharp -/
theorem keptOfCalls_le (store : Bytes) (raws : List (Nat × Nat × Nat × Nat)) :
    keptOfCalls store raws ≤ 24 * (raws.length * store.length) := by
  match raws with
  | [] => exact Nat.zero_le _
  | [(tag, ty, off, cnt)] =>
    simp only [keptOfCalls, keptOfCallsB, List.length_singleton, Nat.one_mul, Nat.add_zero, ite_self]
    split
    · rename_i d hd
      exact Nat.le_trans (decode_kept_le hd) (Nat.mul_le_mul_left 24 (Nat.sub_le _ _))
    · exact decodePartial_le store ty off cnt
  | r₁ :: r₂ :: rs =>
    have := keptOfCalls_le_linear store (r₁ :: r₂ :: rs)
    have : 2 * store.length ≤ (rs.length + 1 + 1) * store.length := Nat.mul_le_mul_right _ (Nat.le_add_left 2 _)
    simp only [List.length_cons]
    omega

theorem decodeCallsB_length_le (store : Bytes) (budget : Nat) (raws : List (Nat × Nat × Nat × Nat)) :
    (decodeCallsB store budget raws).length ≤ raws.length := by
  fun_induction decodeCallsB store budget raws with
  | case1 => exact Nat.le_refl _
  | case2 | case4 => exact Nat.succ_le_succ (Nat.zero_le _)
  | case3 budget tag ty off cnt r d hd hle ih => exact Nat.succ_le_succ ih

theorem decodeCalls_length_le (store : Bytes) (raws : List (Nat × Nat × Nat × Nat)) :
    (decodeCalls store raws).length ≤ raws.length := decodeCallsB_length_le store store.length raws

theorem rawPushed_le (k : Nat) (bs : Bytes) : rawPushed k bs ≤ k := by
  fun_induction rawPushed k bs with
  | case1 => exact Nat.le_refl _
  | case2 k bs e r h ih => omega
  | case3 => exact Nat.zero_le _

theorem foldl_max_le {l : List Nat} {b init : Nat} (hi : init ≤ b) (h : ∀ x ∈ l, x ≤ b) : l.foldl Nat.max init ≤ b := by
  induction l generalizing init with
  | nil => simpa
  | cons x xs ih =>
    simp only [List.foldl_cons]
    exact ih (Nat.max_le.mpr ⟨hi, h x (by simp)⟩) (fun y hy => h y (by simp [hy]))

theorem decodeCallsB_of_ok {store : Bytes} {budget : Nat} {es : List Entry}
    (h : ∀ e ∈ es, decode store e.data.typeCode e.off e.cnt = .ok e.data) (hb : usedSum store es ≤ budget) :
    decodeCallsB store budget (es.map Entry.raw) = es.map Entry.raw
      ∧ keptOfCallsB store budget (es.map Entry.raw) = (es.map fun e => e.data.keptBytes).sum := by
  induction es generalizing budget with
  | nil => exact ⟨rfl, rfl⟩
  | cons e es ih =>
    have he := h e (by simp)
    rw [usedSum_cons] at hb
    obtain ⟨i1, i2⟩ := ih (fun e' m => h e' (by simp [m])) (budget := budget - decodeUsed store e.off e.cnt e.data) (by omega)
    simp only [List.map_cons, Entry.raw, decodeCallsB, keptOfCallsB, he, List.sum_cons]
    rw [if_neg (by omega), if_neg (by omega)]
    exact ⟨by rw [i1], by rw [i2]⟩

theorem decodeCalls_of_ok {store : Bytes} {es : List Entry}
    (h : ∀ e ∈ es, decode store e.data.typeCode e.off e.cnt = .ok e.data) (hb : usedSum store es ≤ store.length) :
    decodeCalls store (es.map Entry.raw) = es.map Entry.raw
      ∧ keptOfCalls store (es.map Entry.raw) = (es.map fun e => e.data.keptBytes).sum := decodeCallsB_of_ok h hb

theorem kept_le_of_budget {h : Header} (wf : HeaderWF h) : h.keptBytes ≤ 24 * h.store.length := by
  have key : ∀ es : List Entry, (∀ e ∈ es, decode h.store e.data.typeCode e.off e.cnt = .ok e.data) →
      (es.map fun e => e.data.keptBytes).sum ≤ 24 * usedSum h.store es := by
    intro es
    induction es with
    | nil => intro _; simp [usedSum]
    | cons e es ih =>
      intro hd
      have := decode_kept_le_used (hd e (by simp))
      have := ih (fun e' m => hd e' (by simp [m]))
      rw [usedSum_cons]
      simp only [List.map_cons, List.sum_cons]
      omega
  have := key h.entries wf.dec
  have := wf.budget
  simp only [Header.keptBytes]
  omega

theorem acct_of_written {h : Header} (wf : HeaderWF h) {res : Bytes} (hr : res.length = 4) (rest : Bytes) :
    parseHeaderAcct (hdrBytes res h ++ rest) =
      ⟨0, h.dataSize + h.nEntries * 16, h.dataSize, h.nEntries,
        h.entries.map (fun e => decodeReserve h.store e.data.typeCode e.off e.cnt), h.keptBytes⟩ := by
  have hlenB : (writeRaws (h.entries.map Entry.raw) ++ h.store).length = sizeRest h.dataSize h.nEntries := by
    simp only [List.length_append, writeRaws_length, List.length_map, wf.nEq, wf.dlEq, sizeRest]; omega
  rw [hdrBytes_split, parseHeaderAcct, ← introBytes_length hr, takeN_append]
  simp only
  rw [parseIntro_write hr wf.nLt wf.dlLt]
  simp only
  rw [← hlenB, takeN_append]
  simp only
  have hn : h.nEntries = (h.entries.map Entry.raw).length := by rw [List.length_map, wf.nEq]
  rw [hn, parseEntriesRaw_write _ _ (List.forall_mem_map.mpr wf.fields)]
  simp only
  obtain ⟨c1, c2⟩ := decodeCalls_of_ok wf.dec wf.budget
  rw [c1, c2]
  simp only [parseBufUpFront, parseReadBounded, if_true, List.length_append, List.map_map, List.length_map, wf.nEq, wf.dlEq,
    writeRaws_length, Header.keptBytes, ParseAcct.mk.injEq, true_and, and_true]
  refine ⟨?_, ?_⟩
  · exact Nat.min_eq_left (by omega) |>.trans (by omega)
  · rfl

/-- `n` BIN entries that all point at offset 0 of one `S`-byte store with count `S` -/
def overlapHeader (n S : Nat) : Header :=
  ⟨n, S, List.replicate n ⟨1000, .bin (List.replicate S 0), 0, S⟩, List.replicate S 0⟩

theorem overlap_dec (n S : Nat) :
    ∀ e ∈ (overlapHeader n S).entries, decode (overlapHeader n S).store e.data.typeCode e.off e.cnt = .ok e.data := by
  intro e he
  obtain ⟨_, rfl⟩ := List.mem_replicate.mp he
  simp only [overlapHeader, IndexData.typeCode, decode, List.length_replicate, List.drop_zero, rdBin, Out.map]
  rw [if_neg (by omega), if_pos (Nat.le_refl _)]
  simp

theorem overlap_fields {n S : Nat} (hS : S < 4294967296) : ∀ e ∈ (overlapHeader n S).entries, RawWF e.raw := by
  intro e he
  obtain ⟨_, rfl⟩ := List.mem_replicate.mp he
  simp only [RawWF, Entry.raw, IndexData.typeCode]
  omega

theorem overlap_used (n S : Nat) : usedSum (overlapHeader n S).store (overlapHeader n S).entries = n * S := by
  simp only [usedSum, overlapHeader, List.map_replicate, decodeUsed, List.length_replicate, List.sum_replicate_nat]

theorem overlap_exceeds {n S : Nat} (hn2 : 2 ≤ n) (hS1 : 1 ≤ S) :
    (overlapHeader n S).store.length < usedSum (overlapHeader n S).store (overlapHeader n S).entries := by
  rw [overlap_used]
  simp only [overlapHeader, List.length_replicate]
  calc S < 2 * S := by omega
    _ ≤ n * S := Nat.mul_le_mul_right _ hn2

theorem overlap_kept (n S : Nat) : (overlapHeader n S).keptBytes = n * S := by
  simp only [Header.keptBytes, overlapHeader, List.map_replicate, IndexData.keptBytes, List.length_replicate, List.sum_replicate_nat]

theorem overlap_length (n S : Nat) : (writeHeader (overlapHeader n S)).length = 16 + 16 * n + S := by
  simp only [writeHeader, writeIntro, List.length_append, hmagic, be32_length, List.length_cons, List.length_nil,
    List.length_flatten, overlapHeader, List.map_replicate, List.length_replicate, writeEntry, List.sum_replicate_nat]
  omega

end RpmVerif.Hdr
