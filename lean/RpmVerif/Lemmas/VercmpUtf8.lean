import RpmVerif.Lemmas.Vercmp
/-!
C13: the Rust function works on `char`s, rpm's on bytes. For any encoding that maps ASCII code points to
themselves and every other code point to a non-empty run of bytes ≥ 128 (UTF-8 does), the token keys of a
string and of its encoding coincide — every byte of a non-ASCII character is a separator, exactly like
the character itself.
-/
namespace RpmVerif.Vercmp

structure AsciiTransparent (enc : Nat → List Nat) : Prop where
  ascii : ∀ c, c < 128 → enc c = [c]
  high : ∀ c, 128 ≤ c → enc c ≠ [] ∧ ∀ b ∈ enc c, 128 ≤ b

def encode (enc : Nat → List Nat) (l : List Nat) : List Nat := l.flatMap enc

theorem not_digit_of_high {b : Nat} (h : 128 ≤ b) : isDigit b = false :=
  Bool.eq_false_iff.mpr fun hd => by rw [isDigit_iff] at hd; omega

theorem not_alpha_of_high {b : Nat} (h : 128 ≤ b) : isAlpha b = false :=
  Bool.eq_false_iff.mpr fun ha => by rw [isAlpha_iff] at ha; omega

theorem sep_of_high {b : Nat} (h : 128 ≤ b) : isSep b = true := by
  simp only [isSep, not_digit_of_high h, not_alpha_of_high h, Bool.not_false, Bool.true_and, Bool.and_eq_true, bne_iff_ne]
  omega

theorem encode_cons {enc : Nat → List Nat} (c : Nat) (l : List Nat) : encode enc (c :: l) = enc c ++ encode enc l := by
  simp [encode]

section generic
variable {enc : Nat → List Nat} (E : AsciiTransparent enc)
include E

theorem dropWhile_sep_encode (l : List Nat) :
    (encode enc l).dropWhile isSep = encode enc (l.dropWhile isSep) := by
  induction l with
  | nil => rfl
  | cons c cs ih =>
    rw [encode_cons]
    by_cases hc : c < 128
    · rw [E.ascii c hc]
      simp only [List.cons_append, List.nil_append, List.dropWhile_cons]
      split
      · exact ih
      · rw [encode_cons, E.ascii c hc]; rfl
    · have hh : 128 ≤ c := by omega
      rw [List.dropWhile_append_of_pos (fun b hb => sep_of_high ((E.high c hh).2 b hb)), ih]
      simp only [List.dropWhile_cons, sep_of_high hh, if_true]

theorem run_encode (p : Nat → Bool) (hp : ∀ b, 128 ≤ b → p b = false) (l : List Nat) :
    (encode enc l).takeWhile p = l.takeWhile p ∧ (encode enc l).dropWhile p = encode enc (l.dropWhile p) := by
  induction l with
  | nil => exact ⟨rfl, rfl⟩
  | cons c cs ih =>
    rw [encode_cons]
    by_cases hc : c < 128
    · rw [E.ascii c hc]
      simp only [List.cons_append, List.nil_append, List.takeWhile_cons, List.dropWhile_cons]
      split
      · exact ⟨by rw [ih.1], ih.2⟩
      · exact ⟨rfl, by rw [encode_cons, E.ascii c hc]; rfl⟩
    · have hh : 128 ≤ c := by omega
      obtain ⟨hne, hb⟩ := E.high c hh
      cases he : enc c with
      | nil => exact absurd he hne
      | cons b bs =>
        have hb0 : p b = false := hp b (hb b (by rw [he]; simp))
        simp only [List.cons_append, List.takeWhile_cons, List.dropWhile_cons, hb0, hp c hh, Bool.false_eq_true, if_false]
        refine ⟨trivial, ?_⟩
        rw [encode_cons, he]; rfl

theorem encode_cons_of_not_sep {x : Nat} (r : List Nat) (hx : isSep x = false) :
    encode enc (x :: r) = x :: encode enc r := by
  have h : x < 128 := Nat.lt_of_not_le fun h => by rw [sep_of_high h] at hx; cases hx
  rw [encode_cons, E.ascii x h]; rfl

theorem dropWhile_sep_encode_cons {l r : List Nat} {x : Nat} (h : l.dropWhile isSep = x :: r) :
    (encode enc l).dropWhile isSep = x :: encode enc r := by
  rw [dropWhile_sep_encode E, h, encode_cons_of_not_sep E r (dw_sep_head h)]

theorem key_encode (l : List Nat) : key (encode enc l) = key l := by
  fun_induction key l with
  | case1 a h => exact key_nil (by rw [dropWhile_sep_encode E, h]; rfl)
  | case2 a r h ih => rw [key_tilde (dropWhile_sep_encode_cons E h), ih]
  | case3 a r h _ ih => rw [key_caret (dropWhile_sep_encode_cons E h), ih]
  | case4 a x r h h1 h2 hd ih =>
    obtain ⟨t1, t2⟩ := run_encode E isDigit (fun b hb => not_digit_of_high hb) (x :: r)
    rw [key_digit (dropWhile_sep_encode_cons E h) hd, ← encode_cons_of_not_sep E r (dw_sep_head h), t1, t2, ih]
  | case5 a x r h h1 h2 hd ih =>
    obtain ⟨t1, t2⟩ := run_encode E isAlpha (fun b hb => not_alpha_of_high hb) (x :: r)
    rw [key_alpha (dropWhile_sep_encode_cons E h) (alpha_of_not_digit h h1 h2 hd),
      ← encode_cons_of_not_sep E r (dw_sep_head h), t1, t2, ih]

end generic

/-- UTF-8 encoding of a scalar value (as byte values) -/
def utf8 (c : Nat) : List Nat :=
  if c < 0x80 then [c]
  else if c < 0x800 then [0xC0 + c / 64, 0x80 + c % 64]
  else if c < 0x10000 then [0xE0 + c / 4096, 0x80 + c / 64 % 64, 0x80 + c % 64]
  else [0xF0 + c / 262144 % 8, 0x80 + c / 4096 % 64, 0x80 + c / 64 % 64, 0x80 + c % 64]

/-- every byte of a multi-byte sequence is a marker `≥ 0x80` plus some bits of the scalar value -/
theorem high_add {k : Nat} (e : Nat) (h : 128 ≤ k := by decide) : 128 ≤ k + e := Nat.le_add_right_of_le h

theorem utf8_transparent : AsciiTransparent utf8 where
  ascii c h := by rw [utf8, if_pos h]
  high c h := by
    rw [utf8, if_neg (Nat.not_lt.mpr h)]
    split
    · exact ⟨List.cons_ne_nil _ _, by
        simp only [List.mem_cons, List.not_mem_nil, or_false, forall_eq_or_imp, forall_eq]
        exact ⟨high_add _, high_add _⟩⟩
    split
    · exact ⟨List.cons_ne_nil _ _, by
        simp only [List.mem_cons, List.not_mem_nil, or_false, forall_eq_or_imp, forall_eq]
        exact ⟨high_add _, high_add _, high_add _⟩⟩
    · exact ⟨List.cons_ne_nil _ _, by
        simp only [List.mem_cons, List.not_mem_nil, or_false, forall_eq_or_imp, forall_eq]
        exact ⟨high_add _, high_add _, high_add _, high_add _⟩⟩

end RpmVerif.Vercmp
