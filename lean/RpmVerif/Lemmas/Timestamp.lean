import RpmVerif.Model.Timestamp
import RpmVerif.Spec.Timestamp
/-! Helper lemmas for C20: each partial std / chrono operation of the model, case by case, and the
three regions of the spec. -/
namespace RpmVerif.Timestamp
open RpmVerif.TimestampSpec

theorem durationSinceEpoch_of_nonneg {t : Instant} (h : 0 ≤ t.secs) :
    durationSinceEpoch t = some ⟨t.secs.toNat, t.nanos⟩ := by
  unfold durationSinceEpoch; rw [if_pos h]

theorem durationSinceEpoch_of_neg {t : Instant} (h : t.secs < 0) : durationSinceEpoch t = none := by
  unfold durationSinceEpoch; rw [if_neg (by omega)]

theorem u32OfU64_of_lt {x : Nat} (h : x < 4294967296) : u32OfU64 x = some x := by
  unfold u32OfU64; rw [if_pos h]

theorem u32OfU64_of_ge {x : Nat} (h : 4294967296 ≤ x) : u32OfU64 x = none := by
  unfold u32OfU64; rw [if_neg (by omega)]

theorem u32OfI64_of_range {x : Int} (h0 : 0 ≤ x) (h1 : x < 4294967296) : u32OfI64 x = some x.toNat := by
  unfold u32OfI64; rw [if_pos ⟨h0, h1⟩]

theorem u32OfI64_of_ge {x : Int} (h : 4294967296 ≤ x) : u32OfI64 x = none := by
  unfold u32OfI64; rw [if_neg (by omega)]

theorem u32OfI64_of_neg {x : Int} (h : x < 0) : u32OfI64 x = none := by
  unfold u32OfI64; rw [if_neg (by omega)]

/-- `with_timezone(&Utc).timestamp()` reads the UTC seconds; the offset is gone -/
theorem timestamp_withTimezoneUtc (dt : DateTime) : dt.withTimezoneUtc.timestamp = dt.utc.secs := rfl

theorem fromSystemTime_of_nonneg {st : Instant} (h : 0 ≤ st.secs) :
    fromSystemTime st = match u32OfU64 st.secs.toNat with | none => .overflow | some n => .ok n := by
  unfold fromSystemTime; rw [durationSinceEpoch_of_nonneg h]; rfl

theorem fromSystemTime_of_neg {st : Instant} (h : st.secs < 0) : fromSystemTime st = .underflow := by
  unfold fromSystemTime; rw [durationSinceEpoch_of_neg h]

/-- `Timestamp::try_from(SystemTime)` by the region of the seconds: before the epoch, inside `0..2³²`, from 2³² on -/
theorem fromSystemTime_cases (t : Instant) :
    (t.secs < 0 ∧ fromSystemTime t = .underflow) ∨
    (0 ≤ t.secs ∧ t.secs < 4294967296 ∧ fromSystemTime t = .ok t.secs.toNat) ∨
    (4294967296 ≤ t.secs ∧ fromSystemTime t = .overflow) := by
  by_cases h0 : 0 ≤ t.secs
  · rw [fromSystemTime_of_nonneg h0]
    by_cases h1 : t.secs < 4294967296
    · exact .inr (.inl ⟨h0, h1, by rw [u32OfU64_of_lt (by omega)]⟩)
    · exact .inr (.inr ⟨by omega, by rw [u32OfU64_of_ge (by omega)]⟩)
  · exact .inl ⟨by omega, fromSystemTime_of_neg (by omega)⟩

theorem expect_cases (f : Int) :
    (f < 0 ∧ expect f = .underflow) ∨
    (0 ≤ f ∧ f < 4294967296 ∧ expect f = .value f.toNat) ∨
    (4294967296 ≤ f ∧ expect f = .overflow) := by
  unfold expect
  split
  · next h0 => exact .inl ⟨h0, rfl⟩
  · next h0 =>
    split
    · next h1 => exact .inr (.inl ⟨by omega, h1, rfl⟩)
    · next h1 => exact .inr (.inr ⟨by omega, rfl⟩)

end RpmVerif.Timestamp
