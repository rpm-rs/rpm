import RpmVerif.Model.Path
/-! Helper lemmas for C17: pieces of a path (`splitSep` / `joinSep`), trimming of trivial pieces. -/
namespace RpmVerif.Path

theorem splitSep_ne_nil (p : Bytes) : splitSep p ≠ [] := by
  cases p with
  | nil => simp [splitSep]
  | cons b r => unfold splitSep; split <;> simp

theorem splitSep_eq_cons (p : Bytes) : splitSep p = (splitSep p).headD [] :: (splitSep p).tail := by
  have := splitSep_ne_nil p
  cases h : splitSep p with
  | nil => exact absurd h this
  | cons a t => rfl

theorem splitSep_nil : splitSep [] = [[]] := rfl

theorem splitSep_cons_sep (r : Bytes) : splitSep (47 :: r) = [] :: splitSep r := by
  simp [splitSep]

theorem splitSep_cons_ne {b : UInt8} (h : b ≠ 47) (r : Bytes) :
    splitSep (b :: r) = (b :: (splitSep r).headD []) :: (splitSep r).tail := by
  simp [splitSep, h]

theorem joinSep_cons_cons (s x : Bytes) (t : List Bytes) :
    joinSep (s :: x :: t) = s ++ 47 :: joinSep (x :: t) := by
  simp [joinSep]

theorem joinSep_splitSep (p : Bytes) : joinSep (splitSep p) = p := by
  induction p with
  | nil => rfl
  | cons b r ih =>
    by_cases hb : b = 47
    · subst hb
      rw [splitSep_cons_sep, splitSep_eq_cons r, joinSep_cons_cons, ← splitSep_eq_cons r, ih]; rfl
    · rw [splitSep_cons_ne hb]
      rw [splitSep_eq_cons r] at ih
      simp only [joinSep, List.cons_append] at ih ⊢
      rw [ih]

theorem splitSep_append_sep (a b : Bytes) : splitSep (a ++ 47 :: b) = splitSep a ++ splitSep b := by
  induction a with
  | nil => rw [List.nil_append, splitSep_cons_sep]; rfl
  | cons x a ih =>
    by_cases hx : x = 47
    · subst hx
      rw [List.cons_append, splitSep_cons_sep, splitSep_cons_sep, ih]; rfl
    · rw [List.cons_append, splitSep_cons_ne hx, splitSep_cons_ne hx, ih]
      rw [splitSep_eq_cons a]
      simp

theorem splitSep_noSep {s : Bytes} (h : (47 : UInt8) ∉ s) : splitSep s = [s] := by
  induction s with
  | nil => rfl
  | cons b r ih =>
    have hb : b ≠ 47 := fun e => h (by simp [e])
    have hr : (47 : UInt8) ∉ r := fun e => h (by simp [e])
    rw [splitSep_cons_ne hb, ih hr]; rfl

theorem noSep_of_mem_splitSep {p s : Bytes} (h : s ∈ splitSep p) : (47 : UInt8) ∉ s := by
  induction p generalizing s with
  | nil => rw [List.mem_singleton.mp h]; exact List.not_mem_nil
  | cons b r ih =>
    rw [splitSep_eq_cons r] at ih
    by_cases hb : b = 47
    · rw [hb, splitSep_cons_sep, splitSep_eq_cons r] at h
      rcases List.mem_cons.mp h with rfl | h
      · exact List.not_mem_nil
      · exact ih h
    · rw [splitSep_cons_ne hb] at h
      rcases List.mem_cons.mp h with rfl | h
      · exact fun hm => (List.mem_cons.mp hm).elim (fun e => hb e.symm) (ih List.mem_cons_self)
      · exact ih (List.mem_cons_of_mem _ h)

theorem joinSep_append_cons {a : List Bytes} (ha : a ≠ []) (s : Bytes) (b : List Bytes) :
    joinSep (a ++ s :: b) = joinSep a ++ 47 :: joinSep (s :: b) := by
  cases a with
  | nil => exact absurd rfl ha
  | cons a0 a' => simp [joinSep, List.flatMap_append]

theorem splitSep_joinSep {l : List Bytes} (hl : l ≠ []) (h : ∀ s ∈ l, (47 : UInt8) ∉ s) :
    splitSep (joinSep l) = l := by
  induction l with
  | nil => exact absurd rfl hl
  | cons s t ih =>
    cases t with
    | nil => simp only [joinSep, List.flatMap_nil, List.append_nil]; exact splitSep_noSep (h s (by simp))
    | cons x t' =>
      rw [joinSep_cons_cons, splitSep_append_sep, splitSep_noSep (h s (by simp)),
        ih (by simp) (fun y hy => h y (List.mem_cons_of_mem _ hy))]
      rfl

section generic
variable {α : Type}

theorem dropWhile_cons_head_false {p : α → Bool} {l : List α} {x : α} {r : List α}
    (h : l.dropWhile p = x :: r) : p x = false := by
  induction l with
  | nil => simp at h
  | cons a t ih =>
    rw [List.dropWhile_cons] at h
    split at h
    · exact ih h
    · next hp => simp only [List.cons.injEq] at h; rw [← h.1]; simpa using hp

theorem reverse_dropWhile_decomp (p : α → Bool) (l : List α) :
    ∃ post, l = (l.reverse.dropWhile p).reverse ++ post ∧ ∀ y ∈ post, p y = true := by
  refine ⟨(l.reverse.takeWhile p).reverse, ?_, ?_⟩
  · have := List.takeWhile_append_dropWhile (p := p) (l := l.reverse)
    have h2 := congrArg List.reverse this
    rw [List.reverse_append, List.reverse_reverse] at h2
    exact h2.symm
  · intro y hy
    have hall := List.all_takeWhile (p := p) (l := l.reverse)
    rw [List.all_eq_true] at hall
    exact hall y (List.mem_reverse.mp hy)

theorem filter_dropWhile_of_imp {p q : α → Bool} (hpq : ∀ x, p x = true → q x = false) (l : List α) :
    (l.dropWhile p).filter q = l.filter q := by
  induction l with
  | nil => rfl
  | cons a t ih =>
    rw [List.dropWhile_cons]
    split
    · next hp => rw [ih, List.filter_cons, hpq a hp]; simp
    · rfl

theorem dropWhile_eq_nil_of_all {p : α → Bool} {l : List α} (h : ∀ x ∈ l, p x = true) : l.dropWhile p = [] := by
  induction l with
  | nil => rfl
  | cons a t ih =>
    rw [List.dropWhile_cons, if_pos (h a (by simp))]
    exact ih (fun x hx => h x (List.mem_cons_of_mem _ hx))

theorem dropWhile_eq_self_of_head {p : α → Bool} {a : α} {t : List α} (h : p a = false) :
    (a :: t).dropWhile p = a :: t := by
  rw [List.dropWhile_cons, if_neg (by simp [h])]

end generic

theorem isTriv_nil : isTriv [] = true := rfl
theorem isTriv_dot : isTriv [46] = true := rfl
theorem isTriv_iff (s : Bytes) : isTriv s = true ↔ s = [] ∨ s = [46] := by
  cases s with
  | nil => simp [isTriv]
  | cons a t => simp [isTriv]

/-- what the backward iterator finds first: the last real piece `s`, with only trivial pieces `post` behind it -/
theorem pieces_of_trimTriv_reverse {S rest : List Bytes} {s : Bytes} (h : trimTriv S.reverse = s :: rest) :
    ∃ post, S = rest.reverse ++ s :: post ∧ isTriv s = false ∧ ∀ y ∈ post, isTriv y = true := by
  obtain ⟨post, hS, hpost⟩ := reverse_dropWhile_decomp isTriv S
  have h' : S.reverse.dropWhile isTriv = s :: rest := h
  rw [h'] at hS
  exact ⟨post, by simpa using hS, dropWhile_cons_head_false h', hpost⟩

theorem trimTriv_reverse_of_pieces {tl J : List Bytes} {name : Bytes}
    (hJ : ∀ y ∈ J, isTriv y = true) (hn : isTriv name = false) :
    trimTriv (tl ++ name :: J).reverse = name :: tl.reverse := by
  have hrev : (tl ++ name :: J).reverse = J.reverse ++ (name :: tl.reverse) := by simp
  rw [hrev, trimTriv, List.dropWhile_append_of_pos (fun a ha => hJ a (List.mem_reverse.mp ha))]
  exact dropWhile_eq_self_of_head hn

theorem trimTriv_reverse_prefix (l : List Bytes) :
    ∃ post, l = (trimTriv l.reverse).reverse ++ post ∧ ∀ y ∈ post, isTriv y = true :=
  reverse_dropWhile_decomp isTriv l

theorem nameParts_trimTriv (l : List Bytes) : nameParts (trimTriv l) = nameParts l :=
  filter_dropWhile_of_imp (fun x hx => by simp [hx]) l

theorem nameParts_reverse (l : List Bytes) : nameParts l.reverse = (nameParts l).reverse := by
  simp [nameParts, List.filter_reverse]

theorem nameParts_append (a b : List Bytes) : nameParts (a ++ b) = nameParts a ++ nameParts b := by
  simp [nameParts]

theorem nameParts_of_all_triv {l : List Bytes} (h : ∀ y ∈ l, isTriv y = true) : nameParts l = [] := by
  simp only [nameParts, List.filter_eq_nil_iff]
  intro y hy; simp [h y hy]

theorem nameParts_cons_triv {s : Bytes} (h : isTriv s = true) (l : List Bytes) :
    nameParts (s :: l) = nameParts l := by
  simp [nameParts, h]

theorem nameParts_cons_real {s : Bytes} (h : isTriv s = false) (l : List Bytes) :
    nameParts (s :: l) = s :: nameParts l := by
  simp [nameParts, h]

theorem nameParts_trim_right (l : List Bytes) : nameParts (trimTriv l.reverse).reverse = nameParts l := by
  rw [nameParts_reverse, nameParts_trimTriv, nameParts_reverse, List.reverse_reverse]

theorem nameParts_splitSep_joinSep {l : List Bytes} (h : ∀ s ∈ l, (47 : UInt8) ∉ s) :
    nameParts (splitSep (joinSep l)) = nameParts l := by
  cases l with
  | nil => rfl
  | cons s t => rw [splitSep_joinSep (by simp) h]

end RpmVerif.Path
