import RpmVerif.Spec.AddData
/-! The driver's decision procedure `splittableB` decides the declarative `Splittable` (C17). -/
namespace RpmVerif.AddDataSpec

theorem Trail.append {u v : Bytes} (hu : Trail u) (hv : Trail v) : Trail (u ++ v) := by
  induction hu with
  | nil => exact hv
  | slash _ ih => exact Trail.slash ih
  | slashDot _ ih => exact Trail.slashDot ih

theorem dropTrailRev_spec (x : Bytes) : ∃ t, x = t ++ dropTrailRev x ∧ Trail t.reverse := by
  fun_induction dropTrailRev x with
  | case1 r ih =>
    obtain ⟨t, ht, hT⟩ := ih
    refine ⟨47 :: t, by rw [List.cons_append, ← ht], ?_⟩
    rw [List.reverse_cons]
    exact Trail.append hT (Trail.slash Trail.nil)
  | case2 r ih =>
    obtain ⟨t, ht, hT⟩ := ih
    refine ⟨46 :: 47 :: t, by rw [List.cons_append, List.cons_append, ← ht], ?_⟩
    rw [List.reverse_cons, List.reverse_cons, List.append_assoc]
    exact Trail.append hT (Trail.slashDot Trail.nil)
  | case3 r h1 h2 => exact ⟨[], rfl, Trail.nil⟩

theorem dropTrailRev_trail {t : Bytes} (h : Trail t) (x : Bytes) :
    dropTrailRev (t.reverse ++ x) = dropTrailRev x := by
  induction h generalizing x with
  | nil => rfl
  | slash _ ih => rw [List.reverse_cons, List.append_assoc, ih, List.singleton_append, dropTrailRev]
  | slashDot _ ih =>
    rw [List.reverse_cons, List.reverse_cons, List.append_assoc, List.append_assoc, ih, List.singleton_append,
      List.singleton_append, dropTrailRev]

theorem dropTrailRev_name {c : UInt8} {y : Bytes} (hc : c ≠ 47) (hy : c = 46 → ∀ z, y ≠ 47 :: z) :
    dropTrailRev (c :: y) = c :: y := by
  unfold dropTrailRev
  split
  · next r h => simp only [List.cons.injEq] at h; exact absurd h.1 hc
  · next r h =>
    simp only [List.cons.injEq] at h
    exact absurd h.2 (hy h.1 r)
  · rfl

theorem validStartB_iff (dest : Bytes) : validStartB dest = true ↔ ValidStart dest := by
  unfold validStartB ValidStart
  split
  · next r => simp
  · next r => simp
  · next h1 h2 =>
    simp only [Bool.false_eq_true, false_iff, not_or, not_exists]
    exact ⟨fun r e => h1 r e, fun r e => h2 r e⟩

/-- a text is cut at its first `/` in exactly one way (on bytes, `a != b` unfolds to `!decide (a = b)`) -/
theorem cut_iff {r n : Bytes} :
    r.takeWhile (· != 47) = n ∧ r.dropWhile (· != 47) ≠ [] ↔ 47 ∉ n ∧ ∃ x, r = n ++ 47 :: x := by
  constructor
  · rintro ⟨rfl, hx⟩
    refine ⟨fun hm => absurd (List.all_eq_true.mp List.all_takeWhile 47 hm) (by decide), ?_⟩
    cases hd : r.dropWhile (· != 47) with
    | nil => exact absurd hd hx
    | cons c x =>
      have hc := List.head?_dropWhile_not (· != 47) r
      rw [hd] at hc
      obtain rfl := of_decide_eq_true (Bool.not_eq_eq_eq_not.mp hc)
      exact ⟨x, hd ▸ List.takeWhile_append_dropWhile.symm⟩
  · rintro ⟨hn, x, rfl⟩
    have hall : ∀ a ∈ n, (a != 47) = true := fun a ha =>
      congrArg not (decide_eq_false fun e : a = 47 => hn (e ▸ ha))
    rw [List.takeWhile_append_of_pos hall, List.dropWhile_append_of_pos hall]
    exact ⟨List.append_nil n, List.cons_ne_nil _ _⟩

/-- a reversed real file name in front stops the scan -/
theorem dropTrailRev_append_sep {n x : Bytes} (hne : n ≠ []) (hsep : 47 ∉ n) (hdot : n ≠ [46]) :
    dropTrailRev (n ++ 47 :: x) = n ++ 47 :: x := by
  cases n with
  | nil => exact absurd rfl hne
  | cons c y =>
    refine dropTrailRev_name (fun e => hsep (e ▸ List.mem_cons_self)) fun hc z hz => ?_
    cases y with
    | nil => exact hdot (hc ▸ rfl)
    | cons b y =>
      obtain ⟨rfl, _⟩ := List.cons.inj hz
      exact hsep (List.mem_cons_of_mem _ List.mem_cons_self)

/-- `splittableB` in words: after the trail, the reversed text reads `n / x` with `n` a real file name -/
theorem splittableB_iff_rev {dest : Bytes} : splittableB dest = true ↔ ValidStart dest ∧
    ∃ n, n ≠ [] ∧ n ≠ [46] ∧ n ≠ [46, 46] ∧ 47 ∉ n ∧ ∃ x, dropTrailRev dest.reverse = n ++ 47 :: x := by
  unfold splittableB
  simp only [Bool.and_eq_true, validStartB_iff, Bool.not_eq_true', bne_iff_ne, List.isEmpty_eq_false_iff,
    and_assoc]
  constructor
  · rintro ⟨hv, h0, h1, h2, hx⟩
    exact ⟨hv, _, h0, h1, h2, cut_iff.mp ⟨rfl, hx⟩⟩
  · rintro ⟨hv, n, h0, h1, h2, hc⟩
    obtain ⟨rfl, hx⟩ := cut_iff.mpr hc
    exact ⟨hv, h0, h1, h2, hx⟩

theorem splittableB_of_split {dest d name trail : Bytes} (hv : ValidStart dest) (h : Split dest d name trail) :
    splittableB dest = true := by
  have hne := mt List.reverse_eq_nil_iff.mp h.nonempty
  have hsep := mt List.mem_reverse.mp h.noSep
  have hdot : name.reverse ≠ [46] := mt List.reverse_eq_iff.mp h.notDot
  refine splittableB_iff_rev.mpr ⟨hv, _, hne, hdot, mt List.reverse_eq_iff.mp h.notDotDot, hsep, d.reverse, ?_⟩
  rw [h.eq, List.reverse_append, List.reverse_cons, List.reverse_append, List.append_assoc, List.append_assoc,
    dropTrailRev_trail h.trail, List.singleton_append, dropTrailRev_append_sep hne hsep hdot]

theorem split_of_splittableB {dest : Bytes} (h : splittableB dest = true) : Splittable dest := by
  obtain ⟨hv, n, hne, hnd, hndd, hsep, x, hr⟩ := splittableB_iff_rev.mp h
  obtain ⟨t, ht, hT⟩ := dropTrailRev_spec dest.reverse
  refine ⟨hv, x.reverse, n.reverse, t.reverse, ?_, mt List.reverse_eq_nil_iff.mp hne, mt List.mem_reverse.mp hsep,
    mt List.reverse_eq_iff.mp hnd, mt List.reverse_eq_iff.mp hndd, hT⟩
  rw [← List.reverse_reverse dest, ht, hr]
  simp

end RpmVerif.AddDataSpec
