import RpmVerif.Model.FromEntries
import RpmVerif.Lemmas.Header
/-! `from_entries` produces well-formed headers. `IndexData.Canon` / `StrOk`: data that decodes back to itself from its own
encoding (`decode_enc`) and is charged that encoding's length by the reader's budget (`decodeUsed_enc`); `layout_*`: where
the records' encodings sit in the store; `RecsOk`: what `fromEntries_wf` asks of the records. -/
namespace RpmVerif.Hdr

/-- a string the header can carry faithfully: NUL-free and unchanged by `from_utf8_lossy` -/
def StrOk (s : Bytes) : Prop := (0 : UInt8) ∉ s ∧ Utf8.lossy s = s

/-- data that survives encode → decode unchanged -/
def IndexData.Canon : IndexData → Prop
  | .null => True
  | .char d => d.length < 4294967296
  | .int8 d => d.length < 4294967296
  | .bin d => d.length < 4294967296
  | .int16 l => l.length < 4294967296 ∧ ∀ x ∈ l, x < 65536
  | .int32 l => l.length < 4294967296 ∧ ∀ x ∈ l, x < 4294967296
  | .int64 l => l.length < 4294967296 ∧ ∀ x ∈ l, x < 18446744073709551616
  | .str s => StrOk s
  | .strArray l => l.length < 4294967296 ∧ ∀ s ∈ l, StrOk s
  | .i18n l => l.length < 4294967296 ∧ ∀ s ∈ l, StrOk s

/-- the loop shared by `rdN16` / `rdN32` / `rdN64`, for any item reader `rd` that reads `be x` back as `x`:
the loop reads the encoded list back -/
theorem rdMany_enc {rd : Bytes → Out (Nat × Bytes)} {be : Nat → Bytes} {B : Nat} {f : Nat → Bytes → Out (List Nat)}
    (h0 : ∀ bs, f 0 bs = pure [])
    (hs : ∀ k bs, f (k + 1) bs = do let (x, bs) ← rd bs; let xs ← f k bs; pure (x :: xs))
    (hrd : ∀ {n}, n < B → ∀ r, rd (be n ++ r) = .ok (n, r)) (l : List Nat) (post : Bytes) (h : ∀ x ∈ l, x < B) :
    f l.length ((l.map be).flatten ++ post) = .ok l := by
  induction l with
  | nil => exact h0 _
  | cons x xs ih =>
    obtain ⟨hx, hxs⟩ := List.forall_mem_cons.mp h
    simp only [List.map_cons, List.flatten_cons, List.append_assoc, List.length_cons, hs, hrd hx, ih hxs, Out.bind_ok,
      Out.pure_eq]

theorem rdN16_enc (l : List Nat) (post : Bytes) (h : ∀ x ∈ l, x < 65536) :
    rdN16 l.length ((l.map be16).flatten ++ post) = .ok l :=
  rdMany_enc (fun _ => rfl) (fun _ _ => rfl) rd16_be16 l post h

theorem rdN32_enc (l : List Nat) (post : Bytes) (h : ∀ x ∈ l, x < 4294967296) :
    rdN32 l.length ((l.map be32).flatten ++ post) = .ok l :=
  rdMany_enc (fun _ => rfl) (fun _ _ => rfl) rd32_be32 l post h

theorem rdN64_enc (l : List Nat) (post : Bytes) (h : ∀ x ∈ l, x < 18446744073709551616) :
    rdN64 l.length ((l.map be64).flatten ++ post) = .ok l :=
  rdMany_enc (fun _ => rfl) (fun _ _ => rfl) rd64_be64 l post h

theorem takeTill0_append (s post : Bytes) (h : (0 : UInt8) ∉ s) :
    takeTill0 (s ++ 0 :: post) = (s, 0 :: post) := by
  induction s with
  | nil => simp [takeTill0]
  | cons b r ih =>
    have hb : b ≠ 0 := fun e => h (by simp [e])
    have hr : (0 : UInt8) ∉ r := fun m => h (by simp [m])
    simp only [List.cons_append, takeTill0, if_neg hb, ih hr]

theorem rdStrings_enc (l : List Bytes) (post : Bytes) (h : ∀ s ∈ l, StrOk s) :
    rdStrings l.length ((l.map (· ++ [0])).flatten ++ post) = .ok l := by
  induction l with
  | nil => rfl
  | cons s ss ih =>
    have hs := h s (by simp)
    simp only [List.map_cons, List.flatten_cons, List.append_assoc, List.length_cons, rdStrings,
      List.cons_append, List.nil_append]
    rw [takeTill0_append s _ hs.1]
    simp only
    rw [ih (fun y m => h y (by simp [m]))]
    simp only [Out.bind_ok, Out.pure_eq, hs.2]

theorem rdBin_enc (d post : Bytes) : rdBin d.length (d ++ post) = .ok d := by
  simp [rdBin]

theorem decode_enc {d : IndexData} (hc : d.Canon) (pre post : Bytes) (hoff : pre.length < 2147483648) :
    decode (pre ++ d.enc ++ post) d.typeCode pre.length d.numItems = .ok d := by
  rw [List.append_assoc]
  have hle : ¬ (pre.length ≥ 2147483648 ∨ pre.length > (pre ++ (d.enc ++ post)).length) :=
    not_or.mpr ⟨Nat.not_le.mpr hoff, Nat.not_lt.mpr (List.length_append ▸ Nat.le_add_right ..)⟩
  rw [decode, if_neg hle, List.drop_left]
  cases d with
  | null => rfl
  | char b | int8 b | bin b => exact congrArg (Out.map _) (rdBin_enc b post)
  | int16 l => exact congrArg (Out.map IndexData.int16) (rdN16_enc l post hc.2)
  | int32 l => exact congrArg (Out.map IndexData.int32) (rdN32_enc l post hc.2)
  | int64 l => exact congrArg (Out.map IndexData.int64) (rdN64_enc l post hc.2)
  | str s =>
    show Out.ok (IndexData.str (Utf8.lossy (takeTill0 (s ++ [0] ++ post)).1)) = _
    rw [List.append_assoc, List.singleton_append, takeTill0_append s post hc.1, hc.2]
  | strArray l | i18n l => exact congrArg (Out.map _) (rdStrings_enc l post hc.2)

theorem numItems_lt : {d : IndexData} → d.Canon → d.numItems < 4294967296 := by
  intro d h
  cases d with
  | null => exact (by decide : 0 < 4294967296)
  | str _ => exact (by decide : 1 < 4294967296)
  | char _ | int8 _ | bin _ => exact h
  | int16 _ | int32 _ | int64 _ | strArray _ | i18n _ => exact h.1

theorem strConsumed_enc (l : List Bytes) (post : Bytes) (h : ∀ s ∈ l, (0 : UInt8) ∉ s) :
    strConsumed l.length ((l.map (· ++ [0])).flatten ++ post) = ((l.map (· ++ [0])).flatten).length := by
  induction l with
  | nil => rfl
  | cons s ss ih =>
    simp only [List.map_cons, List.flatten_cons, List.append_assoc, List.length_cons, strConsumed,
      List.cons_append, List.nil_append]
    rw [takeTill0_append s _ (h s (by simp))]
    simp only
    rw [ih (fun y m => h y (by simp [m]))]
    simp only [List.length_append, List.length_cons]
    omega

/-- **the budget charges an encoding its own length**: decoding canonical data at the offset where `IndexData::append`
put it uses exactly the bytes of the encoding (alignment padding is not charged) -/
theorem decodeUsed_enc {d : IndexData} (hc : d.Canon) (pre post : Bytes) :
    decodeUsed (pre ++ d.enc ++ post) pre.length d.numItems d = d.enc.length := by
  cases d with
  | null | char b | int8 b | bin b => rfl
  | int16 l => exact (flatten_map_length l be16 2 (fun _ => rfl)).symm
  | int32 l => exact (flatten_map_length l be32 4 (fun _ => rfl)).symm
  | int64 l => exact (flatten_map_length l be64 8 (fun _ => rfl)).symm
  | str s =>
    simp only [decodeUsed, IndexData.enc, List.append_assoc, List.drop_left, List.cons_append, List.nil_append]
    rw [takeTill0_append s post hc.1]
    simp only [List.length_append, List.length_cons]
    exact Nat.min_eq_left (by omega)
  | strArray l | i18n l =>
    simp only [decodeUsed, IndexData.enc, IndexData.numItems, List.append_assoc, List.drop_left]
    exact strConsumed_enc l post (fun s m => (hc.2 s m).1)

theorem layout_prefix (rs : List (Nat × IndexData)) (store : Bytes) : store <+: (layout rs store).2 := by
  induction rs generalizing store with
  | nil => simp [layout]
  | cons r rs ih =>
    obtain ⟨tag, d⟩ := r
    simp only [layout]
    exact List.IsPrefix.trans (by simp [List.append_assoc]) (ih _)

theorem layout_tags (rs : List (Nat × IndexData)) (store : Bytes) :
    (layout rs store).1.map (fun e => (e.tag, e.data)) = rs := by
  induction rs generalizing store with
  | nil => rfl
  | cons r rs ih =>
    obtain ⟨tag, d⟩ := r
    simp only [layout, List.map_cons, ih]

theorem mem_of_mem_layout {rs : List (Nat × IndexData)} {store : Bytes} {e : Entry} (he : e ∈ (layout rs store).1) :
    (e.tag, e.data) ∈ rs := by
  have := List.mem_map_of_mem (f := fun e => (e.tag, e.data)) he
  rwa [layout_tags] at this

theorem layout_inv (rs : List (Nat × IndexData)) (store : Bytes) :
    ∀ e ∈ (layout rs store).1, ∃ pre post, (layout rs store).2 = pre ++ e.data.enc ++ post ∧
      pre.length = e.off ∧ e.cnt = e.data.numItems ∧ e.off + e.data.enc.length ≤ (layout rs store).2.length := by
  induction rs generalizing store with
  | nil => intro e he; simp [layout] at he
  | cons r rs ih =>
    obtain ⟨tag, d⟩ := r
    intro e he
    simp only [layout, List.mem_cons] at he
    rcases he with rfl | he
    · obtain ⟨post, hp⟩ := layout_prefix rs (store ++ List.replicate (padTo store.length d.align) 0 ++ d.enc)
      have hfin : (layout ((tag, d) :: rs) store).2 = _ ++ d.enc ++ post := hp.symm
      refine ⟨_, post, hfin, by simp, rfl, ?_⟩
      rw [hfin]
      simp only [List.length_append, List.length_replicate]
      omega
    · simp only [layout]
      exact ih _ e he

/-- **`from_entries` lays the data out one record after the other**: the encodings of all records, and the store the
layout started from, fit in the final store (the rest is alignment padding) -/
theorem layout_enc_sum (rs : List (Nat × IndexData)) (store : Bytes) :
    ((layout rs store).1.map fun e => e.data.enc.length).sum + store.length ≤ (layout rs store).2.length := by
  induction rs generalizing store with
  | nil => simp [layout]
  | cons r rs ih =>
    obtain ⟨tag, d⟩ := r
    simp only [layout, List.map_cons, List.sum_cons]
    have := ih (store ++ List.replicate (padTo store.length d.align) 0 ++ d.enc)
    simp only [List.length_append, List.length_replicate] at this
    omega

theorem layout_reads {rs : List (Nat × IndexData)} {store : Bytes} {e : Entry} (he : e ∈ (layout rs store).1)
    (hc : e.data.Canon) (hoff : e.off < 2147483648) (tail : Bytes) :
    decode ((layout rs store).2 ++ tail) e.data.typeCode e.off e.cnt = .ok e.data
    ∧ decodeUsed ((layout rs store).2 ++ tail) e.off e.cnt e.data = e.data.enc.length := by
  obtain ⟨pre, post, hfin, hpre, hcnt, _⟩ := layout_inv rs store e he
  rw [hfin, hcnt, ← hpre, List.append_assoc _ post tail]
  exact ⟨decode_enc hc pre _ (hpre ▸ hoff), decodeUsed_enc hc pre _⟩

theorem regionTrailer_length (tag count : Nat) : (regionTrailer tag count).length = 16 := by
  simp [regionTrailer, be32_length]

theorem layout_length (rs : List (Nat × IndexData)) (store : Bytes) : (layout rs store).1.length = rs.length := by
  have := congrArg List.length (layout_tags rs store)
  simpa using this

theorem typeCode_le9 (d : IndexData) : d.typeCode ≤ 9 := by cases d <;> exact Nat.le_of_ble_eq_true rfl

theorem rawWF_iff (e : Entry) : RawWF e.raw ↔
    e.tag < 4294967296 ∧ e.data.typeCode ≤ 9 ∧ e.off < 4294967296 ∧ e.cnt < 4294967296 := Iff.rfl

/-- what `from_entries` needs from its input to produce a well-formed header -/
structure RecsOk (recs : List (Nat × IndexData)) (regionTag : Nat) : Prop where
  canon : ∀ r ∈ recs, r.2.Canon
  tags : ∀ r ∈ recs, r.1 < 4294967296
  region : regionTag < 4294967296
  count : recs.length + 1 < 4294967296
  size : (fromEntries recs regionTag).store.length < 2147483648

/-- **the layout's entries are well-formed in the final store, whatever follows it**, and are charged at most what the
layout appended: the data `layout` wrote reads back (`layout_reads`) and is charged its encoding (`layout_enc_sum`) -/
theorem layout_wf {rs : List (Nat × IndexData)} {store : Bytes} (hc : ∀ r ∈ rs, r.2.Canon)
    (ht : ∀ r ∈ rs, r.1 < 4294967296) (hsz : (layout rs store).2.length < 2147483648) (tail : Bytes) :
    (∀ e ∈ (layout rs store).1,
      RawWF e.raw ∧ decode ((layout rs store).2 ++ tail) e.data.typeCode e.off e.cnt = .ok e.data)
    ∧ usedSum ((layout rs store).2 ++ tail) (layout rs store).1 + store.length ≤ (layout rs store).2.length := by
  have hent : ∀ e ∈ (layout rs store).1, e.off < 2147483648 ∧ e.cnt = e.data.numItems := fun e he => by
    obtain ⟨_, _, _, _, hcnt, hend⟩ := layout_inv rs store e he
    exact ⟨by omega, hcnt⟩
  have hreads := fun e he => layout_reads he (hc _ (mem_of_mem_layout he)) (hent e he).1 tail
  refine ⟨fun e he => ⟨(rawWF_iff e).mpr ⟨ht _ (mem_of_mem_layout he), typeCode_le9 _,
    Nat.lt_trans (hent e he).1 (by decide), (hent e he).2 ▸ numItems_lt (hc _ (mem_of_mem_layout he))⟩, (hreads e he).1⟩, ?_⟩
  rw [usedSum, List.map_congr_left fun e he => (hreads e he).2]
  exact layout_enc_sum rs store

/-- the region entry reads the 16 bytes after the store it closes -/
theorem region_reads (store T : Bytes) (hT : T.length = 16) (hsz : store.length < 2147483648) :
    decode (store ++ T) 7 store.length 16 = .ok (.bin T) := by
  have := decode_enc (d := .bin T) (show T.length < _ by omega) store [] hsz
  rwa [List.append_nil, show (IndexData.bin T).numItems = 16 from hT] at this

/-- **`from_entries` yields well-formed headers** (hence they re-parse to themselves, C01/C06/C16). -/
theorem fromEntries_wf {recs : List (Nat × IndexData)} {regionTag : Nat} (ok : RecsOk recs regionTag) :
    HeaderWF (fromEntries recs regionTag) := by
  have hsize := ok.size
  simp only [fromEntries, List.length_append, regionTrailer_length] at hsize
  have hoff := Nat.lt_of_add_right_lt hsize
  -- the records' entries by `layout_wf`; the region entry is charged the trailer, the 16 bytes after the layout's store
  obtain ⟨hent, hsum⟩ := layout_wf (fun r hr => ok.canon r (List.mem_mergeSort.mp hr))
    (fun r hr => ok.tags r (List.mem_mergeSort.mp hr)) hoff
    (regionTrailer regionTag (recs.mergeSort fun a b => decide (a.1 ≤ b.1)).length)
  exact {
    nEq := congrArg (· + 1) (layout_length ..)
    dlEq := rfl
    nLt := by rw [fromEntries, List.length_mergeSort]; exact ok.count
    dlLt := Nat.lt_trans ok.size (by decide)
    fields := List.forall_mem_cons.mpr ⟨(rawWF_iff _).mpr ⟨ok.region, typeCode_le9 _,
      Nat.lt_trans hoff (by decide), (by decide : 16 < 4294967296)⟩, fun e he => (hent e he).1⟩
    dec := List.forall_mem_cons.mpr ⟨region_reads _ _ (regionTrailer_length ..) hoff,
      fun e he => (hent e he).2⟩
    budget := by
      rw [fromEntries, usedSum_cons, List.length_append, Nat.add_comm]
      exact Nat.add_le_add_right hsum _ }
/-- **`from_entries` stays within the reader's budget**: the store bytes the entries of a built header are charged
(`decodeUsed`: the region trailer's 16 bytes, every record's encoding) are together at most the data section. So every
header the builder emits passes the budget check of `parse_header`. -/
theorem fromEntries_within_budget {recs : List (Nat × IndexData)} {regionTag : Nat} (ok : RecsOk recs regionTag) :
    usedSum (fromEntries recs regionTag).store (fromEntries recs regionTag).entries ≤ (fromEntries recs regionTag).store.length :=
  (fromEntries_wf ok).budget

end RpmVerif.Hdr
