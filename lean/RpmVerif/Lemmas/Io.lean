import RpmVerif.Model.Io
import RpmVerif.Lemmas.Header
/-! For C14. Sink side: `write_all` against response scripts (`writeAll_spec`, `run_spec`); the serialiser's call sequences
emit the writer's bytes and consist of `write_all`s (`concat_prog*`, `all_prog*`); sinks keyed on the bytes accepted so far
(`writeAllK_spec`, `runK_spec`) and their reading as response scripts (`writeAll_respK`). Source side: `read_exact` /
`read_to_end` over chunked sources equal list `take` / `drop` (`Sim`, `parseChunked_eq`); every parsing stage fails with
`eof` on a strict prefix of the bytes it consumes (`bind_trunc`, `parse*_trunc`). -/
namespace RpmVerif.Io
open RpmVerif.Hdr RpmVerif.Gen

theorem writeAll_spec (buf : Bytes) (rs : List Resp) :
    (writeAll buf rs).1 <+: buf ∧ ((writeAll buf rs).2.1 = .ok → (writeAll buf rs).1 = buf)
      ∧ ((writeAll buf rs).2.1 = .starved → (writeAll buf rs).2.2 = []) := by
  fun_induction writeAll buf rs with
  | case1 rs => simp
  | case2 b bs => simp
  | case3 b bs rs ih => exact ih
  | case4 b bs rs => simp
  | case5 b bs rs => simp
  | case6 b bs n rs hn r ih =>
    obtain ⟨⟨t, ht⟩, h2, h3⟩ := ih
    refine ⟨⟨t, ?_⟩, ?_, h3⟩
    · rw [List.append_assoc, ht, List.take_append_drop]
    · intro h
      show _ ++ r.1 = _
      rw [h2 h, List.take_append_drop]

theorem exec_all (b : Bytes) (rs) : exec (.all b) rs = writeAll b rs := rfl

theorem concat_cons (a : Act) (as : List Act) : concat (a :: as) = a.buf ++ concat as := by
  simp [concat]

theorem concat_append (as bs : List Act) : concat (as ++ bs) = concat as ++ concat bs := by
  simp [concat]

theorem run_spec (as : List Act) (hall : ∀ a ∈ as, a.isAll = true) (rs : List Resp) :
    (run as rs).1 <+: concat as ∧ ((run as rs).2.1 = .ok → (run as rs).1 = concat as)
      ∧ ((run as rs).2.1 = .starved → (run as rs).2.2 = []) := by
  fun_induction run as rs with
  | case1 rs => exact ⟨List.prefix_refl _, fun _ => rfl, nofun⟩
  | case2 a as rs e rs' hex r ih =>
    obtain ⟨ha, has⟩ := List.forall_mem_cons.mp hall
    obtain ⟨i1, i2, i3⟩ := ih has
    cases a with
    | once b => cases ha
    | all b =>
      obtain ⟨_, w2, _⟩ := writeAll_spec b rs
      rw [exec_all] at hex
      rw [hex] at w2
      have he : e = b := w2 rfl
      rw [concat_cons, Act.buf, he]
      exact ⟨(List.prefix_append_right_inj b).mpr i1, fun h => by rw [i2 h], i3⟩
  | case3 a as rs e st rs' hne hex =>
    cases a with
    | once b => cases (List.forall_mem_cons.mp hall).1
    | all b =>
      obtain ⟨w1, _, w3⟩ := writeAll_spec b rs
      rw [exec_all] at hex
      rw [hex] at w1 w3
      exact ⟨w1.trans (by rw [concat_cons]; exact List.prefix_append _ _), fun h => absurd h hne, w3⟩

theorem concat_progLead (l : Lead) : concat (progLead l) = writeLead l := by
  simp [concat, progLead, writeLead, Act.buf]

theorem concat_entries (es : List Entry) : concat (es.map progEntry).flatten = (es.map writeEntry).flatten := by
  induction es with
  | nil => rfl
  | cons e es ih =>
    rw [List.map_cons, List.flatten_cons, concat_append, ih]
    simp [concat, progEntry, writeEntry, Act.buf]

theorem concat_progHeader (h : Header) : concat (progHeader h) = writeHeader h := by
  rw [progHeader, concat_append, concat_append, concat_entries]
  simp [concat, progIntro, writeHeader, writeIntro, Act.buf]

theorem concat_progSignature (h : Header) : concat (progSignature h) = writeSignature h := by
  rw [progSignature, concat_append, concat_progHeader, writeSignature]
  split
  · simp [concat, Act.buf]
  · rename_i hp
    have : sigPad h.dataSize = 0 := Nat.eq_zero_of_not_pos hp
    simp [concat, this]

theorem concat_progMetadata (m : Metadata) : concat (progMetadata m) = writeMetadata m := by
  rw [progMetadata, concat_append, concat_append, concat_progLead, concat_progSignature, concat_progHeader, writeMetadata]

/-- a literal list of `write_all` calls is recognised by evaluating `List.all` -/
theorem all_of_eval {l : List Act} (h : l.all Act.isAll = true) : ∀ a ∈ l, a.isAll = true := List.all_eq_true.mp h

theorem all_progHeader (h : Header) : ∀ a ∈ progHeader h, a.isAll = true := by
  refine List.forall_mem_append.mpr ⟨List.forall_mem_append.mpr ⟨all_of_eval rfl, fun a m => ?_⟩, all_of_eval rfl⟩
  obtain ⟨l, hl, ha⟩ := List.mem_flatten.mp m
  obtain ⟨e, _, rfl⟩ := List.mem_map.mp hl
  exact all_of_eval (l := progEntry e) rfl a ha

theorem all_progSignature (h : Header) : ∀ a ∈ progSignature h, a.isAll = true := by
  refine List.forall_mem_append.mpr ⟨all_progHeader h, ?_⟩
  split
  · exact all_of_eval rfl
  · nofun

theorem all_progMetadata (m : Metadata) : ∀ a ∈ progMetadata m, a.isAll = true :=
  List.forall_mem_append.mpr
    ⟨List.forall_mem_append.mpr ⟨all_of_eval (l := progLead m.lead) rfl, all_progSignature _⟩, all_progHeader _⟩

theorem length_take_add_drop {α} (l : List α) (k : Nat) : (l.take k).length + (l.drop k).length = l.length := by
  rw [← List.length_append, List.take_append_drop]

theorem take_step (bs : Bytes) {m n : Nat} (hm : m ≤ n) :
    bs.take n = bs.take m ++ (bs.drop m).take (n - (bs.take m).length) := by
  conv => lhs; rw [← List.take_append_drop m bs, List.take_append, List.take_take, Nat.min_eq_right hm]

theorem drop_step (bs : Bytes) {m n : Nat} (hm : m ≤ n) :
    (bs.drop m).drop (n - (bs.take m).length) = bs.drop n := by
  conv => rhs; rw [← List.take_append_drop m bs, List.drop_append,
    List.drop_of_length_le (Nat.le_trans (List.length_take_le ..) hm), List.nil_append]

theorem scriptWF_tail {c : Chunk} {sc : List Chunk} (h : ScriptWF (c :: sc)) : ScriptWF sc :=
  fun c' m => h c' (List.mem_cons_of_mem _ m)

theorem scriptWF_head {k : Nat} {sc : List Chunk} (h : ScriptWF (.size k :: sc)) : k ≠ 0 :=
  fun h0 => h (.size k) List.mem_cons_self (by rw [h0])

theorem writeAllK_spec (limit : Nat) (buf : Bytes) (pat : List Chunk) (acc : Nat) (hwf : ScriptWF pat) (hacc : acc ≤ limit) :
    (writeAllK limit buf pat acc).1 = buf.take (limit - acc)
    ∧ (writeAllK limit buf pat acc).2.1 = (if acc + buf.length ≤ limit then .ok else .err)
    ∧ ScriptWF (writeAllK limit buf pat acc).2.2.1
    ∧ ((writeAllK limit buf pat acc).2.1 = .ok → (writeAllK limit buf pat acc).2.2.2 = acc + buf.length) := by
  fun_induction writeAllK limit buf pat acc with
  | case1 pat acc => exact ⟨List.take_nil.symm, (if_pos hacc).symm, hwf, fun _ => rfl⟩
  | case2 b bs acc h =>
    exact ⟨Eq.symm (List.take_of_length_le (Nat.le_sub_of_add_le' h)), (if_pos h).symm, hwf, fun _ => rfl⟩
  | case3 b bs acc h => exact ⟨rfl, (if_neg h).symm, hwf, nofun⟩
  | case4 b bs pat acc h | case6 b bs n pat acc h =>
    exact ⟨by rw [Nat.sub_eq_zero_of_le h]; rfl, (if_neg (by rw [List.length_cons]; omega)).symm, scriptWF_tail hwf, nofun⟩
  | case5 b bs pat acc h ih => exact ih (scriptWF_tail hwf) hacc
  | case7 b bs pat acc h => exact absurd rfl (scriptWF_head hwf)
  | case8 b bs n pat acc h hn r ih =>
    -- the call takes `k = min n (limit - acc)` bytes; the rest of the buffer meets the sink `k` bytes further on
    have hk : min n (limit - acc) ≤ limit - acc := Nat.min_le_right ..
    have hle : ((b :: bs).take (min n (limit - acc))).length ≤ min n (limit - acc) := List.length_take_le ..
    obtain ⟨i1, i2, i3, i4⟩ := ih (scriptWF_tail hwf) (by omega)
    rw [Nat.add_assoc, length_take_add_drop] at i2 i4
    dsimp only [r]
    refine ⟨?_, i2, i3, i4⟩
    rw [i1, Nat.sub_add_eq]
    exact (take_step _ hk).symm

theorem runK_spec (limit : Nat) (bufs : List Bytes) (pat : List Chunk) (acc : Nat) (hwf : ScriptWF pat) (hacc : acc ≤ limit) :
    (runK limit bufs pat acc).1 = bufs.flatten.take (limit - acc)
    ∧ (runK limit bufs pat acc).2.1 = (if acc + bufs.flatten.length ≤ limit then .ok else .err) := by
  fun_induction runK limit bufs pat acc with
  | case1 pat acc => exact ⟨List.take_nil.symm, (if_pos hacc).symm⟩
  | case2 b bs pat acc e pat' acc' hk r ih =>
    obtain ⟨w1, w2, w3, w4⟩ := writeAllK_spec limit b pat acc hwf hacc
    rw [hk] at w1 w2 w3 w4
    have hc : acc + b.length ≤ limit := Decidable.by_contra fun hc => by rw [if_neg hc] at w2; cases w2
    have ha : acc' = acc + b.length := w4 rfl
    obtain ⟨i1, i2⟩ := ih w3 (ha ▸ hc)
    rw [List.flatten_cons, List.length_append, List.take_append, ← Nat.add_assoc, Nat.sub_sub, ← ha]
    exact ⟨congr (congrArg _ w1) i1, i2⟩
  | case3 b bs pat acc e st pat' acc' hne hk =>
    obtain ⟨w1, w2, _, _⟩ := writeAllK_spec limit b pat acc hwf hacc
    rw [hk] at w1 w2
    have hc : ¬ acc + b.length ≤ limit := fun hc => hne (w2.trans (if_pos hc))
    rw [List.flatten_cons, List.length_append, List.take_append_of_le_length (by omega), if_neg (by omega)]
    exact ⟨w1, w2.trans (if_neg hc)⟩

theorem writeAll_atLimit {a : Resp} (ha : a = .fail ∨ a = .ok 0) {buf : Bytes} (hne : buf ≠ []) (rest : List Resp) :
    writeAll buf (a :: rest) = ([], .err, rest) := by
  match buf, hne with
  | b :: bs, _ => rcases ha with rfl | rfl <;> simp [writeAll]

/-- an answer that covers the whole buffer ends `write_all` -/
theorem writeAll_ok_all {b : UInt8} {bs : Bytes} {n : Nat} (hn : (b :: bs).length ≤ n) (rs : List Resp) :
    writeAll (b :: bs) (.ok n :: rs) = (b :: bs, .ok, rs) := by
  simp only [writeAll, if_neg (Nat.ne_zero_of_lt hn), List.drop_of_length_le hn, List.take_of_length_le hn, List.append_nil]

/-- a keyed sink is one of the response scripts: `respK` lists the answers it gives while `write_all buf` runs -/
theorem writeAll_respK {a : Resp} (ha : a = .fail ∨ a = .ok 0) (limit : Nat) (buf : Bytes) (pat : List Chunk) (acc : Nat)
    (rest : List Resp) :
    writeAll buf (respK a limit buf pat acc ++ rest) =
      ((writeAllK limit buf pat acc).1, (writeAllK limit buf pat acc).2.1, rest) := by
  fun_induction writeAllK limit buf pat acc with
  | case1 pat acc =>
    rw [respK, writeAll]
    rfl
  | case2 b bs acc h =>
    rw [respK, if_pos h]
    exact writeAll_ok_all (Nat.le_refl _) rest
  | case3 b bs acc h =>
    rw [respK, if_neg h]
    by_cases hl : limit ≤ acc
    · rw [if_pos hl, Nat.sub_eq_zero_of_le hl]
      exact writeAll_atLimit ha (List.cons_ne_nil b bs) rest
    · have hd : (b :: bs).drop (limit - acc) ≠ [] := mt List.drop_eq_nil_iff.mp (by rw [List.length_cons]; omega)
      simp only [if_neg hl, List.cons_append, List.nil_append, writeAll, if_neg (show limit - acc ≠ 0 by omega),
        writeAll_atLimit ha hd, List.append_nil]
  | case4 b bs pat acc h | case6 b bs n pat acc h =>
    rw [respK, if_pos h]
    exact writeAll_atLimit ha (List.cons_ne_nil b bs) rest
  | case5 b bs pat acc h ih =>
    rw [respK, if_neg h]
    exact ih
  | case7 b bs pat acc h =>
    rw [respK, if_neg h, if_pos rfl]
    exact writeAll_atLimit (.inr rfl) (List.cons_ne_nil b bs) rest
  | case8 b bs n pat acc h hn r ih =>
    rw [respK, if_neg h, if_neg hn, List.cons_append, writeAll, if_neg (by omega), ih]

theorem run_respRunK {a : Resp} (ha : a = .fail ∨ a = .ok 0) (limit : Nat) (bufs : List Bytes) (pat : List Chunk) (acc : Nat)
    (rest : List Resp) :
    run (bufs.map Act.all) (respRunK a limit bufs pat acc ++ rest) =
      ((runK limit bufs pat acc).1, (runK limit bufs pat acc).2.1, rest) := by
  fun_induction runK limit bufs pat acc with
  | case1 pat acc => rfl
  | case2 b bs pat acc e pat' acc' hk r ih =>
    rw [respRunK, hk, List.map_cons, run, exec_all, List.append_assoc, writeAll_respK ha, hk]
    dsimp only
    rw [ih]
  | case3 b bs pat acc e st pat' acc' hne hk =>
    have : respRunK a limit (b :: bs) pat acc = respK a limit b pat acc := by
      rw [respRunK, hk]
      cases st with
      | ok => exact absurd rfl hne
      | _ => rfl
    rw [this, List.map_cons, run, exec_all, writeAll_respK ha, hk]
    cases st with
    | ok => exact absurd rfl hne
    | _ => rfl

/-- simulation between a chunked stage and the corresponding list-level stage -/
def Sim {α} (x : Out (α × Src)) (y : Out (α × Bytes)) : Prop :=
  match x with
  | .ok (a, s) => y = .ok (a, s.bytes) ∧ s.WF
  | .err c => y = .err c
  | .panic c => y = .panic c

theorem Sim_bind {α β} {x : Out (α × Src)} {y : Out (α × Bytes)} {f : α × Src → Out (β × Src)} {g : α × Bytes → Out (β × Bytes)}
    (h : Sim x y) (hf : ∀ a s, s.WF → Sim (f (a, s)) (g (a, s.bytes))) : Sim (x >>= f) (y >>= g) := by
  cases x with
  | ok p => obtain ⟨a, s⟩ := p; obtain ⟨rfl, w⟩ := h; exact hf a s w
  | err c => cases h; rfl
  | panic c => cases h; rfl

theorem Sim_bind_noread {γ α} (z : Out γ) {f : γ → Out (α × Src)} {g : γ → Out (α × Bytes)}
    (hf : ∀ v, Sim (f v) (g v)) : Sim (z >>= f) (z >>= g) := by
  cases z with
  | ok v => exact hf v
  | err c => rfl
  | panic c => rfl

theorem takeN_step (bs : Bytes) {m n : Nat} (hm : m ≤ n) :
    takeN n bs = (takeN (n - (bs.take m).length) (bs.drop m)).map fun p => (bs.take m ++ p.1, p.2) := by
  have hlen := length_take_add_drop bs m
  unfold takeN
  by_cases hc : n ≤ bs.length
  · rw [if_pos hc, if_pos (Nat.sub_le_iff_le_add'.mpr (hlen ▸ hc))]
    exact congrArg Out.ok (Prod.ext (take_step bs hm) (drop_step bs hm).symm)
  · rw [if_neg hc, if_neg (by omega)]
    rfl

theorem Sim_map {α β} {x : Out (α × Src)} {y : Out (α × Bytes)} (g : α → β) (h : Sim x y) :
    Sim (x.map fun p => (g p.1, p.2)) (y.map fun p => (g p.1, p.2)) := by
  cases x with
  | ok p => obtain ⟨a, s⟩ := p; obtain ⟨rfl, w⟩ := h; exact ⟨rfl, w⟩
  | err c => cases h; rfl
  | panic c => cases h; rfl

theorem take_len_zero {bs : Bytes} {m : Nat} (hm : m ≠ 0) (h : (bs.take m).length = 0) : bs = [] := by
  rw [List.length_take] at h
  exact List.length_eq_zero_iff.mp ((Nat.min_eq_zero_iff.mp h).resolve_left hm)

theorem read_nothing {k m : Nat} {sc : List Chunk} {bs : Bytes} (hwf : ScriptWF (.size k :: sc))
    (hz : (bs.take (min k (m + 1))).length = 0) : bs = [] :=
  take_len_zero (by have := scriptWF_head hwf; omega) hz

theorem readExactAux_sim (n : Nat) (bs : Bytes) (sc : List Chunk) (hwf : ScriptWF sc) :
    Sim (readExactAux n bs sc) (takeN n bs) := by
  fun_induction readExactAux n bs sc with
  | case1 bs sc => simp [Sim, takeN, Src.WF, hwf]
  | case2 n bs h => simp [Sim, takeN, h, Src.WF, ScriptWF]
  | case3 n bs h => simp [Sim, takeN, h]
  | case4 n bs sc ih => exact ih (scriptWF_tail hwf)
  | case5 n bs k sc hz =>
    obtain rfl := read_nothing hwf hz
    simp [Sim, takeN]
  | case6 n bs k sc hz ih =>
    rw [takeN_step bs (Nat.min_le_right k _)]
    exact Sim_map _ (ih (scriptWF_tail hwf))

theorem readExact_sim (n : Nat) (s : Src) (hwf : s.WF) : Sim (readExact n s) (takeN n s.bytes) :=
  readExactAux_sim n s.bytes s.script hwf

theorem readTakeAux_spec (l : Nat) (bs : Bytes) (sc : List Chunk) (hwf : ScriptWF sc) :
    (readTakeAux l bs sc).1 = bs.take l ∧ (readTakeAux l bs sc).2.bytes = bs.drop l ∧ (readTakeAux l bs sc).2.WF := by
  fun_induction readTakeAux l bs sc with
  | case1 bs sc => simp [Src.WF, hwf]
  | case2 l bs => simp [Src.WF, ScriptWF]
  | case3 l bs sc ih => exact ih (scriptWF_tail hwf)
  | case4 l bs k sc hz =>
    obtain rfl := read_nothing hwf hz
    simp [Src.WF, scriptWF_tail hwf]
  | case5 l bs k sc hz r ih =>
    obtain ⟨i1, i2, i3⟩ := ih (scriptWF_tail hwf)
    have hm : min k (l + 1) ≤ l + 1 := Nat.min_le_right ..
    dsimp only [r]
    exact ⟨(congrArg (_ ++ ·) i1).trans (take_step bs hm).symm, i2.trans (drop_step bs hm), i3⟩

theorem readToEndAux_spec (bs : Bytes) (sc : List Chunk) (hwf : ScriptWF sc) : readToEndAux bs sc = bs := by
  fun_induction readToEndAux bs sc with
  | case1 bs => rfl
  | case2 bs sc ih => exact ih (scriptWF_tail hwf)
  | case3 bs k sc hz =>
    exact (take_len_zero (scriptWF_head hwf) hz).symm
  | case4 bs k sc hz ih =>
    rw [ih (scriptWF_tail hwf), List.take_append_drop]

theorem Sim_pure {α} (a : α) (s : Src) (r : Bytes) (h : r = s.bytes) (w : s.WF) :
    Sim (pure (a, s) : Out (α × Src)) (pure (a, r)) := by
  subst h; exact ⟨rfl, w⟩

/-- `readTake` cannot fail, so the code's short-read test after it is the `takeN` test of the list-level parser -/
theorem parseHeaderC_sim (s : Src) (hwf : s.WF) : Sim (parseHeaderC s) (parseHeader s.bytes) := by
  unfold parseHeaderC parseHeader
  refine Sim_bind (readExact_sim _ s hwf) ?_
  intro intro s1 w1
  dsimp only
  refine Sim_bind_noread _ ?_
  rintro ⟨n, dl⟩
  dsimp only
  obtain ⟨t1, t2, t3⟩ := readTakeAux_spec (dl + n * INDEX_ENTRY_SIZE) s1.bytes s1.script w1
  unfold readTake
  generalize readTakeAux (dl + n * INDEX_ENTRY_SIZE) s1.bytes s1.script = r at t1 t2 t3
  obtain ⟨buf, s2⟩ := r
  dsimp only at t1 t2 t3 ⊢
  subst t1
  unfold takeN
  by_cases hl : dl + n * INDEX_ENTRY_SIZE ≤ s1.bytes.length
  · rw [if_pos hl, if_neg (by simp; omega)]
    simp only [Out.bind_ok]
    refine Sim_bind_noread _ ?_
    rintro ⟨raw, store⟩
    dsimp only
    refine Sim_bind_noread _ ?_
    intro es
    exact Sim_pure _ _ _ t2.symm t3
  · rw [if_neg hl, if_pos (by simp; omega)]
    rfl

theorem parseSignatureC_sim (s : Src) (hwf : s.WF) : Sim (parseSignatureC s) (parseSignature s.bytes) := by
  unfold parseSignatureC parseSignature
  refine Sim_bind (parseHeaderC_sim s hwf) ?_
  intro h s1 w1
  dsimp only
  refine Sim_bind (readExact_sim _ s1 w1) ?_
  intro _ s2 w2
  exact Sim_pure _ _ _ rfl w2

theorem parseMetadataC_sim (s : Src) (hwf : s.WF) : Sim (parseMetadataC s) (parseMetadata s.bytes) := by
  unfold parseMetadataC parseMetadata
  refine Sim_bind (readExact_sim _ s hwf) ?_
  intro lb s1 w1
  dsimp only
  refine Sim_bind_noread _ ?_
  intro lead
  refine Sim_bind (parseSignatureC_sim s1 w1) ?_
  intro sig s2 w2
  dsimp only
  refine Sim_bind (parseHeaderC_sim s2 w2) ?_
  intro hdr s3 w3
  exact Sim_pure _ _ _ rfl w3

theorem parseChunked_eq (bs : Bytes) (sc : List Chunk) (hwf : ScriptWF sc) : parseChunked bs sc = parsePackage bs := by
  have h : Sim (parseMetadataC ⟨bs, sc⟩) (parseMetadata bs) := parseMetadataC_sim ⟨bs, sc⟩ hwf
  unfold parseChunked parsePackage
  cases hx : parseMetadataC ⟨bs, sc⟩ with
  | ok p =>
    obtain ⟨e, w⟩ := hx ▸ h
    rw [e]
    exact congrArg (fun c => Out.ok (Package.mk p.1 c)) (readToEndAux_spec _ _ w)
  | err c => rw [show parseMetadata bs = _ from hx ▸ h]; rfl
  | panic c => rw [show parseMetadata bs = _ from hx ▸ h]; rfl

theorem takeN_short {n : Nat} {y : Bytes} (h : y.length < n) : takeN n y = .err "eof" := by
  unfold takeN; rw [if_neg (Nat.not_le_of_gt h)]

/-- cutting the input of two consecutive stages: either the first stage is cut, or it reads its bytes and the second is -/
theorem bind_trunc {α β} {p : Bytes → Out (α × Bytes)} {f : α × Bytes → Out β} {w1 w2 : Bytes} {v : α}
    (h1 : ∀ r, p (w1 ++ r) = .ok (v, r)) (t1 : ∀ k, k < w1.length → p (w1.take k) = .err "eof")
    (t2 : ∀ k, k < w2.length → f (v, w2.take k) = .err "eof") (k : Nat) (hk : k < (w1 ++ w2).length) :
    (p ((w1 ++ w2).take k) >>= f) = .err "eof" := by
  rw [List.length_append] at hk
  by_cases hc : k < w1.length
  · rw [List.take_append_of_le_length (Nat.le_of_lt hc), t1 k hc]; rfl
  · rw [List.take_append, List.take_of_length_le (Nat.le_of_not_lt hc), h1]
    exact t2 _ (by omega)

theorem takeN_trunc {n : Nat} {w : Bytes} (hw : w.length = n) (k : Nat) (hk : k < w.length) : takeN n (w.take k) = .err "eof" :=
  takeN_short (by rw [List.length_take]; omega)

theorem parseHeader_trunc {h : Header} (wf : HeaderWF h) {res : Bytes} (hr : res.length = 4) (k : Nat)
    (hk : k < (hdrBytes res h).length) : parseHeader ((hdrBytes res h).take k) = .err "eof" := by
  have hI := introBytes_length hr h.nEntries h.dataSize
  have hB := bodyBytes_length wf.nEq wf.dlEq
  have hs := hdrBytes_split res h []
  rw [List.append_nil, List.append_nil] at hs
  rw [hs] at hk ⊢
  refine bind_trunc (fun r => hI ▸ takeN_append _ r) (takeN_trunc hI) (fun k hk => ?_) k hk
  show (parseIntro _ >>= _) = _
  rw [parseIntro_write hr wf.nLt wf.dlLt]
  show (takeN _ _ >>= _) = _
  rw [takeN_trunc hB k hk]; rfl

theorem parseSignature_trunc {h : Header} (wf : HeaderWF h) {res pad : Bytes} (hr : res.length = 4)
    (hpad : pad.length = sigPad h.dataSize) (k : Nat) (hk : k < (hdrBytes res h ++ pad).length) :
    parseSignature ((hdrBytes res h ++ pad).take k) = .err "eof" := by
  refine bind_trunc (parseHeader_write wf hr) (parseHeader_trunc wf hr) (fun k hk => ?_) k hk
  show (takeN (sigPad h.dataSize) (pad.take k) >>= _) = _
  rw [takeN_trunc hpad k hk]; rfl

theorem metaBytes_len {m : Metadata} (wf : MetadataWF m) {res1 pad res2 : Bytes} (h1 : res1.length = 4)
    (hpad : pad.length = sigPad m.signature.dataSize) (h2 : res2.length = 4) :
    (metaBytes res1 pad res2 m).length = (writeMetadata m).length := by
  rw [writeMetadata_eq]
  simp only [metaBytes, List.length_append, hdrBytes_size h1 wf.sig.nEq wf.sig.dlEq, hdrBytes_size h2 wf.hdr.nEq wf.hdr.dlEq,
    hdrBytes_size (res := [0, 0, 0, 0]) rfl wf.sig.nEq wf.sig.dlEq, hdrBytes_size (res := [0, 0, 0, 0]) rfl wf.hdr.nEq wf.hdr.dlEq,
    hpad, List.length_replicate]

theorem parseMetadata_trunc {m : Metadata} (wf : MetadataWF m) {res1 pad res2 : Bytes} (h1 : res1.length = 4)
    (hpad : pad.length = sigPad m.signature.dataSize) (h2 : res2.length = 4) (k : Nat)
    (hk : k < (metaBytes res1 pad res2 m).length) :
    parseMetadata ((metaBytes res1 pad res2 m).take k) = .err "eof" := by
  have hL : (writeLead m.lead).length = LEAD_SIZE := writeLead_length wf.lead
  rw [metaBytes, List.append_assoc] at hk ⊢
  refine bind_trunc (fun r => hL ▸ takeN_append _ r) (takeN_trunc hL) (fun k hk => ?_) k hk
  show (parseLead (writeLead m.lead) >>= _) = _
  rw [parseLead_write wf.lead]
  refine bind_trunc (parseSignature_write wf.sig h1 hpad) (parseSignature_trunc wf.sig h1 hpad) (fun k hk => ?_) k hk
  show (parseHeader _ >>= _) = _
  rw [parseHeader_trunc wf.hdr h2 k hk]; rfl
end RpmVerif.Io
