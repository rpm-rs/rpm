import RpmVerif.Model.Version
/-!
Lemmas about the three splitters of `Model/Version.lean` and the two parsers built from them (all strings, any length).

Each splitter is described by where it splits a text that is given as `a ++ c :: b` (`_none`, `_append`, by induction);
what it returns (`_eq_none` / `_count_le`, `_some`) follows, since a text that holds `c` is of that form for the first, the
last or the second-to-last `c`. The parsers are then described on the two shapes a printed value can have, with and without
an epoch part, by iff lemmas whose right-hand sides are the guards of `Spec/Version.lean` clause by clause.
-/
namespace RpmVerif.Version
open RpmVerif.Vercmp

theorem splitOnce_none {c : Nat} {s : Str} (h : c ∉ s) : splitOnce c s = none := by
  induction s with
  | nil => rfl
  | cons x xs ih =>
    rw [List.mem_cons, not_or] at h
    simp [splitOnce, Ne.symm h.1, ih h.2]

theorem splitOnce_append {c : Nat} {a : Str} (b : Str) (h : c ∉ a) :
    splitOnce c (a ++ c :: b) = some (a, b) := by
  induction a with
  | nil => simp [splitOnce]
  | cons x xs ih =>
    rw [List.mem_cons, not_or] at h
    simp [splitOnce, Ne.symm h.1, ih h.2]

theorem splitOnce_eq_none {c : Nat} {s : Str} (h : splitOnce c s = none) : c ∉ s := by
  intro m
  obtain ⟨a, b, rfl, ha⟩ := List.eq_append_cons_of_mem m
  rw [splitOnce_append b ha] at h
  cases h

theorem splitOnce_some {c : Nat} {s a b : Str} (h : splitOnce c s = some (a, b)) :
    s = a ++ c :: b ∧ c ∉ a := by
  have m : c ∈ s := Decidable.by_contra fun m => by rw [splitOnce_none m] at h; cases h
  obtain ⟨a', b', rfl, ha⟩ := List.eq_append_cons_of_mem m
  rw [splitOnce_append b' ha] at h
  cases h
  exact ⟨rfl, ha⟩

theorem splitOnce_getD_iff {c : Nat} {s a b : Str} {d : Str × Str} :
    (splitOnce c s).getD d = (a, b) ↔ (s = a ++ c :: b ∧ c ∉ a) ∨ (c ∉ s ∧ (a, b) = d) := by
  cases h : splitOnce c s with
  | none =>
    have hn := splitOnce_eq_none h
    constructor
    · intro e; exact .inr ⟨hn, e.symm⟩
    · rintro (⟨rfl, _⟩ | ⟨_, e⟩)
      · exact absurd (by simp) hn
      · exact e.symm
  | some p =>
    constructor
    · rintro rfl; exact .inl (splitOnce_some h)
    · rintro (⟨rfl, hn⟩ | ⟨hn, _⟩)
      · rw [splitOnce_append _ hn] at h; exact (Option.some.inj h).symm
      · exact absurd (by rw [(splitOnce_some (a := p.1) (b := p.2) h).1]; simp) hn

theorem rsplitOnce_none {c : Nat} {s : Str} (h : c ∉ s) : rsplitOnce c s = none := by
  induction s with
  | nil => rfl
  | cons x xs ih =>
    rw [List.mem_cons, not_or] at h
    simp [rsplitOnce, Ne.symm h.1, ih h.2]

theorem rsplitOnce_append {c : Nat} (a : Str) {b : Str} (h : c ∉ b) :
    rsplitOnce c (a ++ c :: b) = some (a, b) := by
  induction a with
  | nil => simp [rsplitOnce, rsplitOnce_none h]
  | cons x xs ih => simp [rsplitOnce, ih]

theorem eq_append_cons_of_mem_last {c : Nat} {s : Str} (m : c ∈ s) : ∃ a b, s = a ++ c :: b ∧ c ∉ b := by
  obtain ⟨a, b, h, ha⟩ := List.eq_append_cons_of_mem (List.mem_reverse.mpr m)
  exact ⟨b.reverse, a.reverse, by rw [← List.reverse_reverse s, h]; simp, by simpa using ha⟩

theorem rsplitOnce_eq_none {c : Nat} {s : Str} (h : rsplitOnce c s = none) : c ∉ s := by
  intro m
  obtain ⟨a, b, rfl, hb⟩ := eq_append_cons_of_mem_last m
  rw [rsplitOnce_append a hb] at h
  cases h

theorem rsplitOnce_some {c : Nat} {s a b : Str} (h : rsplitOnce c s = some (a, b)) :
    s = a ++ c :: b ∧ c ∉ b := by
  have m : c ∈ s := Decidable.by_contra fun m => by rw [rsplitOnce_none m] at h; cases h
  obtain ⟨a', b', rfl, hb⟩ := eq_append_cons_of_mem_last m
  rw [rsplitOnce_append a' hb] at h
  cases h
  exact ⟨rfl, hb⟩

theorem rsplitOnce_getD_append_iff {c : Nat} {a b : Str} {d : Str × Str} :
    (rsplitOnce c (a ++ c :: b)).getD d = (a, b) ↔ c ∉ b := by
  constructor
  · intro h
    cases h1 : rsplitOnce c (a ++ c :: b) with
    | none => exact absurd (rsplitOnce_eq_none h1) (by simp)
    | some p =>
      rw [h1] at h
      subst h
      exact (rsplitOnce_some h1).2
  · intro h
    rw [rsplitOnce_append a h]; rfl

theorem rsplitOnce2_none {c : Nat} {s : Str} (h : s.count c ≤ 1) : rsplitOnce2 c s = none := by
  induction s with
  | nil => rfl
  | cons x xs ih =>
    have h1 : xs.count c ≤ 1 := Nat.le_trans (List.count_le_count_cons ..) h
    have h2 : ¬ (x = c ∧ c ∈ xs) := by
      rintro ⟨rfl, m⟩
      have := List.count_pos_iff.mpr m
      simp at h; omega
    simp [rsplitOnce2, ih h1, h2]

theorem rsplitOnce2_append {c : Nat} (a : Str) {b : Str} (h : b.count c = 1) :
    rsplitOnce2 c (a ++ c :: b) = some (a, b) := by
  induction a with
  | nil => simp [rsplitOnce2, rsplitOnce2_none (Nat.le_of_eq h), List.count_pos_iff.mp (Nat.lt_of_lt_of_eq Nat.zero_lt_one h.symm)]
  | cons x xs ih => simp [rsplitOnce2, ih]

theorem eq_append_cons_of_count {c : Nat} {s : Str} (h : 2 ≤ s.count c) : ∃ a b, s = a ++ c :: b ∧ b.count c = 1 := by
  induction s with
  | nil => simp at h
  | cons x xs ih =>
    by_cases h2 : 2 ≤ xs.count c
    · obtain ⟨a, b, rfl, hb⟩ := ih h2
      exact ⟨x :: a, b, rfl, hb⟩
    · rw [List.count_cons] at h
      split at h
      · next e => exact ⟨[], xs, by simp [beq_iff_eq.mp e], by omega⟩
      · omega

theorem rsplitOnce2_count_le {c : Nat} {s : Str} (h : rsplitOnce2 c s = none) : s.count c ≤ 1 := by
  refine Nat.le_of_not_lt fun h2 => ?_
  obtain ⟨a, b, rfl, hb⟩ := eq_append_cons_of_count h2
  rw [rsplitOnce2_append a hb] at h
  cases h

theorem rsplitOnce2_some {c : Nat} {s a b : Str} (h : rsplitOnce2 c s = some (a, b)) :
    s = a ++ c :: b ∧ b.count c = 1 := by
  have h2 : 2 ≤ s.count c := Nat.lt_of_not_le fun h1 => by rw [rsplitOnce2_none h1] at h; cases h
  obtain ⟨a', b', rfl, hb⟩ := eq_append_cons_of_count h2
  rw [rsplitOnce2_append a' hb] at h
  cases h
  exact ⟨rfl, hb⟩
theorem evrParse_iff {s e v r : Str} : evrParseValues s = (e, v, r) ↔
    ∃ rest, (splitOnce 58 s).getD ([], s) = (e, rest) ∧ (splitOnce 45 rest).getD (rest, []) = (v, r) := by
  have h : evrParseValues s = (((splitOnce 58 s).getD ([], s)).1,
      (splitOnce 45 ((splitOnce 58 s).getD ([], s)).2).getD (((splitOnce 58 s).getD ([], s)).2, [])) := rfl
  rw [h]
  constructor
  · intro h
    exact ⟨_, Prod.ext (Prod.mk.inj h).1 rfl, (Prod.mk.inj h).2⟩
  · rintro ⟨rest, h1, h2⟩
    rw [h1, h2]

theorem evrParse_shape {s e v r : Str} (h : evrParseValues s = (e, v, r)) : 58 ∉ e ∧ 45 ∉ v := by
  obtain ⟨rest, h1, h2⟩ := evrParse_iff.mp h
  constructor
  · rcases splitOnce_getD_iff.mp h1 with ⟨_, h⟩ | ⟨_, h⟩
    · exact h
    · rw [(Prod.mk.inj h).1]; simp
  · rcases splitOnce_getD_iff.mp h2 with ⟨_, h⟩ | ⟨h, e⟩
    · exact h
    · rw [(Prod.mk.inj e).1]; exact h

theorem evrParse_epoch {E V : Str} (X : Str) (hE : 58 ∉ E) (hV : 45 ∉ V) :
    evrParseValues (E ++ 58 :: (V ++ 45 :: X)) = (E, V, X) := by
  simp [evrParseValues, splitOnce_append _ hE, splitOnce_append _ hV]

theorem evrParse_noEpoch {V X : Str} (hV : 45 ∉ V) (h : 58 ∉ V ++ 45 :: X) :
    evrParseValues (V ++ 45 :: X) = ([], V, X) := by
  simp [evrParseValues, splitOnce_none h, splitOnce_append _ hV]

theorem evrParse_epoch_iff {E V X X' : Str} :
    evrParseValues (E ++ 58 :: (V ++ 45 :: X)) = (E, V, X') ↔ 58 ∉ E ∧ 45 ∉ V ∧ X' = X := by
  constructor
  · intro h
    have sh := evrParse_shape h
    rw [evrParse_epoch X sh.1 sh.2] at h
    exact ⟨sh.1, sh.2, (Prod.mk.inj (Prod.mk.inj h).2).2.symm⟩
  · rintro ⟨hE, hV, rfl⟩
    exact evrParse_epoch _ hE hV

/-- no ':' anywhere: a ':' would end an epoch, and a text that starts with ':' loses that character from the version -/
theorem evrParse_noEpoch_iff {V X X' : Str} :
    evrParseValues (V ++ 45 :: X) = ([], V, X') ↔ 45 ∉ V ∧ 58 ∉ V ++ 45 :: X ∧ X' = X := by
  constructor
  · intro h
    have hV := (evrParse_shape h).2
    have h58 : 58 ∉ V ++ 45 :: X := by
      obtain ⟨rest, h1, h2⟩ := evrParse_iff.mp h
      rcases splitOnce_getD_iff.mp h1 with ⟨hs, _⟩ | ⟨hn, _⟩
      · -- the text starts with ':': its first '-' then ends both `V` and `':' :: V`
        have h45 := splitOnce_append X hV
        rw [hs] at h45
        rcases splitOnce_getD_iff.mp h2 with ⟨rfl, _⟩ | ⟨hn, e⟩
        · rw [List.nil_append, ← List.cons_append, splitOnce_append _ (by simp [hV])] at h45
          simp at h45
        · rw [(Prod.mk.inj e).1, List.nil_append, splitOnce_none (by simp [hn])] at h45
          cases h45
      · exact hn
    rw [evrParse_noEpoch hV h58] at h
    exact ⟨hV, h58, (Prod.mk.inj (Prod.mk.inj h).2).2.symm⟩
  · rintro ⟨hV, h58, rfl⟩
    exact evrParse_noEpoch hV h58

/-- the name / rest split of `Nevra::parse_values` -/
def nameSplit (s : Str) : Str × Str :=
  match rsplitOnce2 45 s with
  | some p => p
  | none => (splitOnce 45 s).getD (s, [])

theorem nevraParse_iff {s N E V R A : Str} : nevraParseValues s = (N, E, V, R, A) ↔
    ∃ T X, nameSplit s = (N, T) ∧ evrParseValues T = (E, V, X) ∧ (rsplitOnce 46 X).getD (X, []) = (R, A) := by
  have e : nevraParseValues s = ((nameSplit s).1, (evrParseValues (nameSplit s).2).1, (evrParseValues (nameSplit s).2).2.1,
      (rsplitOnce 46 (evrParseValues (nameSplit s).2).2.2).getD ((evrParseValues (nameSplit s).2).2.2, [])) := by
    cases h : rsplitOnce2 45 s <;> simp only [nevraParseValues, nameSplit, evrParseValues, h]
  rw [e]
  constructor
  · intro h
    simp only [Prod.mk.injEq] at h
    exact ⟨_, _, Prod.ext h.1 rfl, Prod.ext h.2.1 (Prod.ext h.2.2.1 rfl), h.2.2.2⟩
  · rintro ⟨T, X, h1, h2, h3⟩
    rw [h1, h2, h3]

theorem nameSplit_iff {N T T' : Str} (hT : 45 ∈ T) : nameSplit (N ++ 45 :: T) = (N, T') ↔ T.count 45 = 1 ∧ T' = T := by
  unfold nameSplit
  constructor
  · intro h
    cases h1 : rsplitOnce2 45 (N ++ 45 :: T) with
    | none =>
      have := rsplitOnce2_count_le h1
      have h2 : 0 < T.count 45 := List.count_pos_iff.mpr hT
      simp [List.count_append] at this
      omega
    | some p =>
      rw [h1] at h
      subst h
      obtain ⟨hs, hc⟩ := rsplitOnce2_some h1
      obtain rfl : T = T' := by simpa using List.append_cancel_left hs
      exact ⟨hc, rfl⟩
  · rintro ⟨hc, rfl⟩
    rw [rsplitOnce2_append N hc]

theorem count_dash {P R A : Str} : (P ++ 45 :: (R ++ 46 :: A)).count 45 = 1 ↔ 45 ∉ P ∧ 45 ∉ R ∧ 45 ∉ A := by
  simp only [List.count_append, List.count_cons_self, List.count_cons_of_ne (show (46 : Nat) ≠ 45 by decide),
    ← List.count_eq_zero]
  omega

theorem nevraParse_epoch_iff {N E V R A : Str} :
    nevraParseValues (N ++ 45 :: (E ++ 58 :: (V ++ 45 :: (R ++ 46 :: A)))) = (N, E, V, R, A) ↔
      45 ∉ E ∧ 58 ∉ E ∧ 45 ∉ V ∧ 45 ∉ R ∧ 45 ∉ A ∧ 46 ∉ A := by
  have e : E ++ 58 :: (V ++ 45 :: (R ++ 46 :: A)) = (E ++ 58 :: V) ++ 45 :: (R ++ 46 :: A) := by simp
  have hc := count_dash (P := E ++ 58 :: V) (R := R) (A := A)
  simp only [List.mem_append, List.mem_cons, not_or, show (45 : Nat) ≠ 58 by decide, not_false_eq_true, true_and] at hc
  rw [nevraParse_iff]
  constructor
  · rintro ⟨T, X, h1, h2, h3⟩
    obtain ⟨hn, rfl⟩ := (nameSplit_iff (by simp)).mp h1
    obtain ⟨c0, d1, rfl⟩ := evrParse_epoch_iff.mp h2
    obtain ⟨⟨d0, _⟩, d2, d3⟩ := hc.mp (e ▸ hn)
    exact ⟨d0, c0, d1, d2, d3, rsplitOnce_getD_append_iff.mp h3⟩
  · rintro ⟨d0, c0, d1, d2, d3, d4⟩
    exact ⟨_, _, (nameSplit_iff (by simp)).mpr ⟨e ▸ hc.mpr ⟨⟨d0, d1⟩, d2, d3⟩, rfl⟩, evrParse_epoch _ c0 d1,
      rsplitOnce_getD_append_iff.mpr d4⟩

theorem nevraParse_noEpoch_iff {N V R A : Str} :
    nevraParseValues (N ++ 45 :: (V ++ 45 :: (R ++ 46 :: A))) = (N, [], V, R, A) ↔
      45 ∉ V ∧ 45 ∉ R ∧ 45 ∉ A ∧ 46 ∉ A ∧ 58 ∉ V ∧ 58 ∉ R ∧ 58 ∉ A := by
  have hm : 58 ∉ V ++ 45 :: (R ++ 46 :: A) ↔ 58 ∉ V ∧ 58 ∉ R ∧ 58 ∉ A := by simp
  rw [nevraParse_iff]
  constructor
  · rintro ⟨T, X, h1, h2, h3⟩
    obtain ⟨hn, rfl⟩ := (nameSplit_iff (by simp)).mp h1
    obtain ⟨d1, c, rfl⟩ := evrParse_noEpoch_iff.mp h2
    obtain ⟨_, d2, d3⟩ := count_dash.mp hn
    exact ⟨d1, d2, d3, rsplitOnce_getD_append_iff.mp h3, hm.mp c⟩
  · rintro ⟨d1, d2, d3, d4, c⟩
    exact ⟨_, _, (nameSplit_iff (by simp)).mpr ⟨count_dash.mpr ⟨d1, d2, d3⟩, rfl⟩, evrParse_noEpoch d1 (hm.mpr c),
      rsplitOnce_getD_append_iff.mpr d4⟩

theorem evr_parse_iff {s E V R : Str} : Evr.parse s = ⟨E, V, R⟩ ↔ evrParseValues s = (E, V, R) := by
  simp only [Evr.parse, Evr.mk.injEq, Prod.ext_iff]

theorem nevra_parse_iff {s N E V R A : Str} :
    Nevra.parse s = ⟨N, ⟨E, V, R⟩, A⟩ ↔ nevraParseValues s = (N, E, V, R, A) := by
  simp only [Nevra.parse, Nevra.mk.injEq, Evr.mk.injEq, Prod.ext_iff, and_assoc]

end RpmVerif.Version
