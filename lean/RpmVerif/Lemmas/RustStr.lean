import RpmVerif.Lemmas.FromEntries
/-!
# Valid UTF-8 (a Rust `String`) is stored faithfully: `RustStr s → StrOk s`, closed under concatenation

`StrOk` (Lemmas/FromEntries.lean) asks `Utf8.lossy s = s`, which is awkward as a hypothesis about ARGUMENTS: the builder makes
new strings out of them (`"user(" ++ u ++ ")"`, `name(arch)`, the directory of a destination). `Utf8.Valid` is the invariant
every Rust `&str` / `String` has by its type — a sequence of scalar encodings —, and is what the input-level theorem
`C06.valid_of_inputs` assumes (plus "no NUL").
-/
namespace RpmVerif.Utf8

/-- second byte of a three-byte sequence, as `step` tests it -/
def ok3 (b0 b1 : UInt8) : Bool :=
  if b0 == 0xE0 then 0xA0 ≤ b1 && b1 ≤ 0xBF else if b0 == 0xED then 0x80 ≤ b1 && b1 ≤ 0x9F else isCont b1
def ok4 (b0 b1 : UInt8) : Bool :=
  if b0 == 0xF0 then 0x90 ≤ b1 && b1 ≤ 0xBF else if b0 == 0xF4 then 0x80 ≤ b1 && b1 ≤ 0x8F else isCont b1

/-- the UTF-8 encoding of one scalar value (what a Rust `char` is stored as): the well-formed byte sequences of
RFC 3629 / Unicode table 3-7 -/
def Scalar : Bytes → Prop
  | [b0] => b0 < 0x80
  | [b0, b1] => (0xC2 ≤ b0 && b0 ≤ 0xDF) = true ∧ isCont b1 = true
  | [b0, b1, b2] => (0xE0 ≤ b0 && b0 ≤ 0xEF) = true ∧ ok3 b0 b1 = true ∧ isCont b2 = true
  | [b0, b1, b2, b3] => (0xF0 ≤ b0 && b0 ≤ 0xF4) = true ∧ ok4 b0 b1 = true ∧ isCont b2 = true ∧ isCont b3 = true
  | _ => False

theorem lead2 (b0 : UInt8) (h : (0xC2 ≤ b0 && b0 ≤ 0xDF) = true) : ¬ b0 < 0x80 := by
  simp only [Bool.and_eq_true, decide_eq_true_eq, UInt8.le_iff_toNat_le, UInt8.lt_iff_toNat_lt] at h ⊢
  simp only [UInt8.reduceToNat] at h ⊢; omega
theorem lead3 (b0 : UInt8) (h : (0xE0 ≤ b0 && b0 ≤ 0xEF) = true) : ¬ b0 < 0x80 ∧ (0xC2 ≤ b0 && b0 ≤ 0xDF) = false := by
  simp only [Bool.and_eq_true, Bool.and_eq_false_iff, decide_eq_true_eq, decide_eq_false_iff_not, UInt8.le_iff_toNat_le, UInt8.lt_iff_toNat_lt] at h ⊢
  simp only [UInt8.reduceToNat] at h ⊢; omega
theorem lead4 (b0 : UInt8) (h : (0xF0 ≤ b0 && b0 ≤ 0xF4) = true) :
    ¬ b0 < 0x80 ∧ (0xC2 ≤ b0 && b0 ≤ 0xDF) = false ∧ (0xE0 ≤ b0 && b0 ≤ 0xEF) = false := by
  simp only [Bool.and_eq_true, Bool.and_eq_false_iff, decide_eq_true_eq, decide_eq_false_iff_not, UInt8.le_iff_toNat_le, UInt8.lt_iff_toNat_lt] at h ⊢
  simp only [UInt8.reduceToNat] at h ⊢; omega

theorem step_scalar {c : Bytes} (h : Scalar c) (r : Bytes) : step (c ++ r) = (c.length, true) := by
  match c, h with
  | [b0], h => exact if_pos h
  | [b0, b1], ⟨h0, h1⟩ =>
    show (if _ then _ else _) = _
    rw [if_neg (lead2 b0 h0), if_pos h0]
    exact if_pos h1
  | [b0, b1, b2], ⟨h0, h1, h2⟩ =>
    obtain ⟨n1, n2⟩ := lead3 b0 h0
    show (if _ then _ else _) = _
    rw [if_neg n1, if_neg (ne_true_of_eq_false n2), if_pos h0]
    show (if (!ok3 b0 b1) = true then _ else _) = _
    rw [h1]
    exact if_pos h2
  | [b0, b1, b2, b3], ⟨h0, h1, h2, h3⟩ =>
    obtain ⟨n1, n2, n3⟩ := lead4 b0 h0
    show (if _ then _ else _) = _
    rw [if_neg n1, if_neg (ne_true_of_eq_false n2), if_neg (ne_true_of_eq_false n3), if_pos h0]
    show (if (!ok4 b0 b1) = true then _ else _) = _
    rw [h1]
    show (if (!isCont b2) = true then _ else _) = _
    rw [h2]
    exact if_pos h3

theorem scalar_length_pos {c : Bytes} (h : Scalar c) : 0 < c.length := by
  cases c with
  | nil => exact h.elim
  | cons _ _ => exact Nat.succ_pos _

/-- valid UTF-8: a sequence of scalar encodings (the invariant of a Rust `String` / `str`) -/
inductive Valid : Bytes → Prop
  | nil : Valid []
  | cons {c r : Bytes} : Scalar c → Valid r → Valid (c ++ r)

theorem Valid.append {a b : Bytes} (ha : Valid a) (hb : Valid b) : Valid (a ++ b) := by
  induction ha with
  | nil => exact hb
  | cons hc _ ih => rw [List.append_assoc]; exact .cons hc ih

theorem valid_ascii (s : Bytes) (h : ∀ b ∈ s, b < 0x80) : Valid s := by
  induction s with
  | nil => exact .nil
  | cons b r ih =>
    obtain ⟨hb, hr⟩ := List.forall_mem_cons.mp h
    exact Valid.cons (c := [b]) hb (ih hr)

theorem lossyAux_valid {s : Bytes} (h : Valid s) : ∀ fuel acc, s.length ≤ fuel → lossyAux fuel s acc = acc.reverse ++ s := by
  induction h with
  | nil => intro fuel acc _; cases fuel <;> simp [lossyAux]
  | @cons c r hc _ ih =>
    intro fuel acc hf
    have hpos := scalar_length_pos hc
    cases fuel with
    | zero => simp only [List.length_append] at hf; omega
    | succ f =>
      cases hcr : c ++ r with
      | nil => have := congrArg List.length hcr; simp only [List.length_append, List.length_nil] at this; omega
      | cons b t =>
        have hst := step_scalar hc r
        rw [hcr] at hst
        simp only [lossyAux, hst]
        have hne : c.length ≠ 0 := by omega
        simp only [hne, if_false, if_true]
        rw [← hcr, List.drop_left, List.take_left]
        rw [ih f (c.reverse ++ acc) (by simp only [List.length_append] at hf; omega)]
        simp [List.reverse_append]

/-- **valid UTF-8 is a fixed point of `from_utf8_lossy`** -/
theorem lossy_valid {s : Bytes} (h : Valid s) : lossy s = s := by
  have := lossyAux_valid h s.length [] (Nat.le_refl _)
  simpa [lossy] using this

end RpmVerif.Utf8

namespace RpmVerif.Hdr
/-- a Rust `String` without NUL: what the builder's `&str` / `String` arguments are, apart from the NUL -/
def RustStr (s : Bytes) : Prop := (0 : UInt8) ∉ s ∧ Utf8.Valid s

theorem RustStr.strOk {s : Bytes} (h : RustStr s) : StrOk s := ⟨h.1, Utf8.lossy_valid h.2⟩

theorem RustStr.append {a b : Bytes} (ha : RustStr a) (hb : RustStr b) : RustStr (a ++ b) :=
  ⟨fun m => by rcases List.mem_append.mp m with m | m; exact ha.1 m; exact hb.1 m, ha.2.append hb.2⟩

theorem rustStr_ascii (s : Bytes) (h : ∀ b ∈ s, b < 0x80 ∧ b ≠ 0) : RustStr s :=
  ⟨fun m => (h 0 m).2 rfl, Utf8.valid_ascii s (fun b m => (h b m).1)⟩

theorem rustStr_nil : RustStr [] := ⟨by simp, .nil⟩
end RpmVerif.Hdr
