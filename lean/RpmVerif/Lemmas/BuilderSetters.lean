import RpmVerif.Model.Builder
/-!
# The builder state as a function of the setter calls (audit item a6): `Cfg.applyAll`

`frame` / `last_wins` are the two generic facts (a field no later call writes keeps its value); the per-family statements
(`Option<String>` setters, scriptlets, dependency lists, changelog, the plain assignments) are what `Props/C06.lean` registers.
-/
namespace RpmVerif.Bld
open RpmVerif.Hdr RpmVerif.Gen

theorem applyAll_append (c : Cfg) (a b : List MetaSetter) : c.applyAll (a ++ b) = (c.applyAll a).applyAll b := by
  simp [Cfg.applyAll, List.foldl_append]

theorem applyAll_cons (c : Cfg) (s : MetaSetter) (r : List MetaSetter) : c.applyAll (s :: r) = (MetaSetter.apply c s).applyAll r := rfl

theorem frame {β} (π : Cfg → β) (post : List MetaSetter) (h : ∀ t ∈ post, ∀ c, π (MetaSetter.apply c t) = π c) (c : Cfg) :
    π (c.applyAll post) = π c := by
  induction post generalizing c with
  | nil => rfl
  | cons t r ih =>
    rw [applyAll_cons, ih (fun u hu => h u (List.mem_cons_of_mem _ hu)), h t (List.mem_cons_self ..)]

theorem last_wins {β} (π : Cfg → β) (pre post : List MetaSetter) (s : MetaSetter)
    (h : ∀ t ∈ post, ∀ c, π (MetaSetter.apply c t) = π c) (c : Cfg) :
    π (c.applyAll (pre ++ s :: post)) = π (MetaSetter.apply (c.applyAll pre) s) := by
  rw [applyAll_append, applyAll_cons, frame π post h]

def optStrSetters : List ((Bytes → MetaSetter) × (Cfg → Option Bytes)) :=
  [(.url, (·.url)), (.vcs, (·.vcs)), (.description, (·.desc)), (.vendor, (·.vendor)), (.packager, (·.packager)),
   (.group, (·.group)), (.buildHost, (·.buildHost)), (.cookie, (·.cookie))]

/-- the eight `Option<String>` fields of a state, in the order of `optStrSetters` -/
def optStrs (c : Cfg) : List (Option Bytes) := [c.url, c.vcs, c.desc, c.vendor, c.packager, c.group, c.buildHost, c.cookie]

theorem optStrs_getElem? {k : Nat} {p : (Bytes → MetaSetter) × (Cfg → Option Bytes)} (hk : optStrSetters[k]? = some p) (c : Cfg) :
    (optStrs c)[k]? = some (p.2 c) := by
  rw [show optStrs c = optStrSetters.map (·.2 c) from rfl, List.getElem?_map, hk]; rfl

/-- each `Option<String>` setter writes its own position; every other setter leaves the eight fields alone -/
theorem optStrs_apply (c : Cfg) (t : MetaSetter) :
    optStrs (MetaSetter.apply c t) = match t with
      | .url s => (optStrs c).set 0 (some s) | .vcs s => (optStrs c).set 1 (some s) | .description s => (optStrs c).set 2 (some s)
      | .vendor s => (optStrs c).set 3 (some s) | .packager s => (optStrs c).set 4 (some s) | .group s => (optStrs c).set 5 (some s)
      | .buildHost s => (optStrs c).set 6 (some s) | .cookie s => (optStrs c).set 7 (some s) | _ => optStrs c := by
  fun_cases MetaSetter.apply c t <;> rfl

theorem opt_setter_untouched : ∀ p ∈ optStrSetters, ∀ (t : MetaSetter), (∀ y, t ≠ p.1 y) → ∀ c, p.2 (MetaSetter.apply c t) = p.2 c := by
  intro p hp t ht c
  obtain ⟨k, hk⟩ := List.getElem?_of_mem hp
  apply Option.some.inj
  rw [← optStrs_getElem? hk, ← optStrs_getElem? hk, optStrs_apply]
  split <;> first | rfl | exact List.getElem?_set_ne (fun e => by subst e; cases hk; exact ht _ rfl)

theorem opt_setter_last_wins : ∀ p ∈ optStrSetters, ∀ (c : Cfg) (pre post : List MetaSetter) (x : Bytes),
    (∀ t ∈ post, ∀ y, t ≠ p.1 y) → p.2 (c.applyAll (pre ++ p.1 x :: post)) = some x := by
  intro p hp c pre post x h
  rw [last_wins p.2 pre post (p.1 x) (fun t ht c => opt_setter_untouched p hp t (h t ht) c)]
  simp only [optStrSetters, List.mem_cons, List.not_mem_nil, or_false] at hp
  rcases hp with rfl | rfl | rfl | rfl | rfl | rfl | rfl | rfl <;> rfl

theorem opt_setter_never : ∀ p ∈ optStrSetters, ∀ (c : Cfg) (ss : List MetaSetter),
    (∀ t ∈ ss, ∀ y, t ≠ p.1 y) → p.2 (c.applyAll ss) = p.2 c :=
  fun p hp c ss h => frame p.2 ss (fun t ht c => opt_setter_untouched p hp t (h t ht) c) c

/-- the nine scriptlet fields in the order of the setters (`Bld.scriptSetterNames`) -/
def scriptFields : List (Cfg → Option Scriptlet) :=
  [(·.preIn), (·.postIn), (·.preUn), (·.postUn), (·.preTrans), (·.postTrans), (·.preUntrans), (·.postUntrans), (·.verify)]

/-- the nine scriptlet fields of a state, in the order of `scriptFields` -/
def scripts (c : Cfg) : List (Option Scriptlet) :=
  [c.preIn, c.postIn, c.preUn, c.postUn, c.preTrans, c.postTrans, c.preUntrans, c.postUntrans, c.verify]

theorem scripts_getElem? {k : Nat} {π : Cfg → Option Scriptlet} (hk : scriptFields[k]? = some π) (c : Cfg) :
    (scripts c)[k]? = some (π c) := by
  rw [show scripts c = scriptFields.map (· c) from rfl, List.getElem?_map, hk]; rfl

/-- a scriptlet setter writes its own position; an index past the nine and every other setter leave the nine fields alone -/
theorem scripts_apply (c : Cfg) (t : MetaSetter) :
    scripts (MetaSetter.apply c t) = match t with | .script j s => (scripts c).set j (some s) | _ => scripts c := by
  fun_cases MetaSetter.apply c t <;> first | rfl | skip
  -- left: the equation for an index past the nine, which comes with `j ≠ 0`, …, `j ≠ 8`
  next j _ _ _ _ _ _ _ _ _ _ => rcases j with _|_|_|_|_|_|_|_|_|j <;> first | contradiction | rfl

theorem script_untouched {k : Nat} {π : Cfg → Option Scriptlet} (hk : scriptFields[k]? = some π) (t : MetaSetter)
    (ht : ∀ s', t ≠ .script k s') (c : Cfg) : π (MetaSetter.apply c t) = π c := by
  apply Option.some.inj
  rw [← scripts_getElem? hk, ← scripts_getElem? hk, scripts_apply]
  split
  next j s => exact List.getElem?_set_ne (fun e => ht s (by rw [e]))
  next => rfl

theorem script_setter_last_wins {k : Nat} {π : Cfg → Option Scriptlet} (hk : scriptFields[k]? = some π) (c : Cfg)
    (pre post : List MetaSetter) (s : Scriptlet) (h : ∀ t ∈ post, ∀ s', t ≠ .script k s') :
    π (c.applyAll (pre ++ .script k s :: post)) = some s := by
  rw [last_wins π pre post (.script k s) (fun t ht c => script_untouched hk t (h t ht) c)]
  apply Option.some.inj
  rw [← scripts_getElem? hk, scripts_apply]
  exact List.getElem?_set_self (List.getElem?_eq_some_iff.mp (scripts_getElem? hk _)).1

/-- the eight dependency lists in the order of the setters (`Bld.depSetterNames`) -/
def depFields : List (Cfg → List Dep) :=
  [(·.provides), (·.requires), (·.conflicts), (·.obsoletes), (·.recommends), (·.suggests), (·.enhances), (·.supplements)]

def depCalls (k : Nat) (ss : List MetaSetter) : List Dep :=
  ss.filterMap fun | .dep j d => if j = k then some d else none | _ => none

/-- the eight dependency lists of a state, in the order of `depFields` -/
def deps (c : Cfg) : List (List Dep) :=
  [c.provides, c.requires, c.conflicts, c.obsoletes, c.recommends, c.suggests, c.enhances, c.supplements]

theorem deps_getElem? {k : Nat} {π : Cfg → List Dep} (hk : depFields[k]? = some π) (c : Cfg) : (deps c)[k]? = some (π c) := by
  rw [show deps c = depFields.map (· c) from rfl, List.getElem?_map, hk]; rfl

/-- a dependency setter pushes onto its own list; an index past the eight and every other setter leave the eight lists alone -/
theorem deps_apply (c : Cfg) (t : MetaSetter) :
    deps (MetaSetter.apply c t) = match t with | .dep j d => (deps c).modify j (· ++ [d]) | _ => deps c := by
  fun_cases MetaSetter.apply c t <;> first | rfl | skip
  next j _ _ _ _ _ _ _ _ _ =>
    rcases j with _|_|_|_|_|_|_|_|j <;> first | contradiction | exact (List.modify_eq_self (Nat.le_add_left 8 j)).symm

theorem depCalls_dep (k j : Nat) (d : Dep) : depCalls k [.dep j d] = if j = k then [d] else [] := by
  by_cases e : j = k <;> simp only [depCalls, List.filterMap_cons, List.filterMap_nil, e, if_true, if_false]

theorem dep_apply {k : Nat} {π : Cfg → List Dep} (hk : depFields[k]? = some π) (t : MetaSetter) (c : Cfg) :
    π (MetaSetter.apply c t) = π c ++ depCalls k [t] := by
  apply Option.some.inj
  rw [← deps_getElem? hk, deps_apply]
  split
  next j d =>
    rw [List.getElem?_modify, deps_getElem? hk, depCalls_dep]
    split <;> simp only [Option.map_eq_map, Option.map_some, List.append_nil]
  next h =>
    have hn : depCalls k [t] = [] := by cases t <;> first | rfl | exact absurd rfl (h _ _)
    rw [hn, List.append_nil, deps_getElem? hk]

theorem depCalls_cons (k : Nat) (t : MetaSetter) (r : List MetaSetter) : depCalls k (t :: r) = depCalls k [t] ++ depCalls k r := by
  show List.filterMap _ ([t] ++ r) = _
  rw [List.filterMap_append]; rfl

theorem dep_setters_accumulate {k : Nat} {π : Cfg → List Dep} (hk : depFields[k]? = some π) (c : Cfg) (ss : List MetaSetter) :
    π (c.applyAll ss) = π c ++ depCalls k ss := by
  induction ss generalizing c with
  | nil => simp [Cfg.applyAll, depCalls]
  | cons t r ih => rw [applyAll_cons, ih, dep_apply hk, depCalls_cons k t r, List.append_assoc]

theorem changelog_accumulates (c : Cfg) (ss : List MetaSetter) :
    (c.applyAll ss).changelog = c.changelog ++ ss.filterMap (fun | .changelog n e t => some (n, e, t) | _ => none) := by
  induction ss generalizing c with
  | nil => simp [Cfg.applyAll]
  | cons t r ih =>
    rw [applyAll_cons, ih]
    fun_cases MetaSetter.apply c t <;> first
      | rfl
      | simp only [List.filterMap_cons, List.append_assoc, List.singleton_append]

theorem plain_setters_last_wins (c : Cfg) (pre post : List MetaSetter) :
    (∀ n, (∀ t ∈ post, ∀ m, t ≠ .epoch m) → (c.applyAll (pre ++ .epoch n :: post)).epoch = n) ∧
    (∀ x, (∀ t ∈ post, ∀ y, t ≠ .release y) → (c.applyAll (pre ++ .release x :: post)).release = x) ∧
    (∀ n, (∀ t ∈ post, ∀ m, t ≠ .sourceDate m) → (c.applyAll (pre ++ .sourceDate n :: post)).sourceDate = some n) ∧
    (∀ k, (∀ t ∈ post, ∀ m, t ≠ .compression m) → (c.applyAll (pre ++ .compression k :: post)).compression = k) := by
  have key {β γ} (π : Cfg → β) (mk : γ → MetaSetter) (v : γ) (hu : ∀ t, (∀ y, t ≠ mk y) → ∀ c, π (MetaSetter.apply c t) = π c)
      (h : ∀ t ∈ post, ∀ y, t ≠ mk y) : π (c.applyAll (pre ++ mk v :: post)) = π (MetaSetter.apply (c.applyAll pre) (mk v)) :=
    last_wins π pre post _ (fun t ht c => hu t (h t ht) c) c
  refine ⟨fun n => key (·.epoch) .epoch n ?_, fun x => key (·.release) .release x ?_,
    fun n => key (·.sourceDate) .sourceDate n ?_, fun k => key (·.compression) .compression k ?_⟩
  all_goals
    intro t ht c
    fun_cases MetaSetter.apply c t <;> first | rfl | exact absurd rfl (ht _)

theorem new_args_kept (c : Cfg) (ss : List MetaSetter) :
    (c.applyAll ss).name = c.name ∧ (c.applyAll ss).version = c.version ∧ (c.applyAll ss).license = c.license ∧
    (c.applyAll ss).arch = c.arch ∧ (c.applyAll ss).summary = c.summary ∧ (c.applyAll ss).files = c.files ∧
    (c.applyAll ss).directories = c.directories ∧ (c.applyAll ss).largeFileThreshold = c.largeFileThreshold := by
  have h := frame (fun c => (c.name, c.version, c.license, c.arch, c.summary, c.files, c.directories, c.largeFileThreshold)) ss
    (fun t _ c => by fun_cases MetaSetter.apply c t <;> rfl) c
  simp only [Prod.mk.injEq] at h
  exact h

end RpmVerif.Bld
