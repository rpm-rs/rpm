import RpmVerif.Model.FileMode
/-!
# Helper lemmas for C18 (bit-level facts about 16-bit words and the shape of `fromU16`)
-/
namespace RpmVerif.FileMode
open RpmVerif.Gen

/-- the generated constants, as the literals of the property text -/
theorem consts : fileTypeBitMask = 0o170000 ∧ permissionsBitMask = 0o7777 ∧ dirFileType = 0o040000
    ∧ regularFileType = 0o100000 ∧ symbolicLinkFileType = 0o120000 := by decide

theorem split_word (w : Nat) (h : w < 65536) : (w &&& 0o170000) ||| (w &&& 0o7777) = w := by
  rw [← Nat.and_or_distrib_left]
  have : (0o170000 ||| 0o7777 : Nat) = 2 ^ 16 - 1 := by decide
  rw [this, Nat.and_two_pow_sub_one_eq_mod]; omega

theorem split_word' (w : Nat) (h : w < 65536) : (w &&& 0o7777) ||| (w &&& 0o170000) = w := by
  rw [Nat.or_comm]; exact split_word w h

/-- `w as i32 as u16 = w` for a 16-bit word -/
theorem asU16_ofNat (w : Nat) (h : w < 65536) : asU16 (w : Int) = w := by
  unfold asU16; omega

theorem asU16_lt (n : Int) : asU16 n < 65536 := by
  unfold asU16; omega

theorem asU16_eq_toNat {r : Int} (h0 : 0 ≤ r) (h1 : r ≤ 65535) : asU16 r = r.toNat := by
  have := asU16_ofNat r.toNat (by omega)
  rwa [Int.toNat_of_nonneg h0] at this

theorem asU16_eq_self_iff (r : Int) : (asU16 r : Int) = r ↔ 0 ≤ r ∧ r ≤ 65535 := by
  have := asU16_lt r
  exact ⟨fun h => by omega, fun h => by rw [asU16_eq_toNat h.1 h.2]; omega⟩

theorem perm_and_type (p : Nat) : (p &&& 0o7777) &&& 0o170000 = 0 := by
  rw [Nat.and_assoc]
  have : (0o7777 &&& 0o170000 : Nat) = 0 := by decide
  rw [this, Nat.and_zero]

theorem and_mask_lt (p : Nat) : p &&& 0o7777 < 4096 :=
  Nat.lt_of_le_of_lt Nat.and_le_right (by decide)

theorem or_type_parts (p t : Nat) (hp : p < 4096) (a : t &&& 0o170000 = t) (b : t &&& 0o7777 = 0) :
    (p ||| t) &&& 0o170000 = t ∧ (p ||| t) &&& 0o7777 = p := by
  have hp' : p &&& 0o7777 = p := by
    have : (0o7777 : Nat) = 2 ^ 12 - 1 := by decide
    rw [this, Nat.and_two_pow_sub_one_eq_mod]; omega
  have h1 := perm_and_type p
  rw [hp'] at h1
  rw [Nat.and_or_distrib_right, Nat.and_or_distrib_right, h1, hp', a, b, Nat.zero_or, Nat.or_zero]
  exact ⟨rfl, rfl⟩

theorem fromU16_dir {w : Nat} (h : w &&& 0o170000 = 0o040000) : fromU16 w = .dir (w &&& 0o7777) :=
  if_pos h

theorem fromU16_regular {w : Nat} (h : w &&& 0o170000 = 0o100000) : fromU16 w = .regular (w &&& 0o7777) :=
  (if_neg fun e => absurd (e.symm.trans h) (by decide)).trans (if_pos h)

theorem fromU16_symlink {w : Nat} (h : w &&& 0o170000 = 0o120000) : fromU16 w = .symlink (w &&& 0o7777) :=
  (if_neg fun e => absurd (e.symm.trans h) (by decide)).trans
    ((if_neg fun e => absurd (e.symm.trans h) (by decide)).trans (if_pos h))

theorem fromU16_invalid {w : Nat} (h1 : w &&& 0o170000 ≠ 0o040000) (h2 : w &&& 0o170000 ≠ 0o100000)
    (h3 : w &&& 0o170000 ≠ 0o120000) : fromU16 w = .invalid (w : Int) :=
  (if_neg h1).trans ((if_neg h2).trans (if_neg h3))

/-- the four branches of `From<u16>` -/
theorem fromU16_cases (w : Nat) :
    (w &&& 0o170000 = 0o040000 ∧ fromU16 w = .dir (w &&& 0o7777)) ∨
    (w &&& 0o170000 = 0o100000 ∧ fromU16 w = .regular (w &&& 0o7777)) ∨
    (w &&& 0o170000 = 0o120000 ∧ fromU16 w = .symlink (w &&& 0o7777)) ∨
    (w &&& 0o170000 ≠ 0o040000 ∧ w &&& 0o170000 ≠ 0o100000 ∧ w &&& 0o170000 ≠ 0o120000
      ∧ fromU16 w = .invalid (w : Int)) := by
  by_cases h1 : w &&& 0o170000 = 0o040000
  · exact .inl ⟨h1, fromU16_dir h1⟩
  by_cases h2 : w &&& 0o170000 = 0o100000
  · exact .inr (.inl ⟨h2, fromU16_regular h2⟩)
  by_cases h3 : w &&& 0o170000 = 0o120000
  · exact .inr (.inr (.inl ⟨h3, fromU16_symlink h3⟩))
  · exact .inr (.inr (.inr ⟨h1, h2, h3, fromU16_invalid h1 h2 h3⟩))

theorem fromU16_eq_invalid {w : Nat} {r : Int} : fromU16 w = .invalid r ↔
    (w : Int) = r ∧ w &&& 0o170000 ≠ 0o040000 ∧ w &&& 0o170000 ≠ 0o100000 ∧ w &&& 0o170000 ≠ 0o120000 := by
  rcases fromU16_cases w with ⟨h, e⟩ | ⟨h, e⟩ | ⟨h, e⟩ | ⟨h1, h2, h3, e⟩ <;> rw [e]
  · exact iff_of_false nofun fun c => c.2.1 h
  · exact iff_of_false nofun fun c => c.2.2.1 h
  · exact iff_of_false nofun fun c => c.2.2.2 h
  · exact ⟨fun c => ⟨FileMode.invalid.inj c, h1, h2, h3⟩, fun c => congrArg _ c.1⟩

theorem fromU16_or (p : Nat) (hp : p < 4096) :
    fromU16 (p ||| 0o040000) = .dir p ∧ fromU16 (p ||| 0o100000) = .regular p ∧
      fromU16 (p ||| 0o120000) = .symlink p := by
  obtain ⟨a1, b1⟩ := or_type_parts p 0o040000 hp (by decide) (by decide)
  obtain ⟨a2, b2⟩ := or_type_parts p 0o100000 hp (by decide) (by decide)
  obtain ⟨a3, b3⟩ := or_type_parts p 0o120000 hp (by decide) (by decide)
  exact ⟨by rw [fromU16_dir a1, b1], by rw [fromU16_regular a2, b2], by rw [fromU16_symlink a3, b3]⟩

/-- `raw_mode()` of a converted 16-bit word is the word -/
theorem rawMode_fromU16 (w : Nat) (h : w < 65536) : rawMode (fromU16 w) = w := by
  have hs := split_word' w h
  rcases fromU16_cases w with ⟨h1, e⟩ | ⟨h1, e⟩ | ⟨h1, e⟩ | ⟨_, _, _, e⟩ <;> rw [e]
  · exact (congrArg (w &&& 0o7777 ||| ·) h1.symm).trans hs
  · exact (congrArg (w &&& 0o7777 ||| ·) h1.symm).trans hs
  · exact (congrArg (w &&& 0o7777 ||| ·) h1.symm).trans hs
  · exact asU16_ofNat w h

end RpmVerif.FileMode
