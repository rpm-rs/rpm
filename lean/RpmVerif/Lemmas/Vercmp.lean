import RpmVerif.Spec.Vercmp
/-!
C13: both loops equal the lexicographic comparison of token keys.

`rank a` is the rank of the first token of `key a`. Where the ranks of two strings differ they decide `keyCmp`
(`keyCmp_lt`, `keyCmp_gt`); where they agree `keyCmp` has one equation per rank (`keyCmp_nil`, `_tilde`, `_caret`,
`_digit`, `_alpha`). Every return site of `rustLoop` and of `cLoop` is an instance of one of these seven facts.

The last section is about `core::cmp`'s provided operators, `max` and `min` over a `partial_cmp` that is never `None`.
-/
namespace RpmVerif.Vercmp
open Std

theorem ne_of_stripPfx {c x : Nat} {l r : List Nat} (h : l = x :: r) (hn : stripPfx c l = none) : x ≠ c := by
  rintro rfl
  simp [h, stripPfx] at hn

theorem isDigit_iff {x : Nat} : isDigit x = true ↔ 48 ≤ x ∧ x ≤ 57 := by
  simp [isDigit]

theorem isAlpha_iff {x : Nat} : isAlpha x = true ↔ 65 ≤ x ∧ x ≤ 90 ∨ 97 ≤ x ∧ x ≤ 122 := by
  simp [isAlpha]

theorem digit_ne {x} (h : isDigit x = true) : x ≠ 126 ∧ x ≠ 94 := by
  rw [isDigit_iff] at h; omega

theorem alpha_ne {x} (h : isAlpha x = true) : x ≠ 126 ∧ x ≠ 94 ∧ isDigit x = false := by
  rw [isAlpha_iff] at h
  refine ⟨by omega, by omega, Bool.eq_false_iff.mpr fun hd => ?_⟩
  rw [isDigit_iff] at hd; omega

theorem head_cases {a : List Nat} {x r} (h : a.dropWhile isSep = x :: r) :
    ((isDigit x = true ∨ isAlpha x = true) ∨ x = 126) ∨ x = 94 := by
  simpa only [isSep, Bool.and_eq_false_iff, Bool.not_eq_false', bne_eq_false_iff_eq] using dw_sep_head h

theorem alpha_of_not_digit {a : List Nat} {x r} (h : a.dropWhile isSep = x :: r)
    (h1 : x ≠ 126) (h2 : x ≠ 94) (hd : ¬ isDigit x = true) : isAlpha x = true :=
  (((head_cases h).resolve_right h2).resolve_right h1).resolve_left hd

theorem digit_of_not_alpha {a : List Nat} {x r} (h : a.dropWhile isSep = x :: r)
    (h1 : x ≠ 126) (h2 : x ≠ 94) (ha : ¬ isAlpha x = true) : isDigit x = true :=
  (((head_cases h).resolve_right h2).resolve_right h1).resolve_right ha

theorem key_nil {a} (h : a.dropWhile isSep = []) : key a = [(1, 0, [])] := by
  rw [key]; split <;> simp_all

theorem key_cons {a x r} (h : a.dropWhile isSep = x :: r) :
    key a =
      if x = 126 then (0, 0, []) :: key r
      else if x = 94 then (2, 0, []) :: key r
      else if isDigit x then
        (4, (((x :: r).takeWhile isDigit).dropWhile (· == 48)).length,
            ((x :: r).takeWhile isDigit).dropWhile (· == 48)) :: key ((x :: r).dropWhile isDigit)
      else (3, 0, (x :: r).takeWhile isAlpha) :: key ((x :: r).dropWhile isAlpha) := by
  rw [key]
  split
  · simp_all
  · rename_i x' r' h'
    rw [h] at h'
    cases h'
    rfl

theorem key_tilde {a r} (h : a.dropWhile isSep = 126 :: r) : key a = (0, 0, []) :: key r := by
  rw [key_cons h, if_pos rfl]

theorem key_caret {a r} (h : a.dropWhile isSep = 94 :: r) : key a = (2, 0, []) :: key r := by
  rw [key_cons h, if_neg (by decide), if_pos rfl]

theorem key_digit {a : List Nat} {x r} (h : a.dropWhile isSep = x :: r) (hx : isDigit x = true) :
    key a = (4, (((x :: r).takeWhile isDigit).dropWhile (· == 48)).length,
            ((x :: r).takeWhile isDigit).dropWhile (· == 48)) :: key ((x :: r).dropWhile isDigit) := by
  have ⟨h1, h2⟩ := digit_ne hx
  rw [key_cons h, if_neg h1, if_neg h2, if_pos hx]

theorem key_alpha {a : List Nat} {x r} (h : a.dropWhile isSep = x :: r) (hx : isAlpha x = true) :
    key a = (3, 0, (x :: r).takeWhile isAlpha) :: key ((x :: r).dropWhile isAlpha) := by
  have ⟨h1, h2, h3⟩ := alpha_ne hx
  rw [key_cons h, if_neg h1, if_neg h2, if_neg (by simp [h3])]

def rank (a : List Nat) : Nat :=
  match a.dropWhile isSep with
  | [] => 1
  | x :: _ => if x = 126 then 0 else if x = 94 then 2 else if isDigit x then 4 else 3

theorem rank_nil {a} (h : a.dropWhile isSep = []) : rank a = 1 := by rw [rank, h]

theorem rank_cons {a x r} (h : a.dropWhile isSep = x :: r) :
    rank a = if x = 126 then 0 else if x = 94 then 2 else if isDigit x then 4 else 3 := by rw [rank, h]

theorem rank_tilde {a r} (h : a.dropWhile isSep = 126 :: r) : rank a = 0 := by rw [rank, h]; rfl
theorem rank_caret {a r} (h : a.dropWhile isSep = 94 :: r) : rank a = 2 := by rw [rank, h]; rfl

theorem rank_digit {a x r} (h : a.dropWhile isSep = x :: r) (hx : isDigit x = true) : rank a = 4 := by
  have ⟨h1, h2⟩ := digit_ne hx
  rw [rank_cons h, if_neg h1, if_neg h2, if_pos hx]

theorem rank_alpha {a x r} (h : a.dropWhile isSep = x :: r) (hx : isAlpha x = true) : rank a = 3 := by
  have ⟨h1, h2, h3⟩ := alpha_ne hx
  rw [rank_cons h, if_neg h1, if_neg h2, if_neg (by simp [h3])]

theorem key_rank (a : List Nat) : ∃ n l s, key a = (rank a, n, l) :: s := by
  cases h : a.dropWhile isSep with
  | nil => exact ⟨_, _, _, by rw [key_nil h, rank_nil h]⟩
  | cons x r =>
    rcases head_cases h with ((hx | hx) | rfl) | rfl
    · exact ⟨_, _, _, by rw [key_digit h hx, rank_digit h hx]⟩
    · exact ⟨_, _, _, by rw [key_alpha h hx, rank_alpha h hx]⟩
    · exact ⟨_, _, _, by rw [key_tilde h, rank_tilde h]⟩
    · exact ⟨_, _, _, by rw [key_caret h, rank_caret h]⟩

theorem rank_other {a x r} (h : a.dropWhile isSep = x :: r) (h1 : x ≠ 126) (h2 : x ≠ 94) : 2 < rank a := by
  rw [rank_cons h, if_neg h1, if_neg h2]; split <;> decide

theorem rank_pos {a x r} (h : a.dropWhile isSep = x :: r) (h1 : x ≠ 126) : 0 < rank a := by
  by_cases h2 : x = 94
  · subst h2; rw [rank_caret h]; decide
  · exact Nat.lt_trans (by decide) (rank_other h h1 h2)

theorem rank_pos' {a} (h : stripPfx 126 (a.dropWhile isSep) = none) : 0 < rank a := by
  cases ha : a.dropWhile isSep with
  | nil => rw [rank_nil ha]; decide
  | cons x r => exact rank_pos ha (ne_of_stripPfx ha h)

theorem rank_other' {a} (h1 : stripPfx 126 (a.dropWhile isSep) = none) (h2 : stripPfx 94 (a.dropWhile isSep) = none)
    (hne : (a.dropWhile isSep).isEmpty = false) : 2 < rank a := by
  cases ha : a.dropWhile isSep with
  | nil => rw [ha] at hne; cases hne
  | cons x r => exact rank_other ha (ne_of_stripPfx ha h1) (ne_of_stripPfx ha h2)

theorem cmpK_def (k n k' n' : Nat) (l l' : List Nat) : cmpK (k, n, l) (k', n', l') =
    (compare k k').then ((compare n n').then (compare l l')) := rfl

theorem c22 : compare (2:Nat) 2 = .eq := by decide
theorem c33 : compare (3:Nat) 3 = .eq := by decide

theorem cmpK_same (k n n' : Nat) (l l' : List Nat) :
    cmpK (k, n, l) (k, n', l') = (compare n n').then (compare l l') := by
  rw [cmpK_def, Nat.compare_eq_eq.mpr rfl, Ordering.eq_then]

theorem keyCmp_lt {a b : List Nat} (h : rank a < rank b) : keyCmp a b = .lt := by
  obtain ⟨n, l, s, ha⟩ := key_rank a
  obtain ⟨m, k, t, hb⟩ := key_rank b
  rw [keyCmp, ha, hb, List.compareLex_cons_cons, cmpK_def, Nat.compare_eq_lt.mpr h]; rfl

theorem keyCmp_gt {a b : List Nat} (h : rank b < rank a) : keyCmp a b = .gt := by
  rw [keyCmp, OrientedCmp.eq_swap (cmp := List.compareLex cmpK), ← keyCmp, keyCmp_lt h]; rfl

theorem keyCmp_nil {a b} (ha : a.dropWhile isSep = []) (hb : b.dropWhile isSep = []) : keyCmp a b = .eq := by
  rw [keyCmp, key_nil ha, key_nil hb]; rfl

theorem keyCmp_tilde {a b ra rb} (ha : a.dropWhile isSep = 126 :: ra) (hb : b.dropWhile isSep = 126 :: rb) :
    keyCmp a b = keyCmp ra rb := by
  rw [keyCmp, key_tilde ha, key_tilde hb, List.compareLex_cons_cons]; rfl

theorem keyCmp_caret {a b ra rb} (ha : a.dropWhile isSep = 94 :: ra) (hb : b.dropWhile isSep = 94 :: rb) :
    keyCmp a b = keyCmp ra rb := by
  rw [keyCmp, key_caret ha, key_caret hb, List.compareLex_cons_cons]; rfl

theorem keyCmp_digit {a b x ra y rb} (ha : a.dropWhile isSep = x :: ra) (hb : b.dropWhile isSep = y :: rb)
    (hx : isDigit x = true) (hy : isDigit y = true) :
    keyCmp a b =
      ((compare (((x :: ra).takeWhile isDigit).dropWhile (· == 48)).length
          (((y :: rb).takeWhile isDigit).dropWhile (· == 48)).length).then
        (compare (((x :: ra).takeWhile isDigit).dropWhile (· == 48))
          (((y :: rb).takeWhile isDigit).dropWhile (· == 48)))).then
      (keyCmp ((x :: ra).dropWhile isDigit) ((y :: rb).dropWhile isDigit)) := by
  rw [keyCmp, key_digit ha hx, key_digit hb hy, List.compareLex_cons_cons, cmpK_same]; rfl

theorem keyCmp_alpha {a b x ra y rb} (ha : a.dropWhile isSep = x :: ra) (hb : b.dropWhile isSep = y :: rb)
    (hx : isAlpha x = true) (hy : isAlpha y = true) :
    keyCmp a b =
      (compare ((x :: ra).takeWhile isAlpha) ((y :: rb).takeWhile isAlpha)).then
        (keyCmp ((x :: ra).dropWhile isAlpha) ((y :: rb).dropWhile isAlpha)) := by
  rw [keyCmp, key_alpha ha hx, key_alpha hb hy, List.compareLex_cons_cons, cmpK_same]; rfl

theorem then_of_ne_eq {o x : Ordering} (h : o = .eq → False) : o.then x = o := by
  cases o <;> simp_all

theorem rust_eq_key (a b : List Nat) : rustLoop a b = keyCmp a b := by
  symm
  fun_induction rustLoop a b with
  -- the '~' match
  | case1 a b v h1 h2 => exact keyCmp_lt (by rw [rank_tilde (stripPfx_some.mp h1)]; exact rank_pos' h2)
  | case2 a b v h1 h2 => exact keyCmp_gt (by rw [rank_tilde (stripPfx_some.mp h2)]; exact rank_pos' h1)
  | case3 a b a2 b2 h1 h2 ih => rw [keyCmp_tilde (stripPfx_some.mp h1) (stripPfx_some.mp h2)]; exact ih
  -- the '^' match
  | case4 a b h1 h2 v h3 h4 he =>
    exact keyCmp_gt (by rw [rank_caret (stripPfx_some.mp h3), rank_nil (List.isEmpty_iff.mp he)]; decide)
  | case5 a b h1 h2 v h3 h4 he =>
    exact keyCmp_lt (by rw [rank_caret (stripPfx_some.mp h3)]; exact rank_other' h2 h4 (by simpa using he))
  | case6 a b h1 h2 v h3 h4 he =>
    exact keyCmp_lt (by rw [rank_caret (stripPfx_some.mp h4), rank_nil (List.isEmpty_iff.mp he)]; decide)
  | case7 a b h1 h2 v h3 h4 he =>
    exact keyCmp_gt (by rw [rank_caret (stripPfx_some.mp h4)]; exact rank_other' h1 h3 (by simpa using he))
  | case8 a b h1 h2 a2 b2 h3 h4 ih => rw [keyCmp_caret (stripPfx_some.mp h3) (stripPfx_some.mp h4)]; exact ih
  -- the `break` and the final comparison of the lengths
  | case9 a b h1 h2 h3 h4 h5 h6 => exact keyCmp_nil h5 h6
  | case10 a b h1 h2 h3 h4 y rb h5 h6 =>
    exact keyCmp_lt (by
      rw [rank_nil h5]; exact Nat.lt_of_succ_lt (rank_other h6 (ne_of_stripPfx h6 h2) (ne_of_stripPfx h6 h4)))
  | case11 a b h1 h2 h3 h4 x ra h5 h6 =>
    exact keyCmp_gt (by
      rw [rank_nil h6]; exact Nat.lt_of_succ_lt (rank_other h5 (ne_of_stripPfx h5 h1) (ne_of_stripPfx h5 h3)))
  -- a digit run on the left
  | case12 a b h1 h2 h3 h4 x ra y rb h5 h6 hx hy n1 n2 hc ih =>
    rw [keyCmp_digit h5 h6 hx hy, hc]; exact ih
  | case13 a b h1 h2 h3 h4 x ra y rb h5 h6 hx hy n1 n2 hc =>
    rw [keyCmp_digit h5 h6 hx hy, then_of_ne_eq hc]
  | case14 a b h1 h2 h3 h4 x ra y rb h5 h6 hx hy =>
    have ay := alpha_of_not_digit h6 (ne_of_stripPfx h6 h2) (ne_of_stripPfx h6 h4) hy
    exact keyCmp_gt (by rw [rank_digit h5 hx, rank_alpha h6 ay]; decide)
  -- a letter run on the left
  | case15 a b h1 h2 h3 h4 x ra y rb h5 h6 hx hy hc ih =>
    have ax := alpha_of_not_digit h5 (ne_of_stripPfx h5 h1) (ne_of_stripPfx h5 h3) hx
    rw [keyCmp_alpha h5 h6 ax hy, hc]; exact ih
  | case16 a b h1 h2 h3 h4 x ra y rb h5 h6 hx hy hc =>
    have ax := alpha_of_not_digit h5 (ne_of_stripPfx h5 h1) (ne_of_stripPfx h5 h3) hx
    rw [keyCmp_alpha h5 h6 ax hy, then_of_ne_eq hc]
  | case17 a b h1 h2 h3 h4 x ra y rb h5 h6 hx hy =>
    have ax := alpha_of_not_digit h5 (ne_of_stripPfx h5 h1) (ne_of_stripPfx h5 h3) hx
    have dy := digit_of_not_alpha h6 (ne_of_stripPfx h6 h2) (ne_of_stripPfx h6 h4) hy
    exact keyCmp_lt (by rw [rank_alpha h5 ax, rank_digit h6 dy]; decide)

theorem then_len_eq {m n : Nat} (h1 : ¬ m > n) (h2 : ¬ n > m) (o : Ordering) : (compare m n).then o = o := by
  rw [Nat.compare_eq_eq.mpr (by omega)]; rfl

theorem c_eq_key (a b : List Nat) : cLoop a b = keyCmp a b := by
  symm
  fun_induction cLoop a b with
  -- one side or both at the end
  | case1 one two h5 h6 => exact keyCmp_nil h5 h6
  | case2 one two rb h5 h6 => exact keyCmp_gt (by rw [rank_tilde h6, rank_nil h5]; decide)
  | case3 one two rb h5 h6 hn => exact keyCmp_lt (by rw [rank_caret h6, rank_nil h5]; decide)
  | case4 one two y rb h5 h6 h1 h2 => exact keyCmp_lt (by rw [rank_nil h5]; exact Nat.lt_of_succ_lt (rank_other h6 h1 h2))
  | case5 one two ra h6 h5 => exact keyCmp_lt (by rw [rank_tilde h5, rank_nil h6]; decide)
  | case6 one two ra h6 h5 hn => exact keyCmp_gt (by rw [rank_caret h5, rank_nil h6]; decide)
  | case7 one two x ra h5 h6 h1 h2 => exact keyCmp_gt (by rw [rank_nil h6]; exact Nat.lt_of_succ_lt (rank_other h5 h1 h2))
  -- a '~' on one side or both
  | case8 one two x ra y rb h5 h6 h1 h2 =>
    obtain rfl := h1.resolve_left h2
    exact keyCmp_gt (by rw [rank_tilde h6]; exact rank_pos h5 h2)
  | case9 one two x ra y rb h5 h6 h1 h2 h3 =>
    obtain rfl := Decidable.not_not.mp h2
    exact keyCmp_lt (by rw [rank_tilde h5]; exact rank_pos h6 h3)
  | case10 one two x ra y rb h5 h6 h1 h2 h3 ih =>
    obtain rfl := Decidable.not_not.mp h2
    obtain rfl := Decidable.not_not.mp h3
    rw [keyCmp_tilde h5 h6]; exact ih
  -- a '^' on one side or both
  | case11 one two x ra y rb h5 h6 h0 h1 h2 =>
    obtain rfl := h1.resolve_left h2
    exact keyCmp_gt (by rw [rank_caret h6]; exact rank_other h5 (not_or.mp h0).1 h2)
  | case12 one two x ra y rb h5 h6 h0 h1 h2 h3 =>
    obtain rfl := Decidable.not_not.mp h2
    exact keyCmp_lt (by rw [rank_caret h5]; exact rank_other h6 (not_or.mp h0).2 h3)
  | case13 one two x ra y rb h5 h6 h0 h1 h2 h3 ih =>
    obtain rfl := Decidable.not_not.mp h2
    obtain rfl := Decidable.not_not.mp h3
    rw [keyCmp_caret h5 h6]; exact ih
  -- a digit run on the left: against a digit run (longer, shorter, same length), against letters
  | case14 one two x ra y rb h5 h6 h0 h1 hx hy n1 n2 hl =>
    rw [keyCmp_digit h5 h6 hx hy, Nat.compare_eq_gt.mpr hl]; rfl
  | case15 one two x ra y rb h5 h6 h0 h1 hx hy n1 n2 hl1 hl =>
    rw [keyCmp_digit h5 h6 hx hy, Nat.compare_eq_lt.mpr hl]; rfl
  | case16 one two x ra y rb h5 h6 h0 h1 hx hy n1 n2 hl1 hl2 hc ih =>
    rw [strcmp] at hc
    rw [keyCmp_digit h5 h6 hx hy, then_len_eq hl1 hl2, hc]; exact ih
  | case17 one two x ra y rb h5 h6 h0 h1 hx hy n1 n2 hl1 hl2 hc =>
    rw [strcmp] at hc ⊢
    rw [keyCmp_digit h5 h6 hx hy, then_len_eq hl1 hl2, then_of_ne_eq hc]
  | case18 one two x ra y rb h5 h6 h0 h1 hx hy =>
    have ay := alpha_of_not_digit h6 (not_or.mp h0).2 (not_or.mp h1).2 hy
    exact keyCmp_gt (by rw [rank_digit h5 hx, rank_alpha h6 ay]; decide)
  -- a letter run on the left: against a letter run, against digits
  | case19 one two x ra y rb h5 h6 h0 h1 hx hy hc ih =>
    have ax := alpha_of_not_digit h5 (not_or.mp h0).1 (not_or.mp h1).1 hx
    rw [strcmp] at hc
    rw [keyCmp_alpha h5 h6 ax hy, hc]; exact ih
  | case20 one two x ra y rb h5 h6 h0 h1 hx hy hc =>
    have ax := alpha_of_not_digit h5 (not_or.mp h0).1 (not_or.mp h1).1 hx
    rw [strcmp] at hc ⊢
    rw [keyCmp_alpha h5 h6 ax hy, then_of_ne_eq hc]
  | case21 one two x ra y rb h5 h6 h0 h1 hx hy =>
    have ax := alpha_of_not_digit h5 (not_or.mp h0).1 (not_or.mp h1).1 hx
    have dy := digit_of_not_alpha h6 (not_or.mp h0).2 (not_or.mp h1).2 hy
    exact keyCmp_lt (by rw [rank_alpha h5 ax, rank_digit h6 dy]; decide)

theorem opt_ops (o : Ordering) :
    (optLt (some o) = true ↔ o = .lt) ∧ (optLe (some o) = true ↔ o.isLE = true) ∧
    (optGt (some o) = true ↔ o = .gt) ∧ (optGe (some o) = true ↔ o.isGE = true) := by
  cases o <;> decide

theorem opt_ops_coherent (o : Ordering) :
    optGt (some o) = optLt (some o.swap) ∧ optGe (some o) = optLe (some o.swap) ∧
    optLe (some o) = !optGt (some o) ∧ (optLe (some o) = true ∨ optLe (some o.swap) = true) := by
  cases o <;> decide

variable {α : Type} {cmp : α → α → Ordering} [OrientedCmp cmp] {x y m : α}

theorem ord_max_spec (hm : m = if optLt (some (cmp y x)) = true then x else y) :
    (m = x ∨ m = y) ∧ (cmp x m).isLE = true ∧ (cmp y m).isLE = true ∧ (cmp x y = .eq → m = y) := by
  have hs : cmp y x = (cmp x y).swap := OrientedCmp.eq_swap
  have hx : cmp x x = .eq := ReflCmp.compare_self
  have hy : cmp y y = .eq := ReflCmp.compare_self
  subst hm
  cases h : cmp x y <;> simp [hs, h, hx, hy, optLt]

theorem ord_min_spec (hm : m = if optLt (some (cmp y x)) = true then y else x) :
    (m = x ∨ m = y) ∧ (cmp m x).isLE = true ∧ (cmp m y).isLE = true ∧ (cmp x y = .eq → m = x) := by
  -- `min` is `max` for the opposite order, with the arguments exchanged
  have ⟨h1, h2, h3, h4⟩ := ord_max_spec (cmp := fun a b => cmp b a) (x := y) (y := x) hm
  exact ⟨h1.symm, h3, h2, h4⟩

end RpmVerif.Vercmp
