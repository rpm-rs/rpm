import RpmVerif.Model.Sign
import RpmVerif.Model.Verify
import RpmVerif.Lemmas.Builder
import RpmVerif.Lemmas.RpmValid
import RpmVerif.Lemmas.RustStr
/-! Lemmas for C10. `SigRecsOk` — the size and text hypothesis of every C10 / Pipeline theorem — is defined here. Under it
the signature headers `sign` / `clear_signatures` install are well formed (`signedSig_wf`, `clearedSig_wf`); the getters of
`verify_digests`, `verify_signature` and `signature_key_ids` find on them exactly the records that were pushed (`signed_*`,
`cleared_*`); hex text is NUL-free ASCII. `runE` is `run` in a form the kernel can evaluate. The symbolic scheme `Sym` satisfies
every hypothesis C10 names. `verifierOf` is the stateless verifier of a key, and C10's `verifyWith` is C02's `verifySignatureS` at it. -/
namespace RpmVerif.Sign
open RpmVerif.Hdr RpmVerif.Gen RpmVerif.Digest RpmVerif.Bld

theorem strOk_ascii (s : Bytes) (h : ∀ b ∈ s, b < 0x80 ∧ b ≠ 0) : StrOk s := (rustStr_ascii s h).strOk

theorem hexDigitByte_ascii (n : Nat) (h : n < 16) : hexDigitByte n < 0x80 ∧ hexDigitByte n ≠ 0 := by
  have key : ∀ i : Fin 16, hexDigitByte i.val < 0x80 ∧ hexDigitByte i.val ≠ 0 := by decide
  exact key ⟨n, h⟩

theorem hexLower_ascii (bs : Bytes) : ∀ b ∈ hexLower bs, b < 0x80 ∧ b ≠ 0 := by
  intro b hb
  simp only [hexLower, List.mem_flatMap, List.mem_cons, List.not_mem_nil, or_false] at hb
  obtain ⟨x, _, rfl | rfl⟩ := hb
  · exact hexDigitByte_ascii _ (by have := x.toNat_lt; omega)
  · exact hexDigitByte_ascii _ (Nat.mod_lt _ (by decide))

theorem strOk_shaHex (sha256 : Bytes → Bytes) (hb : Bytes) : StrOk (shaHex sha256 hb) :=
  strOk_ascii _ (hexLower_ascii _)

/-- the signature-header records built for the serialised main header `hb` fit the header format: the base64
text is NUL-free UTF-8 (it is ASCII for the real encoder), and text + raw signature + digest text stay below
2 GiB (real ones have a few hundred bytes) -/
structure SigRecsOk (S : SigScheme) (sha256 : Bytes → Bytes) (hb : Bytes) : Prop where
  b64 : ∀ k t, StrOk (S.b64enc (S.sign k hb t))
  small : ∀ k t, (S.b64enc (S.sign k hb t)).length + (S.sign k hb t).length + (shaHex sha256 hb).length < 2147483000
  /-- implied by `small` as soon as there is a key; stated for schemes without keys (`Pipeline.noKey`) -/
  sha : (shaHex sha256 hb).length < 2147483000

theorem SigRecsOk.signSize {S : SigScheme} {sha256 : Bytes → Bytes} {hb : Bytes} (ok : SigRecsOk S sha256 hb)
    (k : S.Key) (t : Nat) : (signedSig S sha256 k t hb).store.length < 2147483648 := by
  have h := Hdr.fromEntries_store_le (signRecs S sha256 k t hb) SigTag.HEADER_SIGNATURES
  rw [← signedSig_eq] at h
  have := ok.small k t
  simp only [signRecs, List.map_cons, List.map_nil, List.sum_cons, List.sum_nil, IndexData.enc, List.flatten_cons,
    List.flatten_nil, List.length_append, List.length_cons, List.length_nil] at h
  omega

theorem SigRecsOk.clearSize {S : SigScheme} {sha256 : Bytes → Bytes} {hb : Bytes} (ok : SigRecsOk S sha256 hb) :
    (clearedSig sha256 hb).store.length < 2147483648 := by
  have h := Hdr.fromEntries_store_le (clearRecs sha256 hb) SigTag.HEADER_SIGNATURES
  rw [← clearedSig_eq] at h
  have := ok.sha
  simp only [clearRecs, List.map_cons, List.map_nil, List.sum_cons, List.sum_nil, IndexData.enc,
    List.length_append, List.length_cons, List.length_nil] at h
  omega

/-- what holds of both legacy tags holds of a key's -/
theorem legacyTag_elim {S : SigScheme} (hl : S.LegacyOk) (k : S.Key) {P : Nat → Prop} (hr : P SigTag.RPMSIGTAG_RSA)
    (hd : P SigTag.RPMSIGTAG_DSA) : P (S.legacyTag k) := by
  rcases hl k with h | h <;> rw [h] <;> assumption

theorem signRecs_ok {S : SigScheme} {sha256 : Bytes → Bytes} {hb : Bytes} (hl : S.LegacyOk)
    (ok : SigRecsOk S sha256 hb) (k : S.Key) (t : Nat) :
    RecsOk (signRecs S sha256 k t hb) SigTag.HEADER_SIGNATURES := by
  refine ⟨?_, ?_, by decide, by simp [signRecs], ?_⟩
  · simp only [signRecs, List.forall_mem_cons, List.not_mem_nil, false_imp_iff, implies_true, and_true]
    exact ⟨⟨by simp, fun s hs => by rw [List.mem_singleton.mp hs]; exact ok.b64 k t⟩, show (S.sign k hb t).length < 4294967296 by have := ok.small k t; omega,
      strOk_shaHex sha256 hb⟩
  · simp only [signRecs, List.forall_mem_cons, List.not_mem_nil, false_imp_iff, implies_true, and_true]
    exact ⟨by decide, legacyTag_elim hl k (P := (· < 4294967296)) (by decide) (by decide), by decide⟩
  · rw [← signedSig_eq]; exact ok.signSize k t

theorem clearRecs_ok {S : SigScheme} {sha256 : Bytes → Bytes} {hb : Bytes} (ok : SigRecsOk S sha256 hb) :
    RecsOk (clearRecs sha256 hb) SigTag.HEADER_SIGNATURES := by
  refine ⟨?_, ?_, by decide, by simp [clearRecs], ?_⟩
  · simp only [clearRecs, List.forall_mem_singleton]
    exact strOk_shaHex sha256 hb
  · simp only [clearRecs, List.forall_mem_singleton]
    decide
  · rw [← clearedSig_eq]; exact ok.clearSize

theorem signedSig_wf {S : SigScheme} {sha256 : Bytes → Bytes} {hb : Bytes} (hl : S.LegacyOk)
    (ok : SigRecsOk S sha256 hb) (k : S.Key) (t : Nat) : HeaderWF (signedSig S sha256 k t hb) := by
  rw [signedSig_eq]; exact fromEntries_wf (signRecs_ok hl ok k t)

theorem clearedSig_wf {S : SigScheme} {sha256 : Bytes → Bytes} {hb : Bytes} (ok : SigRecsOk S sha256 hb) :
    HeaderWF (clearedSig sha256 hb) := by
  rw [clearedSig_eq]; exact fromEntries_wf (clearRecs_ok ok)

section signed
variable {S : SigScheme} (sha256 : Bytes → Bytes) (hl : S.LegacyOk) (k : S.Key) (t : Nat) (hb : Bytes)
include hl

theorem signRecs_nodup : ((signRecs S sha256 k t hb).map (·.1)).Nodup := by
  simp only [signRecs, List.map_cons, List.map_nil]
  exact legacyTag_elim hl k (P := fun t => [SigTag.RPMSIGTAG_OPENPGP, t, SigTag.RPMSIGTAG_SHA256].Nodup) (by decide) (by decide)

theorem signRecs_noRegion : ∀ r ∈ signRecs S sha256 k t hb, r.1 ≠ SigTag.HEADER_SIGNATURES := by
  simp only [signRecs, List.forall_mem_cons, List.not_mem_nil, false_imp_iff, implies_true, and_true]
  exact ⟨by decide, legacyTag_elim hl k (P := (· ≠ SigTag.HEADER_SIGNATURES)) (by decide) (by decide), by decide⟩

theorem signed_get {α} (proj : IndexData → Option α) {tag : Nat} {d : IndexData} {a : α}
    (hm : (tag, d) ∈ signRecs S sha256 k t hb) (hp : proj d = some a) :
    getWith proj (signedSig S sha256 k t hb) tag = .ok a := by
  rw [signedSig_eq]
  exact fromEntries_get proj (signRecs_nodup sha256 hl k t hb) (signRecs_noRegion sha256 hl k t hb) hm hp

theorem signed_openpgp :
    getStringArray (signedSig S sha256 k t hb) SigTag.RPMSIGTAG_OPENPGP = .ok [S.b64enc (S.sign k hb t)] :=
  signed_get sha256 hl k t hb IndexData.asStringArray List.mem_cons_self rfl

theorem signed_sha256 :
    getString (signedSig S sha256 k t hb) SigTag.RPMSIGTAG_SHA256 = .ok (shaHex sha256 hb) :=
  signed_get sha256 hl k t hb IndexData.asStr (List.mem_cons_of_mem _ (List.mem_cons_of_mem _ List.mem_cons_self)) rfl

theorem signed_legacy :
    getBinary (signedSig S sha256 k t hb) (S.legacyTag k) = .ok (S.sign k hb t) :=
  signed_get sha256 hl k t hb IndexData.asBinary (List.mem_cons_of_mem _ List.mem_cons_self) rfl

theorem signed_absent {α} (proj : IndexData → Option α) (tag : Nat) (h1 : tag ≠ SigTag.HEADER_SIGNATURES)
    (h2 : tag ≠ SigTag.RPMSIGTAG_OPENPGP) (h3 : tag ≠ SigTag.RPMSIGTAG_RSA) (h4 : tag ≠ SigTag.RPMSIGTAG_DSA)
    (h5 : tag ≠ SigTag.RPMSIGTAG_SHA256) :
    getWith proj (signedSig S sha256 k t hb) tag = .err "notfound" := by
  rw [signedSig_eq]
  apply fromEntries_absent proj (Ne.symm h1)
  simp only [signRecs, List.forall_mem_cons, List.not_mem_nil, false_imp_iff, implies_true, and_true]
  exact ⟨Ne.symm h2, legacyTag_elim hl k (P := (· ≠ tag)) (Ne.symm h3) (Ne.symm h4), Ne.symm h5⟩

end signed

section cleared
variable (sha256 : Bytes → Bytes) (hb : Bytes)

theorem cleared_sha256 : getString (clearedSig sha256 hb) SigTag.RPMSIGTAG_SHA256 = .ok (shaHex sha256 hb) := by
  rw [clearedSig_eq]
  exact fromEntries_get IndexData.asStr (by simp [clearRecs]) (by simp [clearRecs]; decide)
    (d := .str (shaHex sha256 hb)) (by simp [clearRecs]) rfl

theorem cleared_absent {α} (proj : IndexData → Option α) (tag : Nat) (h1 : tag ≠ SigTag.HEADER_SIGNATURES)
    (h5 : tag ≠ SigTag.RPMSIGTAG_SHA256) : getWith proj (clearedSig sha256 hb) tag = .err "notfound" := by
  rw [clearedSig_eq]
  apply fromEntries_absent proj (Ne.symm h1)
  simp only [clearRecs, List.forall_mem_singleton]
  exact Ne.symm h5

end cleared

/-! ### evaluable forms (the kernel cannot run `mergeSort`; for these record shapes the sorted order is known) -/

def fromSorted (sorted : List (Nat × IndexData)) (regionTag : Nat) : Header :=
  let r := layout sorted []
  let trailer := regionTrailer regionTag sorted.length
  ⟨sorted.length + 1, (r.2 ++ trailer).length, ⟨regionTag, .bin trailer, r.2.length, 16⟩ :: r.1, r.2 ++ trailer⟩

theorem fromEntries_eq_fromSorted (recs : List (Nat × IndexData)) (rt : Nat) :
    fromEntries recs rt = fromSorted (recs.mergeSort (fun a b => decide (a.1 ≤ b.1))) rt := rfl

theorem sort3 (t : Nat) (h : t = 268 ∨ t = 267) (a b c : IndexData) :
    [(278, a), (t, b), (273, c)].mergeSort (fun x y => decide (x.1 ≤ y.1)) = [(t, b), (273, c), (278, a)] := by
  rcases h with rfl | rfl <;> simp [List.mergeSort]

def signedSigE (S : SigScheme) (sha256 : Bytes → Bytes) (k : S.Key) (t : Nat) (hb : Bytes) : Header :=
  fromSorted [(S.legacyTag k, .bin (S.sign k hb t)), (SigTag.RPMSIGTAG_SHA256, .str (shaHex sha256 hb)),
    (SigTag.RPMSIGTAG_OPENPGP, .strArray [S.b64enc (S.sign k hb t)])] SigTag.HEADER_SIGNATURES

def clearedSigE (sha256 : Bytes → Bytes) (hb : Bytes) : Header :=
  fromSorted [(SigTag.RPMSIGTAG_SHA256, .str (shaHex sha256 hb))] SigTag.HEADER_SIGNATURES

theorem signedSig_eq_E {S : SigScheme} (hl : S.LegacyOk) (sha256 : Bytes → Bytes) (k : S.Key) (t : Nat) (hb : Bytes) :
    signedSig S sha256 k t hb = signedSigE S sha256 k t hb := by
  rw [signedSig_eq, fromEntries_eq_fromSorted]
  exact congrArg (fromSorted · SigTag.HEADER_SIGNATURES) (sort3 _ (hl k) _ _ _)

theorem clearedSig_eq_E (sha256 : Bytes → Bytes) (hb : Bytes) : clearedSig sha256 hb = clearedSigE sha256 hb := by
  rw [clearedSig_eq, fromEntries_eq_fromSorted]
  exact congrArg (fromSorted · SigTag.HEADER_SIGNATURES) (List.mergeSort_singleton _)

def stepE (S : SigScheme) (sha256 : Bytes → Bytes) : Op S.Key → Package → Out Package
  | .sign k t, p => .ok ⟨⟨p.md.lead, signedSigE S sha256 k t (writeHeader p.md.header), p.md.header⟩, p.content⟩
  | .clear, p => .ok ⟨⟨p.md.lead, clearedSigE sha256 (writeHeader p.md.header), p.md.header⟩, p.content⟩
  | .writeParse, p => writeParse p

def runE (S : SigScheme) (sha256 : Bytes → Bytes) : List (Op S.Key) → Package → Out Package
  | [], p => .ok p
  | o :: os, p => stepE S sha256 o p >>= runE S sha256 os

theorem run_eq_runE {S : SigScheme} (hl : S.LegacyOk) (sha256 : Bytes → Bytes) (ops : List (Op S.Key)) (p : Package) :
    run S sha256 ops p = runE S sha256 ops p := by
  induction ops generalizing p with
  | nil => rfl
  | cons o os ih =>
    have hs : step S sha256 o p = stepE S sha256 o p := by
      cases o with
      | sign k t => simp only [step, stepE, signOp, signedSig_eq_E hl]
      | clear => simp only [step, stepE, clearOp, clearedSig_eq_E]
      | writeParse => rfl
    simp only [run, runE, hs]
    cases stepE S sha256 o p with
    | ok q => exact ih q
    | err c => rfl
    | panic c => rfl

namespace Sym

theorem parts_sign (k : UInt8) (m : Bytes) (t : Nat) : parts (sign k m t) = some (k, m) := by
  simp [parts, sign, be32]

theorem verify_sign (k : UInt8) (m : Bytes) (t : Nat) : verify k m (sign k m t) = true := by
  simp [verify, parts_sign]

theorem verify_sign_inv (k k' : UInt8) (m m' : Bytes) (t : Nat) (h : verify k' m' (sign k m t) = true) :
    k' = k ∧ m' = m := by
  simp only [verify, parts_sign, Bool.and_eq_true, beq_iff_eq] at h
  exact ⟨h.1.symm, h.2.symm⟩

theorem signerOf_sign (k : UInt8) (m : Bytes) (t : Nat) : signerOf (sign k m t) = some k := by
  simp [signerOf, parts_sign]

theorem correct (ids : UInt8 → Bytes) : (scheme ids).Correct := fun k m t => verify_sign k m t

theorem binds (ids : UInt8 → Bytes) : (scheme ids).Binds := fun k k' m m' t h => verify_sign_inv k k' m m' t h

theorem issuerOk (ids : UInt8 → Bytes) : (scheme ids).IssuerOk := fun (k : UInt8) m t =>
  show (signerOf (sign k m t)).map (fun k => [ids k]) = some [ids k] by rw [signerOf_sign]; rfl

theorem legacyOk (ids : UInt8 → Bytes) : (scheme ids).LegacyOk := by
  intro k
  simp only [scheme]
  split
  · exact .inl rfl
  · exact .inr rfl

theorem letter_toNat {n : Nat} (h : n < 16) : (65 + n).toUInt8.toNat = 65 + n := by
  simp only [Nat.toUInt8, UInt8.toNat_ofNat']; omega

theorem dec_encByte (b : UInt8) (r : Bytes) : dec (encByte b ++ r) = (dec r).map (b :: ·) := by
  have hhi : b.toNat / 16 < 16 := by have := b.toNat_lt; omega
  have hlo : b.toNat % 16 < 16 := Nat.mod_lt _ (by decide)
  have hv : ((65 + b.toNat / 16 - 65) * 16 + (65 + b.toNat % 16 - 65)).toUInt8 = b := by
    rw [Nat.add_sub_cancel_left, Nat.add_sub_cancel_left, Nat.div_add_mod']
    exact UInt8.ofNat_toNat
  simp only [encByte, List.cons_append, List.nil_append, dec, letter_toNat hhi, letter_toNat hlo]
  rw [if_pos (by omega), hv]

theorem enc_cons (b : UInt8) (r : Bytes) : enc (b :: r) = encByte b ++ enc r := List.flatMap_cons

theorem b64 (ids : UInt8 → Bytes) : (scheme ids).B64 := by
  intro s
  show dec (enc s) = some s
  induction s with
  | nil => rfl
  | cons b r ih => rw [enc_cons, dec_encByte, ih]; rfl

theorem enc_length (s : Bytes) : (enc s).length = 2 * s.length := by
  induction s with
  | nil => rfl
  | cons b r ih => rw [enc_cons, List.length_append, ih]; simp [encByte]; omega

theorem enc_ascii (s : Bytes) : ∀ b ∈ enc s, b < 0x80 ∧ b ≠ 0 := by
  have key : ∀ n, n < 16 → (65 + n).toUInt8 < 0x80 ∧ (65 + n).toUInt8 ≠ 0 := by
    intro n h
    have := letter_toNat h
    exact ⟨UInt8.lt_iff_toNat_lt.mpr (by rw [this]; show 65 + n < 128; omega),
      fun e => by rw [e] at this; simp only [UInt8.toNat_zero] at this; omega⟩
  intro b hb
  simp only [enc, List.mem_flatMap, encByte, List.mem_cons, List.not_mem_nil, or_false] at hb
  obtain ⟨x, _, rfl | rfl⟩ := hb
  · exact key _ (by have := x.toNat_lt; omega)
  · exact key _ (Nat.mod_lt _ (by decide))

theorem sign_length (k : UInt8) (m : Bytes) (t : Nat) : (sign k m t).length = m.length + 6 := by
  simp [sign, be32_length]; omega

theorem sigRecsOk (ids : UInt8 → Bytes) (sha256 : Bytes → Bytes) (hb : Bytes)
    (h : 3 * hb.length + (shaHex sha256 hb).length < 2147482000) : SigRecsOk (scheme ids) sha256 hb := by
  have small : ∀ (k : UInt8) (t : Nat),
      (enc (sign k hb t)).length + (sign k hb t).length + (shaHex sha256 hb).length < 2147483000 := by
    intro k t; rw [enc_length, sign_length]; omega
  exact ⟨fun k t => strOk_ascii _ (enc_ascii _), fun k t => small k t, by omega⟩

end Sym

/-- the verifier object `Verifier::load_from_asc_bytes(public half of k)` as C02's `Verifier`: stateless -/
def verifierOf (S : SigScheme) (k : S.Key) : Verify.Verifier := fun _ d s => S.verify k d s

theorem verifyAll_eq_openpgpLoop (S : SigScheme) (k : S.Key) (hb : Bytes) (pre : List Verify.Consult) (sigs : List Bytes) :
    verifyAll S k hb sigs = (Verify.openpgpLoop S.b64dec (verifierOf S k) hb pre sigs).1 := by
  induction sigs generalizing pre with
  | nil => rfl
  | cons s rest ih =>
    simp only [verifyAll, Verify.openpgpLoop]
    cases S.b64dec s with
    | none => rfl
    | some sig =>
      have e : verifierOf S k pre hb sig = S.verify k hb sig := rfl
      cases hv : S.verify k hb sig
      · simp [e, hv]
      · simp only [e, hv, if_true]; exact ih _

/-- one `if let Ok(sig) = tag { verifier.verify(data, sig)? }` in front of the remaining steps -/
theorem runConsults_stepOf (S : SigScheme) (k : S.Key) (data : Bytes) (g : Out Bytes) (pgp : Bool) (pre : List Verify.Consult)
    (rest : List (Bytes × Bytes × Bool)) :
    ∃ pre', (Verify.runConsults (verifierOf S k) pre (Verify.stepOf g data pgp ++ rest)).1 =
      (verifyLegacy S k data g >>= fun _ => (Verify.runConsults (verifierOf S k) pre' rest).1) := by
  cases g with
  | ok s =>
    have e : verifierOf S k pre data s = S.verify k data s := rfl
    simp only [Verify.stepOf, List.cons_append, List.nil_append, Verify.runConsults, verifyLegacy]
    cases hv : S.verify k data s
    · exact ⟨[], by simp [e, hv]⟩
    · exact ⟨pre ++ [⟨data, s, true, pgp⟩], by simp only [e, hv, if_true, Out.bind_ok]⟩
  | err c => exact ⟨pre, rfl⟩
  | panic c => exact ⟨pre, rfl⟩

theorem verifyLegacy_eq_legacy (S : SigScheme) (k : S.Key) (hb content : Bytes) (sig : Header) :
    (if (!(getBinary sig SigTag.RPMSIGTAG_RSA).isOk && !(getBinary sig SigTag.RPMSIGTAG_DSA).isOk
          && !(getBinary sig SigTag.RPMSIGTAG_PGP).isOk) = true then (Out.err "nosig" : Out Unit) else do
        verifyLegacy S k hb (getBinary sig SigTag.RPMSIGTAG_DSA)
        verifyLegacy S k hb (getBinary sig SigTag.RPMSIGTAG_RSA)
        verifyLegacy S k (hb ++ content) (getBinary sig SigTag.RPMSIGTAG_PGP)) =
      (Verify.legacy (verifierOf S k) hb content sig).1 := by
  simp only [Verify.legacy]
  split
  · rfl
  · obtain ⟨p1, h1⟩ := runConsults_stepOf S k hb (getBinary sig SigTag.RPMSIGTAG_DSA) false []
      (Verify.stepOf (getBinary sig SigTag.RPMSIGTAG_RSA) hb false ++
        Verify.stepOf (getBinary sig SigTag.RPMSIGTAG_PGP) (hb ++ content) true)
    obtain ⟨p2, h2⟩ := runConsults_stepOf S k hb (getBinary sig SigTag.RPMSIGTAG_RSA) false p1
      (Verify.stepOf (getBinary sig SigTag.RPMSIGTAG_PGP) (hb ++ content) true)
    obtain ⟨p3, h3⟩ := runConsults_stepOf S k (hb ++ content) (getBinary sig SigTag.RPMSIGTAG_PGP) true p2 []
    rw [List.append_assoc, h1, h2]
    rw [List.append_nil] at h3
    rw [h3]
    simp only [Verify.runConsults]
    cases verifyLegacy S k hb (getBinary sig SigTag.RPMSIGTAG_DSA) <;> simp
    cases verifyLegacy S k hb (getBinary sig SigTag.RPMSIGTAG_RSA) <;> simp
    cases verifyLegacy S k (hb ++ content) (getBinary sig SigTag.RPMSIGTAG_PGP) <;> simp

/-- **the two mirrors of `verify_signature` are one function**: C10's `verifyWith` (a key of the scheme) is C02's
`verifySignatureS` (any, even stateful, verifier object) at the stateless verifier of that key, with the scheme's
base64 decoder — same result, same error class -/
theorem verifyWith_eq_verifySignatureS (S : SigScheme) (md5 sha1 sha256 : Bytes → Bytes) (k : S.Key) (p : Package) :
    verifyWith S md5 sha1 sha256 k p = (Verify.verifySignatureS md5 sha1 sha256 S.b64dec (verifierOf S k) p).1 := by
  unfold verifyWith Verify.verifySignatureS
  cases verifyDigests md5 sha1 sha256 p with
  | err c => rfl
  | panic s => rfl
  | ok u =>
    simp only [Out.bind_ok]
    cases getStringArray p.md.signature SigTag.RPMSIGTAG_OPENPGP with
    | ok sigs =>
      simp only
      by_cases he : sigs.isEmpty = true
      · simp [he]
      · simp only [he, Bool.false_eq_true, if_false]
        exact verifyAll_eq_openpgpLoop S k _ [] sigs
    | err c => exact verifyLegacy_eq_legacy S k _ _ _
    | panic s => exact verifyLegacy_eq_legacy S k _ _ _
end RpmVerif.Sign
