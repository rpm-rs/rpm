import RpmVerif.Model.PgpFraming
/-!
Helper lemmas for the OpenPGP framing (`splitPackets`) and `Verifier::parse_signature` (`parseSignature`):
the packets are a partition of the blob, each packet's own header declares exactly the packet's length, the
fuel of the loop is immaterial, a leading packet is split off, and what `find_map` consults is a prefix of the
packet list.
-/
namespace RpmVerif.Pgp

theorem splitAux_flatten (fuel : Nat) (blob : Bytes) (ps : List Bytes) (h : splitAux fuel blob = some ps) :
    ps.flatten = blob := by
  fun_induction splitAux fuel blob generalizing ps with
  | case1 => cases h
  | case2 => cases h; rfl
  | case3 => cases h
  | case4 fuel t r hh b hl hle ih =>
    obtain ⟨rest, hr, rfl⟩ := Option.map_eq_some_iff.mp h
    rw [List.flatten_cons, ih _ hr, List.take_append_drop]
  | case5 => cases h

theorem packetLens_hpos {bs : Bytes} {h b : Nat} (hl : packetLens bs = some (h, b)) : 1 ≤ h := by
  revert hl
  fun_cases packetLens bs <;> intro hl <;> cases hl <;> decide

theorem splitAux_fuel (f1 : Nat) : ∀ (f2 : Nat) (blob : Bytes), blob.length < f1 → blob.length < f2 →
    splitAux f1 blob = splitAux f2 blob := by
  induction f1 with
  | zero => intro f2 blob h; omega
  | succ f1 ih =>
    intro f2 blob h1 h2
    cases f2 with
    | zero => omega
    | succ f2 =>
      cases blob with
      | nil => rfl
      | cons t r =>
        simp only [splitAux]
        cases hl : packetLens (t :: r) with
        | none => rfl
        | some hb =>
          obtain ⟨h, b⟩ := hb
          have hp := packetLens_hpos hl
          dsimp only
          split
          · have hd : ((t :: r).drop (h + b)).length < f1 ∧ ((t :: r).drop (h + b)).length < f2 := by
              rw [List.length_drop]; simp only [List.length_cons] at h1 h2 ⊢; omega
            rw [ih f2 _ hd.1 hd.2]
          · rfl

theorem split_cons {p rest : Bytes} {h b : Nat} (hl : packetLens (p ++ rest) = some (h, b)) (hlen : h + b = p.length) :
    splitPackets (p ++ rest) = (splitPackets rest).map (p :: ·) := by
  have hp := packetLens_hpos hl
  unfold splitPackets
  cases hpr : p ++ rest with
  | nil =>
    have : (p ++ rest).length = 0 := by rw [hpr]; rfl
    rw [List.length_append] at this; omega
  | cons t r =>
    rw [hpr] at hl
    have hlen' : (t :: r).length = p.length + rest.length := by rw [← hpr, List.length_append]
    simp only [splitAux, hl]
    rw [if_pos (by omega)]
    have hd : (t :: r).drop (h + b) = rest := by rw [← hpr, hlen, List.drop_left]
    have ht : (t :: r).take (h + b) = p := by rw [← hpr, hlen, List.take_left]
    rw [hd, ht, splitAux_fuel _ (rest.length + 1) rest (by omega) (by omega)]

/-- the answer is read off the header alone, so the packet cut off at the declared length declares that length itself;
in the one branch that looks past the header (old format, length type 3: the rest of the blob) the cut is the whole blob -/
theorem packetLens_take {bs : Bytes} {h b : Nat} (hl : packetLens bs = some (h, b)) (hle : h + b ≤ bs.length) :
    packetLens (bs.take (h + b)) = some (h, b) := by
  revert hl hle
  fun_cases packetLens bs <;> intro hl hle <;> cases hl
  case case13 =>
    rw [List.take_of_length_le (by simp only [List.length_cons]; omega)]
    simp only [packetLens, *, if_false]
  case case7 =>
    rw [Nat.add_comm 6]
    simp only [List.take_succ_cons, packetLens, *, if_true, if_false, ne_eq, not_false_eq_true]
    rfl
  all_goals
    rw [Nat.add_comm (_ : Nat)]
    simp only [List.take_succ_cons, packetLens, *, if_true, if_false, ne_eq, not_false_eq_true]

/-- every packet the loop cuts off carries, in its own header, exactly its own length: the length a packet DECLARES
(what the OpenPGP parser allocates before reading the body) is the number of bytes that are really there -/
theorem splitAux_declared (fuel : Nat) (blob : Bytes) (ps : List Bytes) (h : splitAux fuel blob = some ps) :
    ∀ p ∈ ps, ∃ hl bl, packetLens p = some (hl, bl) ∧ hl + bl = p.length := by
  fun_induction splitAux fuel blob generalizing ps with
  | case1 => cases h
  | case2 => cases h; nofun
  | case3 => cases h
  | case4 fuel t r hh b hl hle ih =>
    obtain ⟨rest, hr, rfl⟩ := Option.map_eq_some_iff.mp h
    intro p hp
    rcases List.mem_cons.mp hp with rfl | hp
    · exact ⟨hh, b, packetLens_take hl hle, by rw [List.length_take]; omega⟩
    · exact ih _ hr p hp
  | case5 => cases h

theorem split_single {p : Bytes} {h b : Nat} (hl : packetLens p = some (h, b)) (hlen : h + b = p.length) :
    splitPackets p = some [p] := by
  have := split_cons (p := p) (rest := []) (by rw [List.append_nil]; exact hl) hlen
  rw [List.append_nil] at this
  rw [this]; rfl

theorem consulted_prefix {σ : Type} (P : Bytes → Option σ) (ps : List Bytes) : consulted P ps <+: ps := by
  induction ps with
  | nil => exact List.prefix_refl _
  | cons p ps ih =>
    unfold consulted
    split
    · exact ⟨ps, rfl⟩
    · exact List.cons_prefix_cons.mpr ⟨rfl, ih⟩

theorem findSome_congr {σ : Type} {P Q : Bytes → Option σ} {ps : List Bytes} (h : ∀ p ∈ ps, P p = Q p) :
    ps.findSome? P = ps.findSome? Q := by
  induction ps with
  | nil => rfl
  | cons p ps ih =>
    rw [List.findSome?_cons, List.findSome?_cons, h p List.mem_cons_self,
      ih (fun q hq => h q (List.mem_cons_of_mem _ hq))]

theorem consulted_of_none {σ : Type} {P : Bytes → Option σ} {ps : List Bytes} (h : ∀ p ∈ ps, P p = none) :
    consulted P ps = ps := by
  induction ps with
  | nil => rfl
  | cons p ps ih =>
    unfold consulted
    rw [h p List.mem_cons_self, ih (fun q hq => h q (List.mem_cons_of_mem _ hq))]
    rfl

theorem consulted_of_hit {σ : Type} {P : Bytes → Option σ} {pre post : List Bytes} {p : Bytes} {s : σ}
    (hpre : ∀ q ∈ pre, P q = none) (hp : P p = some s) : consulted P (pre ++ p :: post) = pre ++ [p] := by
  induction pre with
  | nil => simp [consulted, hp]
  | cons q pre ih =>
    simp only [List.cons_append, consulted, hpre q List.mem_cons_self]
    rw [ih (fun x hx => hpre x (List.mem_cons_of_mem _ hx))]
    rfl

theorem consulted_cons {σ : Type} (P : Bytes → Option σ) (q : Bytes) (qs : List Bytes) :
    consulted P (q :: qs) = if (P q).isSome then [q] else q :: consulted P qs := rfl

/-- `consulted` is exactly the call sequence of a left-to-right `find_map`: the result is the answer to the LAST call,
every earlier call answered `None` -/
theorem consulted_faithful {σ : Type} (P : Bytes → Option σ) (ps : List Bytes) :
    ps.findSome? P = (consulted P ps).getLast?.bind P ∧ ∀ p ∈ (consulted P ps).dropLast, P p = none := by
  induction ps with
  | nil => exact ⟨rfl, fun p hp => by cases hp⟩
  | cons q qs ih =>
    rw [consulted_cons, List.findSome?_cons]
    cases hq : P q with
    | some s => exact ⟨by simp [hq], fun p hp => by simp at hp⟩
    | none =>
      simp only [Option.isSome_none, Bool.false_eq_true, if_false]
      cases hc : consulted P qs with
      | nil =>
        rw [hc] at ih
        exact ⟨by rw [ih.1]; simp [hq], fun p hp => by simp at hp⟩
      | cons y ys =>
        rw [hc] at ih
        rw [List.getLast?_cons_cons, List.dropLast_cons_cons]
        refine ⟨ih.1, fun p hp => ?_⟩
        rcases List.mem_cons.mp hp with rfl | hp
        · exact hq
        · exact ih.2 p hp

theorem mem_flatten_slice {ps : List Bytes} {p : Bytes} (h : p ∈ ps) : ∃ pre post, ps.flatten = pre ++ p ++ post := by
  obtain ⟨l1, l2, rfl⟩ := List.append_of_mem h
  exact ⟨l1.flatten, l2.flatten, by simp [List.flatten_append, List.flatten_cons, List.append_assoc]⟩

end RpmVerif.Pgp
