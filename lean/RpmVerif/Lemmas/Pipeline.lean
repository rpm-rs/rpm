import RpmVerif.Props.C09
import RpmVerif.Props.C10
/-! Helper lemmas for `Props/Pipeline.lean`: the glue between the per-property theorems. Nothing here re-proves
a layer; every lemma is stated for an ARBITRARY package (so that the large term `Bld.build …` is never unfolded
while a layer's theorem is applied) and is instantiated at the built package in `Props/Pipeline.lean`. -/
namespace RpmVerif.Pipeline
open RpmVerif.Hdr RpmVerif.Gen RpmVerif.Bld RpmVerif.Digest RpmVerif.Sign RpmVerif.Cpio

/-- the builder's hash parameter (`hex::encode(Sha256::digest(..))`) for the raw SHA-256 function `sha256` -/
abbrev hexOf (sha256 : Bytes → Bytes) : Bytes → Bytes := fun b => hexLower (sha256 b)

/-- a signature scheme without keys: used to instantiate the scheme-independent parts of C10 (the digest-only
signature header of `build` / `clear_signatures`) -/
def noKey : SigScheme := ⟨Empty, inferInstance, nofun, nofun, fun _ => none, nofun, nofun, id, some⟩

/-- the hex text of the main header's digest fits a signature header (below 2 GiB; a real SHA-256 has 64
characters). The only thing that has to be assumed about an ARBITRARY hash function for write → parse. -/
def DigestFits (sha256 : Bytes → Bytes) (hb : Bytes) : Prop := (shaHex sha256 hb).length < 2147483000

theorem sigRecsOk_noKey {sha256 : Bytes → Bytes} {hb : Bytes} (h : DigestFits sha256 hb) : SigRecsOk noKey sha256 hb :=
  ⟨nofun, nofun, h⟩

theorem digestFits_of_length {sha256 : Bytes → Bytes} {hb : Bytes} (h : (sha256 hb).length < 1073741500) :
    DigestFits sha256 hb := by
  unfold DigestFits shaHex; rw [Build.hexLower_length]; omega

/-- `DigestAlgorithm::from_u32(8)` is `Sha2_256` (generated table) -/
theorem algo8 : algoFromU32 8 = some "Sha2_256" := by decide

/-- the signature header holds the SHA-256 of the main header and nothing else -/
def Fresh (sha256 : Bytes → Bytes) (p : Package) : Prop :=
  p.md.signature = clearedSig sha256 (writeHeader p.md.header)

theorem fresh_eq_clear {sha256 : Bytes → Bytes} {p : Package} (h : Fresh sha256 p) : p = clearOp sha256 p := by
  obtain ⟨⟨l, s, hd⟩, ct⟩ := p
  simp only [Fresh] at h
  subst h
  rfl

theorem fresh_verifies (md5 sha1 : Bytes → Bytes) {sha256 : Bytes → Bytes} {p : Package} (hf : Fresh sha256 p)
    (hp : C10.PayloadDigestOk sha256 p) : verifyDigests md5 sha1 sha256 p = .ok () := by
  rw [fresh_eq_clear hf]
  exact C10.digests_cleared (S := noKey) hp

theorem fresh_unsigned {sha256 : Bytes → Bytes} {p : Package} (hf : Fresh sha256 p) : C10.Unsigned p.md.signature := by
  rw [hf]
  exact C10.cleared_unsigned _

theorem fresh_wf {sha256 : Bytes → Bytes} {p : Package} (hf : Fresh sha256 p) (wl : LeadWF p.md.lead)
    (wh : HeaderWF p.md.header) (hfit : DigestFits sha256 (writeHeader p.md.header)) : MetadataWF p.md :=
  ⟨wl, by rw [hf]; exact clearedSig_wf (sigRecsOk_noKey hfit), wh⟩

section history
variable {S : SigScheme} {md5 sha1 sha256 : Bytes → Bytes} {p0 p : Package}

/-- digests verify after EVERY history (also the empty one and those made of write + re-parse only) -/
theorem fresh_history_digests (hf : Fresh sha256 p0) (hl : S.LegacyOk) (wf : MetadataWF p0.md)
    (ok : SigRecsOk S sha256 (writeHeader p0.md.header)) (hp : C10.PayloadDigestOk sha256 p0) (ops : List (Op S.Key))
    (h : run S sha256 ops p0 = .ok p) : verifyDigests md5 sha1 sha256 p = .ok () := by
  cases hst : stateAfter (SigState.initial (K := S.Key)) ops with
  | initial =>
    rw [C10.history_initial hl wf ok ops hst h]
    exact fresh_verifies md5 sha1 hf hp
  | cleared => exact C10.history_digests hl wf ok hp ops (by rw [hst]; exact fun e => nomatch e) h
  | signed k t => exact C10.history_digests hl wf ok hp ops (by rw [hst]; exact fun e => nomatch e) h

end history

theorem run_sign (S : SigScheme) (sha256 : Bytes → Bytes) (k : S.Key) (t : Nat) (p : Package) :
    run S sha256 [.sign k t] p = .ok (signOp S sha256 k t p) := rfl

theorem lastSigner_sign {K : Type} (k : K) (t : Nat) : lastSigner [Op.sign k t] = some k := rfl

/-- the digest-only signature header also stays within rpm's 64 MiB limit for signature headers -/
theorem sigsOk_nil {sha256 : Bytes → Bytes} {hb : Bytes} (h : (shaHex sha256 hb).length < 67108000) :
    C09.SigsOk [] (shaHex sha256 hb) := by
  refine ⟨by simp, by simp, by simp, by decide, strOk_shaHex sha256 hb, ?_⟩
  have hle := Hdr.fromEntries_store_le (C09.sigRecs [] (shaHex sha256 hb)) SigTag.HEADER_SIGNATURES
  rw [C09.signatureHeader_eq]
  simp only [C09.sigRecs, List.getLast?_nil, List.nil_append, List.map_cons, List.map_nil, List.sum_cons, List.sum_nil,
    IndexData.enc, List.length_append, List.length_cons, List.length_nil] at hle ⊢
  omega

theorem fromEntries_nEntries (recs : List (Nat × IndexData)) (rt : Nat) :
    (fromEntries recs rt).nEntries = recs.length + 1 := by
  simp [fromEntries]

theorem written_header_le {x : Ctx} (v : C06.Valid x) :
    (writeHeader (C06.hdrOf x)).length ≤
      32 + 16 * ((recordsOf x).length + 1) + ((recordsOf x).map (fun r => r.2.enc.length + 7)).sum := by
  have wf := C06.hdr_wf v
  rw [C16.writeHeader_length wf]
  have h1 := fromEntries_nEntries (recordsOf x) IndexTag.RPMTAG_HEADERIMMUTABLE
  have h2 := Hdr.fromEntries_store_le (recordsOf x) IndexTag.RPMTAG_HEADERIMMUTABLE
  have h3 := wf.dlEq
  simp only [Header.size, ihs, ies, C06.hdrOf] at h1 h2 h3 ⊢
  omega

/-- C17 `add_data_ok_shape`: the stored directory starts and ends with `/`, the base name has no leading `/` -/
structure DirShape (f : FileE) : Prop where
  dirHead : f.dir.head? = some 47
  dirLast : f.dir.getLast? = some 47
  baseHead : f.baseName.head? ≠ some 47

theorem pathJoin_of_shape {f : FileE} (h : DirShape f) : Acc.pathJoin f.dir f.baseName = f.dir ++ f.baseName := by
  simp [Acc.pathJoin, h.baseHead, h.dirLast]

theorem namePath_of_shape {f : FileE} (h : DirShape f) : namePath ([46] ++ (f.dir ++ f.baseName)) = f.dir ++ f.baseName := by
  have hd := h.dirHead
  cases hdir : f.dir with
  | nil => rw [hdir] at hd; cases hd
  | cons a r =>
    rw [hdir] at hd
    simp only [List.head?_cons, Option.some.injEq] at hd
    subst hd
    rfl

section files
variable {fes : List (FileE × Bytes)}

theorem header_paths_eq (hf : ∀ p ∈ fes, C09.FileOk p) (hs : ∀ p ∈ fes, DirShape p.1) :
    (fes.map (·.1)).map (fun f => Acc.pathJoin f.dir f.baseName) = headerPaths (fes.map C09.toFileIn) := by
  simp only [headerPaths, List.map_map]
  apply List.map_congr_left
  intro p hp
  simp only [Function.comp, C09.toFileIn, (hf p hp).path, pathJoin_of_shape (hs p hp), namePath_of_shape (hs p hp)]

theorem header_sizes_eq (hf : ∀ p ∈ fes, C09.FileOk p) :
    (fes.map (·.1)).map (·.size) = (fes.map C09.toFileIn).map (·.content.length) := by
  simp only [List.map_map]
  apply List.map_congr_left
  intro p hp
  simp only [Function.comp, C09.toFileIn, (hf p hp).size]

theorem header_paths_nodup (hf : ∀ p ∈ fes, C09.FileOk p) (hs : ∀ p ∈ fes, DirShape p.1)
    (hnd : (fes.map (·.1.cpioPath)).Nodup) : (headerPaths (fes.map C09.toFileIn)).Nodup := by
  refine headerPaths_nodup ?_ (by rw [List.map_map]; exact hnd)
  intro f hfm
  obtain ⟨p, hp, rfl⟩ := List.mem_map.mp hfm
  have hd := (hs p hp).dirHead
  cases hdir : p.1.dir with
  | nil => rw [hdir] at hd; cases hd
  | cons a r =>
    rw [hdir] at hd
    simp only [List.head?_cons, Option.some.injEq] at hd
    subst hd
    exact ⟨r ++ p.1.baseName, by simp [C09.toFileIn, (hf p hp).path, hdir]⟩

end files

end RpmVerif.Pipeline
