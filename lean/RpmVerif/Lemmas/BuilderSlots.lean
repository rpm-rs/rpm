import RpmVerif.Lemmas.RpmValid
import RpmVerif.Model.Builder
/-! The slot table `Bld.slots` of `prepare_data`, row by row: what everything a slot emits has in common. `EmitsAt` / `Emits`
with one lemma per way a slot decides to emit (`always`, `if … then none else some …`, `Option.map`, `Option.bind`) carry
any such property through the table; used for rpm's `count-zero` / `tag-type` rules (C09: one data type per slot, never an
empty record) and for "canonical and of bounded length" (Lemmas/ValidInputs). -/
namespace RpmVerif.Bld
open RpmVerif RpmVerif.Hdr RpmVerif.RpmValid

/-- `add_data` registers the directory of every file -/
def DirsOk (c : Cfg) : Prop := ∀ f ∈ c.files, f.dir ∈ c.directories

theorem slot_of_record {x : Ctx} {r : Nat × IndexData} (hr : r ∈ recordsOf x) : ∃ s ∈ slots, s.2 x = some r.2 ∧ s.1 = r.1 := by
  obtain ⟨s, hs, hm⟩ := List.mem_filterMap.mp hr
  obtain ⟨d, hd, rfl⟩ := Option.map_eq_some_iff.mp hm
  exact ⟨s, hs, hd, rfl⟩

theorem slots_length : slots.length = 102 := by decide +kernel

theorem records_length_le (x : Ctx) : (recordsOf x).length ≤ 102 :=
  slots_length ▸ List.length_filterMap_le _ _

def EmitsAt (x : Ctx) (f : Ctx → Option IndexData) (P : IndexData → Prop) : Prop := ∀ d, f x = some d → P d

theorem emitsAt_always {x : Ctx} {f : Ctx → IndexData} {P} (h : P (f x)) : EmitsAt x (always f) P := by
  intro d hd; cases hd; exact h

/-- a slot written as `if … then none else some …` (`whenFiles`, the dependency arrays, the changelog) -/
theorem emitsAt_unless {x : Ctx} {c : Ctx → Bool} {g : Ctx → IndexData} {P} (h : c x = false → P (g x)) :
    EmitsAt x (fun x => if c x then none else some (g x)) P := by
  intro d hd
  dsimp only at hd
  cases hc : c x with
  | true => rw [hc] at hd; cases hd
  | false => rw [hc] at hd; cases hd; exact h hc

theorem emitsAt_when {x : Ctx} {c : Ctx → Bool} {g : Ctx → IndexData} {P} (h : c x = true → P (g x)) :
    EmitsAt x (fun x => if c x then some (g x) else none) P := by
  intro d hd
  dsimp only at hd
  cases hc : c x with
  | true => rw [hc] at hd; cases hd; exact h hc
  | false => rw [hc] at hd; cases hd

/-- a slot that wraps an optional value of the configuration (`optS`, the compressor texts, a scriptlet's script) -/
theorem emitsAt_map {α} {x : Ctx} {o : Ctx → Option α} {g : α → IndexData} {P} (h : ∀ a, o x = some a → P (g a)) :
    EmitsAt x (fun x => (o x).map g) P := by
  intro d hd
  obtain ⟨a, ha, rfl⟩ := Option.map_eq_some_iff.mp hd
  exact h a ha

/-- … whose data may be missing in turn (a scriptlet's flags and interpreter) -/
theorem emitsAt_bind {α} {x : Ctx} {o : Ctx → Option α} {k : α → Option IndexData} {P}
    (h : ∀ a d, o x = some a → k a = some d → P d) : EmitsAt x (fun x => (o x).bind k) P := by
  intro d hd
  obtain ⟨a, ha, hk⟩ := Option.bind_eq_some_iff.mp hd
  exact h a d ha hk

theorem emitsAt_whenFiles {x : Ctx} {f : Ctx → IndexData} {P} (h : x.c.files ≠ [] → P (f x)) : EmitsAt x (whenFiles f) P :=
  emitsAt_unless fun hc => h (List.isEmpty_eq_false_iff.mp hc)

/-- `∀ x, EmitsAt x f (P x)`, written out -/
def Emits (f : Ctx → Option IndexData) (P : Ctx → IndexData → Prop) : Prop := ∀ x d, f x = some d → P x d

theorem emits_always {f : Ctx → IndexData} {P} (h : ∀ x, P x (f x)) : Emits (always f) P := fun x => emitsAt_always (h x)

theorem emits_unless {c : Ctx → Bool} {g : Ctx → IndexData} {P} (h : ∀ x, c x = false → P x (g x)) :
    Emits (fun x => if c x then none else some (g x)) P := fun x => emitsAt_unless (h x)

theorem emits_when {c : Ctx → Bool} {g : Ctx → IndexData} {P} (h : ∀ x, c x = true → P x (g x)) :
    Emits (fun x => if c x then some (g x) else none) P := fun x => emitsAt_when (h x)

theorem emits_map {α} {o : Ctx → Option α} {g : α → IndexData} {P} (h : ∀ x a, o x = some a → P x (g a)) :
    Emits (fun x => (o x).map g) P := fun x => emitsAt_map (h x)

theorem emits_bind {α} {o : Ctx → Option α} {k : α → Option IndexData} {P} (h : ∀ x a d, o x = some a → k a = some d → P x d) :
    Emits (fun x => (o x).bind k) P := fun x => emitsAt_bind (h x)

theorem emits_whenFiles {f : Ctx → IndexData} {P} (h : ∀ x, x.c.files ≠ [] → P x (f x)) : Emits (whenFiles f) P :=
  fun x => emitsAt_whenFiles (h x)

theorem emits_optS (f : Cfg → Option Bytes) : Emits (optS f) fun x d => d.typeCode = 6 ∧ (DirsOk x.c → d.NonEmpty) :=
  emits_map fun _ _ _ => ⟨rfl, fun _ => trivial⟩

theorem map_ne {α β} (f : α → β) {l : List α} (h : l ≠ []) : l.map f ≠ [] := mt List.map_eq_nil_iff.mp h

theorem allProvides_ne (c : Cfg) : allProvides c ≠ [] := by simp [allProvides]

theorem dirnames_ne {c : Cfg} (hne : c.files ≠ []) (hok : DirsOk c) : c.directories ≠ [] := by
  obtain ⟨f, hf⟩ := List.exists_mem_of_ne_nil _ hne
  intro he
  have := hok f hf
  rw [he] at this; cases this

theorem range_length_ne {α} {l : List α} (hne : l ≠ []) : List.range l.length ≠ [] :=
  fun he => hne (List.length_eq_zero_iff.mp (List.range_eq_nil.mp he))

/-- a slot whose tag carries data of the type rpm's tag table gives the tag (`hdrchkTagType`) -/
def SlotTypeOk (s : Slot) : Prop := ∀ x d, s.2 x = some d → tagTypeOk s.1 d.typeCode = true

def SlotNE (f : Ctx → Option IndexData) : Prop := ∀ x d, DirsOk x.c → f x = some d → d.NonEmpty

/-- **what rpm asks of a slot**: all it emits has one data type `t`, the one rpm's tag table gives the tag (`hdrchkTagType`),
and is not empty -/
def SlotGood (s : Slot) : Prop :=
  ∃ t, tagTypeOk s.1 t = true ∧ Emits s.2 fun x d => d.typeCode = t ∧ (DirsOk x.c → d.NonEmpty)

theorem SlotGood.intro {tag : Nat} {f : Ctx → Option IndexData} {t : Nat}
    (he : Emits f fun x d => d.typeCode = t ∧ (DirsOk x.c → d.NonEmpty)) (ht : tagTypeOk tag t = true) : SlotGood (tag, f) :=
  ⟨t, ht, he⟩

theorem SlotGood.typeOk {s : Slot} (h : SlotGood s) : SlotTypeOk s := by
  obtain ⟨t, ht, he⟩ := h
  intro x d hd; rw [(he x d hd).1]; exact ht

theorem SlotGood.ne {s : Slot} (h : SlotGood s) : SlotNE s.2 := by
  obtain ⟨t, _, he⟩ := h
  intro x d hok hd; exact (he x d hd).2 hok

/-- the three arrays of a dependency kind: omitted together when the list is empty, unless the kind is always written -/
theorem depSlots_good {n v f : Nat} (g : Ctx → List Dep) (al : Bool) (h : al = true → ∀ x, g x ≠ [])
    (hn : tagTypeOk n 8 = true) (hv : tagTypeOk v 8 = true) (hf : tagTypeOk f 4 = true) :
    ∀ s ∈ depSlots n v f g al, SlotGood s := by
  have hne : ∀ x, (!al && (g x).isEmpty) = false → g x ≠ [] := fun x hc => by
    cases al with
    | true => exact h rfl x
    | false => exact List.isEmpty_eq_false_iff.mp hc
  simp only [depSlots, List.forall_mem_cons]
  exact ⟨⟨8, hn, emits_unless fun x hc => ⟨rfl, fun _ => map_ne _ (hne x hc)⟩⟩,
    ⟨8, hv, emits_unless fun x hc => ⟨rfl, fun _ => map_ne _ (hne x hc)⟩⟩,
    ⟨4, hf, emits_unless fun x hc => ⟨rfl, fun _ => map_ne _ (hne x hc)⟩⟩, List.forall_mem_nil _⟩

/-- `Scriptlet::apply`; **fix 024ca91**: an empty interpreter list emits no record -/
theorem scriptSlots_good {a b c : Nat} (g : Cfg → Option Scriptlet)
    (ha : tagTypeOk a 6 = true) (hb : tagTypeOk b 4 = true) (hc : tagTypeOk c 8 = true) :
    ∀ s ∈ scriptSlots a b c g, SlotGood s := by
  simp only [scriptSlots, List.forall_mem_cons]
  refine ⟨⟨6, ha, emits_map fun _ _ _ => ⟨rfl, fun _ => trivial⟩⟩,
    ⟨4, hb, emits_bind fun _ s d _ hd => ?_⟩, ⟨8, hc, emits_bind fun _ s d _ hd => ?_⟩, List.forall_mem_nil _⟩
  · obtain ⟨fl, _, rfl⟩ := Option.map_eq_some_iff.mp hd
    exact ⟨rfl, fun _ => List.cons_ne_nil _ _⟩
  · obtain ⟨p, _, hp⟩ := Option.bind_eq_some_iff.mp hd
    cases he : p.isEmpty with
    | true => rw [he] at hp; cases hp
    | false => rw [he] at hp; cases hp; exact ⟨rfl, fun _ => List.isEmpty_eq_false_iff.mp he⟩

end RpmVerif.Bld
