import RpmVerif.Lemmas.FromEntries
import RpmVerif.Model.Builder
import RpmVerif.Model.Getters
/-! Looking a tag up in a `from_entries` header: the record's data, or `TagNotFound`. -/
namespace RpmVerif.Bld
open RpmVerif.Hdr RpmVerif.Gen

theorem find_of_nodup_keys {α} (key : α → Nat) (l : List α) (hn : (l.map key).Nodup) {x : α} (hx : x ∈ l) :
    l.find? (fun y => key y == key x) = some x := by
  induction l with
  | nil => cases hx
  | cons y ys ih =>
    simp only [List.map_cons, List.nodup_cons] at hn
    simp only [List.find?_cons]
    rcases List.mem_cons.mp hx with rfl | hm
    · simp only [beq_self_eq_true]
    · have hne : key y ≠ key x := by
        intro e; exact hn.1 (e ▸ List.mem_map_of_mem hm)
      have hb : (key y == key x) = false := by simpa using hne
      simp only [hb]
      exact ih hn.2 hm

theorem fromEntries_find {recs : List (Nat × IndexData)} {rt : Nat}
    (hn : (recs.map (·.1)).Nodup) (hrt : ∀ r ∈ recs, r.1 ≠ rt) {t : Nat} {d : IndexData} (hm : (t, d) ∈ recs) :
    ∃ e, (fromEntries recs rt).entries.find? (fun e => e.tag == t) = some e ∧ e.tag = t ∧ e.data = d := by
  simp only [fromEntries]
  generalize hs : recs.mergeSort (fun a b => decide (a.1 ≤ b.1)) = sorted
  have hperm : sorted.Perm recs := by rw [← hs]; exact List.mergeSort_perm recs _
  have htags := layout_tags sorted []
  have hm' : (t, d) ∈ sorted := hperm.mem_iff.mpr hm
  have : (t, d) ∈ (layout sorted []).1.map (fun e => (e.tag, e.data)) := by rw [htags]; exact hm'
  obtain ⟨e, he, hed⟩ := List.mem_map.mp this
  simp only [Prod.mk.injEq] at hed
  obtain ⟨h1, h2⟩ := hed
  have hnod : ((layout sorted []).1.map (·.tag)).Nodup := by
    have e1 : (layout sorted []).1.map (·.tag) = sorted.map (·.1) := by
      conv => rhs; rw [← htags]
      rw [List.map_map]; rfl
    rw [e1]
    exact (hperm.map _).nodup_iff.mpr hn
  have hf := find_of_nodup_keys (fun e : Entry => e.tag) _ hnod he
  simp only [h1] at hf
  refine ⟨e, ?_, h1, h2⟩
  have hne : rt ≠ t := fun e => hrt _ hm e.symm
  have hb : (rt == t) = false := by simpa using hne
  simp only [List.find?_cons, hb]
  exact hf

theorem fromEntries_get {α} (proj : IndexData → Option α) {recs : List (Nat × IndexData)} {rt : Nat}
    (hn : (recs.map (·.1)).Nodup) (hrt : ∀ r ∈ recs, r.1 ≠ rt) {t : Nat} {d : IndexData} (hm : (t, d) ∈ recs) {a : α}
    (hp : proj d = some a) : getWith proj (fromEntries recs rt) t = .ok a := by
  obtain ⟨e, hf, _, hd⟩ := fromEntries_find hn hrt hm
  exact getWith_eq_ok.mpr ⟨e, hf, by rw [hd]; exact hp⟩

/-- a tag that no record carries is reported absent (`TagNotFound`) -/
theorem fromEntries_absent {α} (proj : IndexData → Option α) {recs : List (Nat × IndexData)} {rt t : Nat}
    (hrt : rt ≠ t) (hn : ∀ r ∈ recs, r.1 ≠ t) : getWith proj (fromEntries recs rt) t = .err "notfound" := by
  unfold getWith findEntry
  have : (fromEntries recs rt).entries.find? (fun e => e.tag == t) = none := by
    rw [List.find?_eq_none]
    intro e he
    simp only [fromEntries, List.mem_cons] at he
    rcases he with rfl | he
    · simpa using hrt
    · simpa using hn _ (List.mem_mergeSort.mp (mem_of_mem_layout he))
  rw [this]; rfl

end RpmVerif.Bld
