import RpmVerif.Lemmas.Vercmp
/-!
# Digit strings under the version comparison: numeric order (AUDIT2 c41)

rpm's EVR comparison runs `rpmvercmp` on the epoch TEXTS; rpm itself only ever has all-digit epochs, for which the property
says "compares epoch (empty meaning 0)" — numerically. This file proves that on all-digit strings the token-key order IS the
order of the decimal values: leading zeros are dropped, then more digits win, then the digits decide.
-/
namespace RpmVerif.Vercmp
open Std

def AllDigits (d : Str) : Prop := ∀ c ∈ d, isDigit c = true
instance (d : Str) : Decidable (AllDigits d) := by unfold AllDigits; exact inferInstance

def decAccL (d : Str) (acc : Nat) : Nat :=
  match d with
  | [] => acc
  | c :: r => decAccL r (acc * 10 + (c - 48))
def decAcc (acc : Nat) (d : Str) : Nat := decAccL d acc
def decVal (d : Str) : Nat := decAcc 0 d

theorem decAcc_cons (a x : Nat) (r : Str) : decAcc a (x :: r) = decAcc (a * 10 + (x - 48)) r := by
  unfold decAcc; rw [decAccL]
theorem decAcc_nil (a : Nat) : decAcc a [] = a := by unfold decAcc; rw [decAccL]

theorem allDigits_tail {x : Nat} {r : Str} (h : AllDigits (x :: r)) : isDigit x = true ∧ AllDigits r :=
  ⟨h x (by simp), fun c hc => h c (List.mem_cons_of_mem _ hc)⟩

theorem compare_step (a1 a2 : Nat) {x y : Nat} (hx : isDigit x = true) (hy : isDigit y = true) :
    compare (a1 * 10 + (x - 48)) (a2 * 10 + (y - 48)) = (compare a1 a2).then (compare x y) := by
  rw [isDigit_iff] at hx hy
  rcases Nat.lt_trichotomy a1 a2 with h | rfl | h
  · rw [Nat.compare_eq_lt.mpr h, Nat.compare_eq_lt.mpr (by omega)]; rfl
  · rw [Nat.compare_eq_eq.mpr rfl, Ordering.eq_then]
    rcases Nat.lt_trichotomy x y with g | rfl | g
    · rw [Nat.compare_eq_lt.mpr g, Nat.compare_eq_lt.mpr (by omega)]
    · rw [Nat.compare_eq_eq.mpr rfl, Nat.compare_eq_eq.mpr rfl]
    · rw [Nat.compare_eq_gt.mpr g, Nat.compare_eq_gt.mpr (by omega)]
  · rw [Nat.compare_eq_gt.mpr h, Nat.compare_eq_gt.mpr (by omega)]; rfl

theorem compare_decAcc_same_len (l1 l2 : Str) (h1 : AllDigits l1) (h2 : AllDigits l2) (hl : l1.length = l2.length)
    (a1 a2 : Nat) : compare (decAcc a1 l1) (decAcc a2 l2) = (compare a1 a2).then (compare l1 l2) := by
  induction l1 generalizing l2 a1 a2 with
  | nil =>
    cases l2 with
    | nil =>
      simp only [decAcc_nil, List.compare_nil_nil]
      cases compare a1 a2 <;> rfl
    | cons y s => simp at hl
  | cons x r ih =>
    cases l2 with
    | nil => simp at hl
    | cons y s =>
      obtain ⟨dx, hr⟩ := allDigits_tail h1
      obtain ⟨dy, hs⟩ := allDigits_tail h2
      rw [decAcc_cons, decAcc_cons, ih s hr hs (by simpa using hl), compare_step _ _ dx dy, List.compare_cons_cons,
        Ordering.then_assoc]

theorem decAcc_eq (a : Nat) (l : Str) : decAcc a l = a * 10 ^ l.length + decVal l := by
  induction l generalizing a with
  | nil => simp [decAcc_nil, decVal]
  | cons x r ih =>
    rw [decVal, decAcc_cons, decAcc_cons, ih, ih (0 * 10 + _), List.length_cons, Nat.pow_succ, Nat.zero_mul, Nat.zero_add,
      Nat.add_mul, Nat.mul_assoc, Nat.mul_comm 10, Nat.add_assoc]

theorem decVal_cons (x : Nat) (r : Str) : decVal (x :: r) = (x - 48) * 10 ^ r.length + decVal r := by
  rw [decVal, decAcc_cons, decAcc_eq, Nat.zero_mul, Nat.zero_add]

theorem decVal_lt {l : Str} (h : AllDigits l) : decVal l < 10 ^ l.length := by
  induction l with
  | nil => decide
  | cons x r ih =>
    obtain ⟨dx, hr⟩ := allDigits_tail h
    rw [isDigit_iff] at dx
    have := ih hr
    have : (x - 48) * 10 ^ r.length ≤ 9 * 10 ^ r.length := Nat.mul_le_mul_right _ (by omega)
    rw [decVal_cons, List.length_cons, Nat.pow_succ]
    omega

def NoLeadZero (l : Str) : Prop := ∀ x r, l = x :: r → x ≠ 48

theorem decVal_lt_of_shorter (n1 n2 : Str) (h1 : AllDigits n1) (h2 : AllDigits n2) (z2 : NoLeadZero n2)
    (hl : n1.length < n2.length) : decVal n1 < decVal n2 := by
  cases n2 with
  | nil => simp at hl
  | cons y s =>
    have dy := isDigit_iff.mp (allDigits_tail h2).1
    have hy : y ≠ 48 := z2 y s rfl
    have := decVal_lt h1
    have : 10 ^ n1.length ≤ 10 ^ s.length := Nat.pow_le_pow_right (by decide) (by simpa using Nat.lt_succ_iff.mp hl)
    have : 1 * 10 ^ s.length ≤ (y - 48) * 10 ^ s.length := Nat.mul_le_mul_right _ (by omega)
    rw [decVal_cons]
    omega

theorem numTok_compare (n1 n2 : Str) (h1 : AllDigits n1) (h2 : AllDigits n2) (z1 : NoLeadZero n1) (z2 : NoLeadZero n2) :
    (compare n1.length n2.length).then (compare n1 n2) = compare (decVal n1) (decVal n2) := by
  rcases Nat.lt_trichotomy n1.length n2.length with h | h | h
  · rw [Nat.compare_eq_lt.mpr h, Nat.compare_eq_lt.mpr (decVal_lt_of_shorter n1 n2 h1 h2 z2 h)]; rfl
  · rw [Nat.compare_eq_eq.mpr h]
    have := compare_decAcc_same_len n1 n2 h1 h2 h 0 0
    rw [Nat.compare_eq_eq.mpr rfl] at this
    exact this.symm
  · rw [Nat.compare_eq_gt.mpr h, Nat.compare_eq_gt.mpr (decVal_lt_of_shorter n2 n1 h2 h1 z1 h)]; rfl

theorem dropLeadingZeros_spec (d : Str) (h : AllDigits d) :
    decVal (d.dropWhile (· == 48)) = decVal d ∧ AllDigits (d.dropWhile (· == 48)) ∧ NoLeadZero (d.dropWhile (· == 48)) := by
  induction d with
  | nil => exact ⟨rfl, h, by intro x r e; cases e⟩
  | cons x r ih =>
    obtain ⟨dx, hr⟩ := allDigits_tail h
    by_cases hx : x = 48
    · subst hx
      have e : (48 :: r).dropWhile (· == 48) = r.dropWhile (· == 48) := by simp
      rw [e]
      obtain ⟨v, a, z⟩ := ih hr
      exact ⟨by rw [v]; rfl, a, z⟩
    · have e : (x :: r).dropWhile (· == 48) = x :: r := by simp [hx]
      rw [e]
      exact ⟨rfl, h, by intro y s e'; cases e'; exact hx⟩

theorem allDigits_run {l : Str} (h : AllDigits l) : l.takeWhile isDigit = l ∧ l.dropWhile isDigit = [] := by
  induction l with
  | nil => exact ⟨rfl, rfl⟩
  | cons y s ih =>
    obtain ⟨dy, hs⟩ := allDigits_tail h
    exact ⟨by rw [List.takeWhile_cons, if_pos dy, (ih hs).1], by rw [List.dropWhile_cons, if_pos dy, (ih hs).2]⟩

theorem dropWhile_sep_digit {x : Nat} (r : Str) (h : isDigit x = true) : (x :: r).dropWhile isSep = x :: r := by
  rw [List.dropWhile_cons, if_neg (by simp [isSep, h])]

/-- **numeric order on digit strings**: two non-empty all-digit strings compare (under the token-key order, hence under
`compare_version_string` and `rpmvercmp`) exactly as their decimal values — `00` = `0`, `007` < `10`, 2⁶⁴ > 2⁶⁴ − 1. -/
theorem keyCmp_digits (a b : Str) (ha : AllDigits a) (hb : AllDigits b) (na : a ≠ []) (nb : b ≠ []) :
    keyCmp a b = compare (decVal a) (decVal b) := by
  cases a with
  | nil => exact absurd rfl na
  | cons x r =>
    cases b with
    | nil => exact absurd rfl nb
    | cons y s =>
      obtain ⟨va, da, za⟩ := dropLeadingZeros_spec _ ha
      obtain ⟨vb, db, zb⟩ := dropLeadingZeros_spec _ hb
      rw [keyCmp_digit (dropWhile_sep_digit r (ha x (by simp))) (dropWhile_sep_digit s (hb y (by simp))) (ha x (by simp))
        (hb y (by simp)), (allDigits_run ha).1, (allDigits_run ha).2, (allDigits_run hb).1, (allDigits_run hb).2,
        keyCmp_nil rfl rfl, Ordering.then_eq, numTok_compare _ _ da db za zb, va, vb]

theorem epochOr0_digits (a : Str) (ha : AllDigits a) :
    AllDigits (epochOr0 a) ∧ epochOr0 a ≠ [] ∧ decVal (epochOr0 a) = decVal a := by
  cases a with
  | nil => exact ⟨by intro c hc; simp [epochOr0] at hc; subst hc; decide, by simp [epochOr0], by decide⟩
  | cons x r => exact ⟨ha, by simp [epochOr0], rfl⟩

end RpmVerif.Vercmp
