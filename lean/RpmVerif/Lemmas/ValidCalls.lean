import RpmVerif.Lemmas.ValidInputs
import RpmVerif.Lemmas.PrepareData
import RpmVerif.Lemmas.AddData
import RpmVerif.Props.C20
/-!
# From the CALLS to `CfgOk`: what the builder is given decides whether its header is well formed (audit items c17 / c18)

`Lemmas/ValidInputs.lean` goes from the builder state to `C06.Valid`; this file goes from the arguments of the calls
(`Build.Call`: every setter, `with_file` with its options chain) to that state:

* a destination that is a NUL-free Rust string is split into a directory and a base name that are NUL-free Rust strings
  (`addData_rustStr`: the pieces of valid UTF-8 between `/` are valid UTF-8, and so is anything joined from them);
* the `FileOptions` chain keeps its strings / flag words in range (`applySetters_optsOk`), so `with_file` stores a `FileOk` entry;
* every metadata setter keeps `CfgOk` (`cfgOk_apply`), `PackageBuilder::new` establishes it (`cfgOk_new`);
* hence `StOk` after any successful call sequence (`StOk.run`).
-/
namespace RpmVerif.Build
open RpmVerif.Hdr RpmVerif.Bld RpmVerif.AddData RpmVerif.WithFile RpmVerif.Path RpmVerif.Utf8

def Pieces (l : List Bytes) : Prop := ∀ p ∈ l, RustStr p

-- `/` (47) is an ASCII byte: it is neither a lead byte nor a later byte of a multi-byte scalar
theorem lead_ne_sep {b : UInt8} (h : ¬ b < 0x80) : b ≠ 47 := fun e => h (e ▸ by decide)

theorem isCont_ne_sep {b : UInt8} (h : isCont b = true) : b ≠ 47 := by
  rintro rfl; exact absurd h (by decide)

theorem ok3_ne_sep {b0 b1 : UInt8} (h : ok3 b0 b1 = true) : b1 ≠ 47 := by
  rintro rfl
  unfold ok3 at h
  split at h
  · exact absurd h (by decide)
  · split at h <;> exact absurd h (by decide)

theorem ok4_ne_sep {b0 b1 : UInt8} (h : ok4 b0 b1 = true) : b1 ≠ 47 := by
  rintro rfl
  unfold ok4 at h
  split at h
  · exact absurd h (by decide)
  · split at h <;> exact absurd h (by decide)

theorem scalar_sep_or_not {c : Bytes} (h : Scalar c) : c = [47] ∨ ∀ b ∈ c, b ≠ 47 := by
  match c, h with
  | [b0], _ =>
    by_cases e : b0 = 47
    · exact .inl (e ▸ rfl)
    · exact .inr fun b hb => List.mem_singleton.mp hb ▸ e
  | [b0, b1], ⟨h0, h1⟩ =>
    simp only [List.forall_mem_cons, List.not_mem_nil, false_imp_iff, implies_true, and_true]
    exact .inr ⟨lead_ne_sep (lead2 _ h0), isCont_ne_sep h1⟩
  | [b0, b1, b2], ⟨h0, h1, h2⟩ =>
    simp only [List.forall_mem_cons, List.not_mem_nil, false_imp_iff, implies_true, and_true]
    exact .inr ⟨lead_ne_sep (lead3 _ h0).1, ok3_ne_sep h1, isCont_ne_sep h2⟩
  | [b0, b1, b2, b3], ⟨h0, h1, h2, h3⟩ =>
    simp only [List.forall_mem_cons, List.not_mem_nil, false_imp_iff, implies_true, and_true]
    exact .inr ⟨lead_ne_sep (lead4 _ h0).1, ok4_ne_sep h1, isCont_ne_sep h2, isCont_ne_sep h3⟩

theorem splitSep_append_noSep (c r : Bytes) (h : ∀ b ∈ c, b ≠ 47) :
    splitSep (c ++ r) = (c ++ (splitSep r).headD []) :: (splitSep r).tail := by
  induction c with
  | nil => simp only [List.nil_append]; exact splitSep_eq_cons r
  | cons b t ih =>
    have hb : b ≠ 47 := h b (by simp)
    rw [List.cons_append, splitSep_cons_ne hb, ih (fun x hx => h x (by simp [hx]))]
    rfl

theorem valid_pieces {s : Bytes} (h : Valid s) : ∀ p ∈ splitSep s, Valid p := by
  induction h with
  | nil => intro p hp; simp only [splitSep_nil, List.mem_singleton] at hp; subst hp; exact .nil
  | @cons c r hc _ ih =>
    intro p hp
    rcases scalar_sep_or_not hc with rfl | hns
    · rw [show [47] ++ r = 47 :: r from rfl, splitSep_cons_sep] at hp
      rcases List.mem_cons.mp hp with rfl | hp
      · exact .nil
      · exact ih p hp
    · rw [splitSep_append_noSep c r hns] at hp
      have hhead : Valid ((splitSep r).headD []) := by
        have := splitSep_eq_cons r
        exact ih _ (by rw [this]; exact List.mem_cons_self ..)
      rcases List.mem_cons.mp hp with rfl | hp
      · exact .cons hc hhead
      · exact ih p (List.mem_of_mem_tail hp)

theorem mem_of_mem_piece {s p : Bytes} {b : UInt8} (hp : p ∈ splitSep s) (hb : b ∈ p) : b ∈ s := by
  have := joinSep_splitSep s
  rw [← this]
  clear this
  generalize splitSep s = l at hp
  induction l with
  | nil => cases hp
  | cons a t ih =>
    cases t with
    | nil => simp only [List.mem_singleton] at hp; subst hp; simpa [joinSep] using hb
    | cons x u =>
      rw [joinSep_cons_cons]
      rcases List.mem_cons.mp hp with rfl | hp
      · exact List.mem_append_left _ hb
      · exact List.mem_append_right _ (List.mem_cons_of_mem _ (ih hp))

theorem pieces_splitSep {s : Bytes} (h : RustStr s) : Pieces (splitSep s) :=
  fun p hp => ⟨fun m => h.1 (mem_of_mem_piece hp m), valid_pieces h.2 p hp⟩

theorem Pieces.tail {a : Bytes} {l : List Bytes} (h : Pieces (a :: l)) : Pieces l := fun p hp => h p (List.mem_cons_of_mem _ hp)

theorem rustStr_joinSep {l : List Bytes} (h : Pieces l) : RustStr (joinSep l) := by
  cases l with
  | nil => exact rustStr_nil
  | cons a t =>
    simp only [joinSep]
    refine (h a (List.mem_cons_self ..)).append ?_
    have ht : Pieces t := h.tail
    clear h
    induction t with
    | nil => exact rustStr_nil
    | cons x u ih =>
      simp only [List.flatMap_cons]
      exact ((rustStr_ascii [47] (by decide)).append (ht x (List.mem_cons_self ..))).append (ih ht.tail)

theorem rustStr_dirOf {x : Bytes} (h : RustStr x) : RustStr (dirOf x) := by
  unfold dirOf
  split
  · exact rustStr_ascii [47] (by decide)
  · exact (rustStr_ascii [47] (by decide)).append (h.append (rustStr_ascii [47] (by decide)))

theorem addData_rustStr {dest cpio dir base : Bytes} (hd : RustStr dest) (h : addData dest = .ok (cpio, dir, base)) :
    RustStr dir ∧ RustStr base := by
  obtain ⟨⟨c, d, b⟩, hraw, he⟩ := Out.map_eq_ok.mp h
  cases he
  obtain ⟨pre, J, x, _, hS, _, _, _, _, _, rfl, hx⟩ := addDataRaw_ok hraw
  have hp := pieces_splitSep hd
  rw [hS] at hp
  refine ⟨rustStr_dirOf ?_, hp _ (List.mem_append_right _ (List.mem_cons_self ..))⟩
  -- a piece of the directory text is `""`, `"."`, or one of the naming pieces in front of the base name
  rw [← joinSep_splitSep x]
  refine rustStr_joinSep fun p hpm => ?_
  cases ht : isTriv p with
  | true =>
    rcases (by simpa [isTriv] using ht : p = [] ∨ p = [46]) with rfl | rfl
    · exact rustStr_nil
    · exact rustStr_ascii [46] (by decide)
  | false =>
    have : p ∈ nameParts pre := hx ▸ List.mem_filter.mpr ⟨hpm, by simp [ht]⟩
    exact hp p (List.mem_append_left _ (List.mem_filter.mp this).1)

/-- the arguments of one `FileOptionsBuilder` setter: NUL-free Rust strings; a `FileVerifyFlags` is a `u32`; a `FileMode` value
converts to a `u16` (all four variants of the Rust enum do) -/
def SetterArgsOk : Setter → Prop
  | .user u => RustStr u
  | .group g => RustStr g
  | .symlink l => RustStr l
  | .mode m => FileMode.rawMode m < 65536
  | .caps t => RustStr t
  | .verify f => f < 4294967296
  | .flag _ => True

structure OptsOk (o : FileOpts) : Prop where
  user : RustStr o.user
  group : RustStr o.group
  symlink : RustStr o.symlink
  caps : ∀ c, o.caps = some c → RustStr c
  flag : o.flag < 4294967296
  verify : o.verifyFlags < 4294967296
  mode : o.inheritPermissions = false → FileMode.rawMode o.mode < 65536

theorem optsOk_new (dest : Bytes) : OptsOk (FileOpts.new dest) where
  user := rustStr_ascii Gen.fileOptionsNewUser (by decide)
  group := rustStr_ascii Gen.fileOptionsNewGroup (by decide)
  symlink := rustStr_ascii Gen.fileOptionsNewSymlink (by decide)
  caps := fun c h => nomatch h
  flag := (by decide : Gen.fileOptionsNewFlag < 4294967296)
  verify := (by decide : Gen.fileOptionsNewVerifyFlags < 4294967296)
  mode := fun _ => (by decide : FileMode.rawMode defaultMode < 65536)

theorem setterBits_lt (i : Nat) : setterBits i < 4294967296 := by
  unfold setterBits
  cases h : Gen.fileOptionSetters[i]? with
  | none => decide
  | some e =>
    have hall : ∀ e ∈ Gen.fileOptionSetters, e.2 < 4294967296 := by decide
    exact hall e (List.mem_of_getElem? h)

theorem Setter.apply_ok {valid : Bytes → Bool} {s : Setter} {o o' : FileOpts} (h : s.apply valid o = .ok o') : o' = s.effect o := by
  rcases Setter.apply_cases valid s o with e | e <;> rw [e] at h <;> cases h
  rfl

theorem Setter.effect_optsOk {s : Setter} {o : FileOpts} (ok : OptsOk o) (ha : SetterArgsOk s) : OptsOk (s.effect o) := by
  cases s with
  | user u => exact { ok with user := ha }
  | group g => exact { ok with group := ha }
  | symlink l => exact { ok with symlink := ha }
  | mode m => exact ⟨ok.user, ok.group, ok.symlink, ok.caps, ok.flag, ok.verify, fun _ => ha⟩
  | caps t => exact { ok with caps := fun c hc => Option.some.inj hc ▸ ha }
  | verify f => exact { ok with verify := ha }
  | flag i => exact { ok with flag := Nat.or_lt_two_pow (n := 32) ok.flag (setterBits_lt i) }

theorem applySetters_optsOk {valid : Bytes → Bool} {ss : List Setter} {o o' : FileOpts} (ok : OptsOk o)
    (ha : ∀ s ∈ ss, SetterArgsOk s) (h : applySetters valid ss o = .ok o') : OptsOk o' := by
  induction ss generalizing o with
  | nil => cases h; exact ok
  | cons s r ih =>
    obtain ⟨o₁, h1, h2⟩ := applySetters_cons_ok h
    exact ih (Setter.apply_ok h1 ▸ Setter.effect_optsOk ok (ha s (List.mem_cons_self ..))) (fun t ht => ha t (List.mem_cons_of_mem _ ht)) h2

/-- one `with_file` call whose destination and options are NUL-free Rust strings (the digest text is the separate hypothesis
`hsha` of `runCall_fileOk`) -/
def CallArgsOk (c : WithFile.Call) : Prop := RustStr c.dest ∧ ∀ s ∈ c.setters, SetterArgsOk s

theorem runCall_ok {sha256hex : Bytes → Bytes} {valid : Bytes → Bool} {c : WithFile.Call} {e : FileE}
    (h : runCall sha256hex valid c = .ok e) :
    ∃ f o cpio dir base, c.src = .readable f ∧ 0 ≤ f.mtime.secs ∧ f.mtime.secs < 4294967296 ∧
      applySetters valid c.setters (FileOpts.new c.dest) = .ok o ∧ AddData.addData c.dest = .ok (cpio, dir, base) ∧
      e = entryFor sha256hex f o cpio dir base := by
  obtain ⟨o, ho, hw⟩ := Out.bind_eq_ok.mp (runCall_eq .. ▸ h)
  obtain ⟨f, cpio, dir, base, hs, h0, h1, ha, he⟩ := withFile_ok hw
  have hd : o.destination = c.dest := applySetters_keeps_dest ho
  exact ⟨f, o, cpio, dir, base, hs, h0, h1, ho, hd ▸ ha, he⟩

theorem runCall_fileOk {sha256hex : Bytes → Bytes} {valid : Bytes → Bool} {c : WithFile.Call} {e : FileE}
    (hsha : ∀ b, RustStr (sha256hex b)) (ha : CallArgsOk c) (h : runCall sha256hex valid c = .ok e) :
    FileOk e ∧ RustStr e.dir := by
  obtain ⟨f, o, cpio, dir, base, _, h0, h1, hs, hadd, rfl⟩ := runCall_ok h
  have ok := applySetters_optsOk (optsOk_new c.dest) ha.2 hs
  obtain ⟨hdir, hbase⟩ := addData_rustStr ha.1 hadd
  refine ⟨⟨hbase, ok.user, ok.group, ok.symlink, ok.caps, hsha _, ?_, ok.flag, ok.verify, ?_⟩, hdir⟩
  · show (if o.inheritPermissions then f.stMode % 65536 else FileMode.rawMode o.mode) < 65536
    cases hi : o.inheritPermissions with
    | true => exact Nat.mod_lt _ (by decide)
    | false => exact ok.mode hi
  · show f.mtime.secs.toNat < 4294967296
    omega

def MetaArgsOk : MetaSetter → Prop
  | .epoch n => n < 4294967296
  | .release s | .url s | .vcs s | .description s | .vendor s | .packager s | .group s | .buildHost s | .cookie s => RustStr s
  | .sourceDate t => t < 4294967296
  | .compression _ => True
  | .changelog n e t => RustStr n ∧ RustStr e ∧ t < 4294967296
  | .script _ s => ScriptOk s
  | .dep _ d => DepOk d

theorem cfgOk_apply {c : Cfg} (ok : CfgOk c) {m : MetaSetter} (ha : MetaArgsOk m) : CfgOk (MetaSetter.apply c m) := by
  have set {α} {P : α → Prop} {a : α} (h : P a) : ∀ x, some a = some x → P x := fun _ e => Option.some.inj e ▸ h
  have push {α} {P : α → Prop} {l : List α} {a : α} (hl : ∀ x ∈ l, P x) (h : P a) : ∀ x ∈ l ++ [a], P x :=
    fun x hx => (List.mem_append.mp hx).elim (hl x) (List.mem_singleton.mp · ▸ h)
  -- one goal for each equation of `MetaSetter.apply`, in its order
  fun_cases MetaSetter.apply c m
  · exact { ok with epoch := ha }
  · exact { ok with release := ha }
  · exact { ok with url := set ha }
  · exact { ok with vcs := set ha }
  · exact { ok with desc := set ha }
  · exact { ok with vendor := set ha }
  · exact { ok with packager := set ha }
  · exact { ok with group := set ha }
  · exact { ok with buildHost := set ha }
  · exact { ok with sourceDate := set ha }
  · exact { ok with cookie := set ha }
  · exact { ok with }
  · exact { ok with changelog := push ok.changelog ha }
  · exact { ok with preIn := set ha }
  · exact { ok with postIn := set ha }
  · exact { ok with preUn := set ha }
  · exact { ok with postUn := set ha }
  · exact { ok with preTrans := set ha }
  · exact { ok with postTrans := set ha }
  · exact { ok with preUntrans := set ha }
  · exact { ok with postUntrans := set ha }
  · exact { ok with verify := set ha }
  · exact ok
  · exact { ok with provides := push ok.provides ha }
  · exact { ok with requires := push ok.requires ha }
  · exact { ok with conflicts := push ok.conflicts ha }
  · exact { ok with obsoletes := push ok.obsoletes ha }
  · exact { ok with recommends := push ok.recommends ha }
  · exact { ok with suggests := push ok.suggests ha }
  · exact { ok with enhances := push ok.enhances ha }
  · exact { ok with supplements := push ok.supplements ha }
  · exact ok

theorem hexLower_length (bs : Bytes) : (Digest.hexLower bs).length = 2 * bs.length := by
  induction bs with
  | nil => rfl
  | cons b r ih =>
    have : Digest.hexLower (b :: r) = [Digest.hexDigitByte (b.toNat / 16), Digest.hexDigitByte (b.toNat % 16)] ++ Digest.hexLower r := by
      simp [Digest.hexLower]
    rw [this, List.length_append, ih]; simp; omega

/-- the arguments of one call: NUL-free Rust strings, numbers of the width of their Rust type. (A `SystemTime` / `DateTime`
argument needs no condition here: the call either panics or stores a `u32`.) -/
def Call.ArgsOk : Call → Prop
  | .set m => MetaArgsOk m
  | .sourceDate (.secs n) => n < 4294967296
  | .sourceDate (.src _) => True
  | .changelog n e (.secs t) => RustStr n ∧ RustStr e ∧ t < 4294967296
  | .changelog n e (.src _) => RustStr n ∧ RustStr e
  | .file c => CallArgsOk c

structure StOk (s : St) : Prop where
  base : CfgOk s.base
  files : ∀ p ∈ s.fes, FileOk p.1
  dirs : ∀ d ∈ s.dirs, RustStr d

theorem timestampSetter_lt {t : TsArg} {n : Nat} (h : (timestampSetter t).toOption = some n)
    (hs : ∀ k, t = .secs k → k < 4294967296) : n < 4294967296 := by
  cases t with
  | secs k => exact Option.some.inj h ▸ hs k rfl
  | src x =>
    simp only [timestampSetter] at h
    cases hc : Timestamp.convert x with
    | ok m => rw [hc] at h; exact Option.some.inj h ▸ ((C20.ts_ok_iff x m).mp hc).2
    | underflow => rw [hc] at h; cases h
    | overflow => rw [hc] at h; cases h
    | panic p => rw [hc] at h; cases h

theorem metaOf_argsOk {c : Call} {m : MetaSetter} (hm : metaOf c = some m) (ha : c.ArgsOk) : MetaArgsOk m := by
  cases c with
  | set _ => cases hm; exact ha
  | sourceDate t =>
    obtain ⟨n, hn, rfl⟩ := Option.map_eq_some_iff.mp hm
    exact timestampSetter_lt hn fun k hk => by subst hk; exact ha
  | changelog name entry t =>
    obtain ⟨n, hn, rfl⟩ := Option.map_eq_some_iff.mp hm
    cases t with
    | secs k => exact ⟨ha.1, ha.2.1, timestampSetter_lt hn fun _ hk => by cases hk; exact ha.2.2⟩
    | src x => exact ⟨ha.1, ha.2, timestampSetter_lt hn nofun⟩
  | file _ => cases hm

theorem mem_insertDir {d x : Bytes} {l : List Bytes} (h : x ∈ insertDir d l) : x = d ∨ x ∈ l :=
  mem_insertKeyed _ (insertDir_eq .. ▸ h)

theorem StOk.step {sha256hex : Bytes → Bytes} {valid : Bytes → Bool} {s s' : St} {c : Call} (ok : StOk s)
    (hsha : ∀ b, RustStr (sha256hex b)) (ha : c.ArgsOk) (h : step sha256hex valid s c = .ok s') : StOk s' := by
  rcases step_ok h with ⟨m, hm, _, rfl⟩ | ⟨wc, e, rfl, hr, rfl⟩
  · exact ⟨cfgOk_apply ok.base (metaOf_argsOk hm ha), ok.files, ok.dirs⟩
  · obtain ⟨hf, hd⟩ := runCall_fileOk hsha ha hr
    exact ⟨ok.base, fun p hp => (mem_insertFE hp).elim (· ▸ hf) (ok.files p),
      fun d hdm => (mem_insertDir hdm).elim (· ▸ hd) (ok.dirs d)⟩

theorem StOk.run {sha256hex : Bytes → Bytes} {valid : Bytes → Bool} {calls : List Call} {s s' : St} (ok : StOk s)
    (hsha : ∀ b, RustStr (sha256hex b)) (ha : ∀ c ∈ calls, c.ArgsOk) (h : run sha256hex valid calls s = .ok s') : StOk s' := by
  induction calls generalizing s with
  | nil => cases h; exact ok
  | cons c r ih =>
    obtain ⟨s1, h1, h2⟩ := run_cons_ok h
    exact ih (ok.step hsha (ha c (List.mem_cons_self ..)) h1) (fun x hx => ha x (List.mem_cons_of_mem _ hx)) h2

theorem cfgOk_new {name version license arch summary : Bytes} (dc : Bld.Comp) (h1 : RustStr name) (h2 : RustStr version)
    (h3 : RustStr license) (h4 : RustStr arch) (h5 : RustStr summary) : CfgOk (Cfg.new name version license arch summary dc) where
  name := h1
  version := h2
  release := rustStr_ascii Gen.builderNewRelease (by decide)
  license := h3
  arch := h4
  summary := h5
  epoch := (by decide : Gen.builderNewEpoch < 4294967296)
  desc := nofun
  vendor := nofun
  packager := nofun
  group := nofun
  url := nofun
  vcs := nofun
  cookie := nofun
  buildHost := nofun
  sourceDate := nofun
  files := nofun
  dirs := nofun
  provides := nofun
  requires := nofun
  conflicts := nofun
  obsoletes := nofun
  recommends := nofun
  suggests := nofun
  enhances := nofun
  supplements := nofun
  preIn := nofun
  postIn := nofun
  preUn := nofun
  postUn := nofun
  preTrans := nofun
  postTrans := nofun
  preUntrans := nofun
  postUntrans := nofun
  verify := nofun
  changelog := nofun
  threshold := Nat.le_refl _
  total := (by decide : (0 : Nat) < 18446744073709551616)

theorem stOk_new {name version license arch summary : Bytes} (dc : Bld.Comp) (h1 : RustStr name) (h2 : RustStr version)
    (h3 : RustStr license) (h4 : RustStr arch) (h5 : RustStr summary) : StOk (St.new name version license arch summary dc) :=
  ⟨cfgOk_new dc h1 h2 h3 h4 h5, (fun p hp => by cases hp), (fun d hd => by cases hd)⟩

theorem StOk.cfgOk {s : St} (ok : StOk s) (ht : combinedSize s.cfg < 18446744073709551616) : CfgOk s.cfg :=
  { ok.base with
    files := fun f hf => by
      obtain ⟨p, hp, rfl⟩ := List.mem_map.mp hf
      exact ok.files p hp
    dirs := ok.dirs
    total := ht }

end RpmVerif.Build
