import RpmVerif.Model.Verify
/-!
Helper lemmas for the model of rpm-rs's own `pgp::Verifier::verify` (`pgpVerifierVerify`, the code after fix
c25de51): a successful subkey loop / issuer loop names a key that was selected by an issuer id and whose
cryptographic check passed over the FULL data. Congruence (`AgreeAt`, `*_congr`): the loops look at the environment only
through `kid`, `early · sig`, `check · data sig`; hence the packet-level model `pgpVerifierVerifyP` is the blob-level one at
`PgpPkt.toEnv`, and blobs with the same first signature packet get the same verdict.
-/
namespace RpmVerif.Verify

variable {K : Type}

theorem attempt_ok {E : PgpEnv K} {k : K} {data sig : Bytes} (h : (attempt E k data sig).1 = true) :
    E.early k sig = false ∧ E.check k data sig = true := by
  unfold attempt at h
  cases he : E.early k sig
  · simp only [he, Bool.false_eq_true, if_false] at h; exact ⟨rfl, h⟩
  · simp [he] at h

theorem subkeyLoop_found (E : PgpEnv K) (data sig : Bytes) (id : Nat) (ks : List K) (failed : Bool) (log : List (Attempt K))
    (h : (subkeyLoop E data sig id ks failed log).1 = true) :
    ∃ k ∈ ks, E.kid k = id ∧ E.early k sig = false ∧ E.check k data sig = true := by
  fun_induction subkeyLoop E data sig id ks failed log with
  | case1 => cases h
  | case2 k ks failed log hk hr => exact ⟨k, List.mem_cons_self, hk, attempt_ok hr⟩
  | case3 k ks failed log hk hr ih =>
    obtain ⟨k', hm, h'⟩ := ih h
    exact ⟨k', List.mem_cons_of_mem _ hm, h'⟩
  | case4 k ks failed log hk ih =>
    obtain ⟨k', hm, h'⟩ := ih h
    exact ⟨k', List.mem_cons_of_mem _ hm, h'⟩

theorem issuerLoop_ok (E : PgpEnv K) (ring : KeyRing K) (data sig : Bytes) (ids : List Nat) (failed : Bool)
    (log : List (Attempt K)) (h : (issuerLoop E ring data sig ids failed log).1 = .ok ()) :
      ∃ k, ((k = ring.primary ∧ E.kid ring.primary ∈ ids) ∨ (k ∈ ring.subkeys ∧ E.kid k ∈ ids)) ∧
        E.early k sig = false ∧ E.check k data sig = true := by
  fun_induction issuerLoop E ring data sig ids failed log with
  | case1 => cases h
  | case2 failed log ids =>
    cases hr : (attempt E ring.primary data sig).1
    · rw [hr] at h; cases h
    · exact ⟨ring.primary, .inl ⟨rfl, List.mem_cons_self⟩, attempt_ok hr⟩
  | case3 id ids failed log hp f log' hs =>
    obtain ⟨k, hm, hid, hc⟩ := subkeyLoop_found E data sig id ring.subkeys failed log (by rw [hs])
    exact ⟨k, .inr ⟨hm, hid ▸ List.mem_cons_self⟩, hc⟩
  | case4 id ids failed log hp failed' log' hs ih =>
    obtain ⟨k, hsel, hc⟩ := ih h
    refine ⟨k, ?_, hc⟩
    rcases hsel with ⟨h1, h2⟩ | ⟨h1, h2⟩
    · exact .inl ⟨h1, List.mem_cons_of_mem _ h2⟩
    · exact .inr ⟨h1, List.mem_cons_of_mem _ h2⟩

/-- two environments (each with its own signature argument) that agree on the key ids and, for THESE signatures and
this data, on the early and the real checks -/
structure AgreeAt (E1 E2 : PgpEnv K) (data sig1 sig2 : Bytes) : Prop where
  kid : ∀ k, E1.kid k = E2.kid k
  early : ∀ k, E1.early k sig1 = E2.early k sig2
  check : ∀ k, E1.check k data sig1 = E2.check k data sig2

theorem attempt_congr {E1 E2 : PgpEnv K} {data sig1 sig2 : Bytes} (h : AgreeAt E1 E2 data sig1 sig2) (k : K) :
    attempt E1 k data sig1 = attempt E2 k data sig2 := by
  unfold attempt; rw [h.early k, h.check k]

theorem subkeyLoop_congr {E1 E2 : PgpEnv K} {data sig1 sig2 : Bytes} (h : AgreeAt E1 E2 data sig1 sig2) (id : Nat)
    (ks : List K) : ∀ (failed : Bool) (log : List (Attempt K)),
      subkeyLoop E1 data sig1 id ks failed log = subkeyLoop E2 data sig2 id ks failed log := by
  induction ks with
  | nil => intro failed log; rfl
  | cons k ks ih =>
    intro failed log
    simp only [subkeyLoop, h.kid k, attempt_congr h k, ih]

theorem issuerLoop_congr {E1 E2 : PgpEnv K} {data sig1 sig2 : Bytes} (h : AgreeAt E1 E2 data sig1 sig2)
    (ring : KeyRing K) (ids : List Nat) : ∀ (failed : Bool) (log : List (Attempt K)),
      issuerLoop E1 ring data sig1 ids failed log = issuerLoop E2 ring data sig2 ids failed log := by
  induction ids with
  | nil => intro failed log; rfl
  | cons id ids ih =>
    intro failed log
    simp only [issuerLoop, h.kid ring.primary, attempt_congr h ring.primary, subkeyLoop_congr h, ih]

theorem pgpVerifierVerify_congr {E1 E2 : PgpEnv K} {data sig1 sig2 : Bytes} (h : AgreeAt E1 E2 data sig1 sig2)
    (hi : E1.issuers sig1 = E2.issuers sig2) (ring : KeyRing K) :
    pgpVerifierVerify E1 ring data sig1 = pgpVerifierVerify E2 ring data sig2 := by
  unfold pgpVerifierVerify
  rw [hi]
  cases E2.issuers sig2 with
  | none => rfl
  | some ids =>
    cases ids with
    | nil => simp only [attempt_congr h]
    | cons id ids => simp only [issuerLoop_congr h]

/-- **the two readings of `Verifier::verify` are the same function**: parsing once and working on the parsed signature
(`pgpVerifierVerifyP`) = the opaque-environment model (`pgpVerifierVerify`) instantiated with
`issuers := fun b => (parseSignature P b).map issuers` (`PgpPkt.toEnv`) -/
theorem pgpVerifierVerifyP_eq_toEnv {σ : Type} (E : PgpPkt K σ) (ring : KeyRing K) (data blob : Bytes) :
    pgpVerifierVerifyP E ring data blob = pgpVerifierVerify E.toEnv ring data blob := by
  unfold pgpVerifierVerifyP
  cases hp : Pgp.parseSignature E.parsePkt blob with
  | none =>
    have : E.toEnv.issuers blob = none := by simp [PgpPkt.toEnv, hp]
    simp only [pgpVerifierVerify, this]
  | some s =>
    show pgpVerifierVerify (E.envAt s) ring data blob = pgpVerifierVerify E.toEnv ring data blob
    refine pgpVerifierVerify_congr (E1 := E.envAt s) (E2 := E.toEnv) ⟨fun _ => rfl, fun k => ?_, fun k => ?_⟩ ?_ ring
    · simp [PgpPkt.toEnv, PgpPkt.envAt, hp]
    · simp [PgpPkt.toEnv, PgpPkt.envAt, hp]
    · simp [PgpPkt.toEnv, PgpPkt.envAt, hp]

/-- after parsing, the blob is never looked at again: two blobs with the same first signature packet get the same
verdict and the same attempts -/
theorem pgpVerifierVerifyP_same_parse {σ : Type} (E : PgpPkt K σ) (ring : KeyRing K) (data blob blob' : Bytes)
    (h : Pgp.parseSignature E.parsePkt blob = Pgp.parseSignature E.parsePkt blob') :
    pgpVerifierVerifyP E ring data blob = pgpVerifierVerifyP E ring data blob' := by
  unfold pgpVerifierVerifyP
  rw [h]
  cases Pgp.parseSignature E.parsePkt blob' with
  | none => rfl
  | some s =>
    show pgpVerifierVerify (E.envAt s) ring data blob = pgpVerifierVerify (E.envAt s) ring data blob'
    exact pgpVerifierVerify_congr (E1 := E.envAt s) (E2 := E.envAt s) (data := data) (sig1 := blob) (sig2 := blob') ⟨fun _ => rfl, fun _ => rfl, fun _ => rfl⟩ rfl ring

end RpmVerif.Verify
