import RpmVerif.Model.Header
/-! The lead / header / metadata / package parsers as codecs: a successful parse pins the input bytes down exactly and
yields a well-formed value (`…_ok`; `HeaderWF`, `LeadWF`, `MetadataWF` say what that is), and the bytes of a well-formed
value, with any reserved and padding bytes, parse back to it (`…_write`). -/
namespace RpmVerif.Hdr
open RpmVerif.Gen

def writeRaw (e : Nat × Nat × Nat × Nat) : Bytes := be32 e.1 ++ be32 e.2.1 ++ be32 e.2.2.1 ++ be32 e.2.2.2

def RawWF (e : Nat × Nat × Nat × Nat) : Prop :=
  e.1 < 4294967296 ∧ e.2.1 ≤ 9 ∧ e.2.2.1 < 4294967296 ∧ e.2.2.2 < 4294967296

theorem flatten_map_length {α} (l : List α) (f : α → Bytes) (w : Nat) (hw : ∀ x, (f x).length = w) :
    ((l.map f).flatten).length = w * l.length := by
  induction l with
  | nil => simp
  | cons x xs ih => simp [hw, ih, Nat.mul_succ]; omega

theorem writeRaw_length (e) : (writeRaw e).length = 16 := by simp [writeRaw, be32_length]

theorem parseEntryRaw_ok {bs e r} (h : parseEntryRaw bs = .ok (e, r)) : bs = writeRaw e ++ r ∧ RawWF e := by
  simp only [parseEntryRaw, Out.bind_eq_ok, Prod.exists] at h
  obtain ⟨tag, b1, h1, h⟩ := h
  obtain ⟨ty, b2, h2, h⟩ := h
  obtain ⟨hty, h⟩ := Out.ite_err_eq_ok h
  simp only [Out.bind_eq_ok, Prod.exists] at h
  obtain ⟨off, b3, h3, cnt, b4, h4, h⟩ := h
  cases h
  obtain ⟨rfl, t1⟩ := rd32_ok h1
  obtain ⟨rfl, t2⟩ := rd32_ok h2
  obtain ⟨rfl, t3⟩ := rd32_ok h3
  obtain ⟨rfl, t4⟩ := rd32_ok h4
  exact ⟨by simp only [writeRaw, List.append_assoc], t1, Nat.le_of_not_gt hty, t3, t4⟩

theorem parseEntryRaw_write {e} (h : RawWF e) (r : Bytes) : parseEntryRaw (writeRaw e ++ r) = .ok (e, r) := by
  obtain ⟨h1, h2, h3, h4⟩ := h
  have h2' : e.2.1 < 4294967296 := by omega
  simp only [parseEntryRaw, writeRaw, List.append_assoc, rd32_be32 h1, rd32_be32 h2', if_neg (Nat.not_lt.mpr h2), rd32_be32 h3,
    rd32_be32 h4, Out.bind_ok, Out.pure_eq]

def writeRaws (es : List (Nat × Nat × Nat × Nat)) : Bytes := (es.map writeRaw).flatten

theorem writeRaws_cons (e) (es) : writeRaws (e :: es) = writeRaw e ++ writeRaws es := rfl

theorem writeRaws_length (es) : (writeRaws es).length = es.length * 16 :=
  (flatten_map_length es writeRaw 16 writeRaw_length).trans (Nat.mul_comm ..)

theorem parseEntriesRaw_ok {k bs es r} (h : parseEntriesRaw k bs = .ok (es, r)) :
    bs = writeRaws es ++ r ∧ es.length = k ∧ ∀ e ∈ es, RawWF e := by
  induction k generalizing bs es r with
  | zero =>
    simp only [parseEntriesRaw, Out.pure_eq, Out.ok.injEq, Prod.mk.injEq] at h
    obtain ⟨rfl, rfl⟩ := h
    simp [writeRaws]
  | succ k ih =>
    simp only [parseEntriesRaw, Out.bind_eq_ok] at h
    obtain ⟨⟨e, b1⟩, h1, ⟨es', b2⟩, h2, h⟩ := h
    cases h
    obtain ⟨rfl, we⟩ := parseEntryRaw_ok h1
    obtain ⟨rfl, hl, hw⟩ := ih h2
    exact ⟨by rw [writeRaws_cons, List.append_assoc], congrArg (· + 1) hl, List.forall_mem_cons.mpr ⟨we, hw⟩⟩

theorem parseEntriesRaw_succ (k : Nat) (bs : Bytes) : parseEntriesRaw (k + 1) bs =
    (parseEntryRaw bs >>= fun p => parseEntriesRaw k p.2 >>= fun q => pure (p.1 :: q.1, q.2)) := rfl

theorem parseEntriesRaw_write (es : List (Nat × Nat × Nat × Nat)) (r : Bytes) (h : ∀ e ∈ es, RawWF e) :
    parseEntriesRaw es.length (writeRaws es ++ r) = .ok (es, r) := by
  induction es with
  | nil => rfl
  | cons e es ih =>
    obtain ⟨he, hes⟩ := List.forall_mem_cons.mp h
    rw [List.length_cons, parseEntriesRaw_succ, writeRaws_cons, List.append_assoc, parseEntryRaw_write he]
    simp only [Out.bind_ok, ih hes, Out.pure_eq]

theorem decode_typeCode {store ty off cnt d} (h : decode store ty off cnt = .ok d) : d.typeCode = ty := by
  obtain ⟨_, h⟩ := Out.ite_err_eq_ok h
  split at h <;> first
    | (cases h; rfl)
    | (obtain ⟨a, _, rfl⟩ := Out.map_eq_ok.mp h; rfl)
    | cases h

def Entry.raw (e : Entry) : Nat × Nat × Nat × Nat := (e.tag, e.data.typeCode, e.off, e.cnt)

theorem writeEntry_eq_raw (e : Entry) : writeEntry e = writeRaw e.raw := rfl

/-- store bytes the data of the entries occupies together, counted as the second loop of `parse_header` counts them -/
def usedSum (store : Bytes) (es : List Entry) : Nat := (es.map fun e => decodeUsed store e.off e.cnt e.data).sum

theorem usedSum_cons (store : Bytes) (e : Entry) (es : List Entry) :
    usedSum store (e :: es) = decodeUsed store e.off e.cnt e.data + usedSum store es := by
  simp [usedSum]

theorem decodeAllB_ok {store budget raws es} (h : decodeAllB store budget raws = .ok es) :
    es.map Entry.raw = raws ∧ (∀ e ∈ es, decode store e.data.typeCode e.off e.cnt = .ok e.data) ∧ usedSum store es ≤ budget := by
  induction raws generalizing es budget with
  | nil =>
    simp only [decodeAllB, Out.pure_eq, Out.ok.injEq] at h; subst h; simp [usedSum]
  | cons r raws ih =>
    obtain ⟨tag, ty, off, cnt⟩ := r
    simp only [decodeAllB, Out.bind_eq_ok] at h
    obtain ⟨d, hd, h⟩ := h
    obtain ⟨hb, h⟩ := Out.ite_err_eq_ok h
    simp only [Out.bind_eq_ok] at h
    obtain ⟨es', hes, h⟩ := h
    cases h
    obtain ⟨ih1, ih2, ih3⟩ := ih hes
    have ht := decode_typeCode hd
    refine ⟨by simp [Entry.raw, ht, ih1], List.forall_mem_cons.mpr ⟨ht ▸ hd, ih2⟩, ?_⟩
    rw [usedSum_cons]; simp only; omega

theorem decodeAllB_of_decodable {store : Bytes} {budget : Nat} {es : List Entry}
    (h : ∀ e ∈ es, decode store e.data.typeCode e.off e.cnt = .ok e.data) :
    decodeAllB store budget (es.map Entry.raw) = if usedSum store es ≤ budget then .ok es else .err "overlap" := by
  induction es generalizing budget with
  | nil => rfl
  | cons e es ih =>
    obtain ⟨he, hes⟩ := List.forall_mem_cons.mp h
    rw [usedSum_cons, List.map_cons, Entry.raw, decodeAllB, he, Out.bind_ok]
    by_cases hu : decodeUsed store e.off e.cnt e.data > budget
    · rw [if_pos hu, if_neg (by omega)]
    · rw [if_neg hu, ih hes]
      by_cases hb : usedSum store es ≤ budget - decodeUsed store e.off e.cnt e.data
      · rw [if_pos hb, if_pos (by omega)]; rfl
      · rw [if_neg hb, if_neg (by omega)]; rfl

theorem decodeAllB_write {store : Bytes} {budget : Nat} {es : List Entry}
    (h : ∀ e ∈ es, decode store e.data.typeCode e.off e.cnt = .ok e.data) (hb : usedSum store es ≤ budget) :
    decodeAllB store budget (es.map Entry.raw) = .ok es := by rw [decodeAllB_of_decodable h, if_pos hb]

theorem decodeAllB_overlap {store : Bytes} {budget : Nat} {es : List Entry}
    (h : ∀ e ∈ es, decode store e.data.typeCode e.off e.cnt = .ok e.data) (hb : budget < usedSum store es) :
    decodeAllB store budget (es.map Entry.raw) = .err "overlap" := by rw [decodeAllB_of_decodable h, if_neg (Nat.not_le.mpr hb)]

theorem decodeAll_ok {store raws es} (h : decodeAll store raws = .ok es) :
    es.map Entry.raw = raws ∧ (∀ e ∈ es, decode store e.data.typeCode e.off e.cnt = .ok e.data)
      ∧ usedSum store es ≤ store.length := decodeAllB_ok h

theorem decodeAll_write {store : Bytes} {es : List Entry}
    (h : ∀ e ∈ es, decode store e.data.typeCode e.off e.cnt = .ok e.data) (hb : usedSum store es ≤ store.length) :
    decodeAll store (es.map Entry.raw) = .ok es := decodeAllB_write h hb

theorem ihs : INDEX_HEADER_SIZE = 16 := rfl
theorem ies : INDEX_ENTRY_SIZE = 16 := rfl
theorem lds : LEAD_SIZE = 96 := rfl
theorem hmagic : HEADER_MAGIC = [142, 173, 232] := rfl
theorem rmagic : RPM_MAGIC = [237, 171, 238, 219] := rfl

/-- what every constructor of a header guarantees (`parse`, `from_entries`, `new_empty`, …) -/
structure HeaderWF (h : Header) : Prop where
  nEq : h.entries.length = h.nEntries
  dlEq : h.store.length = h.dataSize
  nLt : h.nEntries < 4294967296
  dlLt : h.dataSize < 4294967296
  fields : ∀ e ∈ h.entries, RawWF e.raw
  dec : ∀ e ∈ h.entries, decode h.store e.data.typeCode e.off e.cnt = .ok e.data
  /-- the byte budget of `parse_header`: the bytes charged to the entries (`decodeUsed`) add up to at most the data section.
  A bound on the sum, not disjointness: entries that share store bytes are accepted while the sum fits. -/
  budget : usedSum h.store h.entries ≤ h.store.length

/-- on-disk bytes of a header with the given four reserved bytes -/
def hdrBytes (res : Bytes) (h : Header) : Bytes :=
  HEADER_MAGIC ++ [1] ++ res ++ be32 h.nEntries ++ be32 h.dataSize ++ writeRaws (h.entries.map Entry.raw) ++ h.store

theorem writeHeader_eq (h : Header) : writeHeader h = hdrBytes [0, 0, 0, 0] h := by
  simp only [writeHeader, writeIntro, hdrBytes, writeRaws, List.map_map, List.append_assoc]
  rfl

theorem parseIntro_ok {intro n dl} (hl : intro.length = 16) (h : parseIntro intro = .ok (n, dl)) :
    ∃ res : Bytes, res.length = 4 ∧ intro = HEADER_MAGIC ++ [1] ++ res ++ be32 n ++ be32 dl
      ∧ n < 4294967296 ∧ dl < 4294967296 := by
  unfold parseIntro at h
  split at h
  · rename_i m0 m1 m2 ver a b c d r
    obtain ⟨hm, h⟩ := Out.ite_err_eq_ok h
    obtain ⟨hv, h⟩ := Out.ite_err_eq_ok h
    simp only [Out.bind_eq_ok, Prod.exists] at h
    obtain ⟨n', r1, h1, dl', r2, h2, h⟩ := h
    cases h
    obtain ⟨rfl, t1⟩ := rd32_ok h1
    obtain ⟨rfl, t2⟩ := rd32_ok h2
    simp only [List.length_cons, List.length_append, be32_length] at hl
    obtain rfl : r2 = [] := List.length_eq_zero_iff.mp (by omega)
    refine ⟨[a, b, c, d], rfl, ?_, t1, t2⟩
    rw [← Decidable.not_not.mp hm, Decidable.not_not.mp hv]
    simp
  · cases h

theorem parseIntro_write {res : Bytes} {n dl : Nat} (hr : res.length = 4) (hn : n < 4294967296) (hd : dl < 4294967296) :
    parseIntro (HEADER_MAGIC ++ [1] ++ res ++ be32 n ++ be32 dl) = .ok (n, dl) := by
  match res, hr with
  | [a, b, c, d], _ =>
    simp only [hmagic, List.cons_append, List.nil_append, parseIntro]
    rw [if_neg (by simp), if_neg (by simp)]
    rw [rd32_be32 hn]; simp only [Out.bind_ok]
    have := rd32_be32 hd []
    simp only [List.append_nil] at this
    rw [this]; rfl

theorem parseHeader_ok {bs h rest} (hp : parseHeader bs = .ok (h, rest)) :
    ∃ res : Bytes, res.length = 4 ∧ bs = hdrBytes res h ++ rest ∧ HeaderWF h := by
  simp only [parseHeader, Out.bind_eq_ok] at hp
  obtain ⟨⟨intro, r⟩, h1, ⟨n, dl⟩, h2, ⟨body, rest'⟩, h3, ⟨raw, store⟩, h4, es, h5, hp⟩ := hp
  dsimp only at h2 h3 h4 h5
  cases hp
  obtain ⟨rfl, l1⟩ := takeN_ok h1
  rw [ihs] at l1
  obtain ⟨res, hres, rfl, hn, hd⟩ := parseIntro_ok l1 h2
  obtain ⟨rfl, l3⟩ := takeN_ok h3
  obtain ⟨rfl, l4, w4⟩ := parseEntriesRaw_ok h4
  obtain ⟨m5, d5, b5⟩ := decodeAll_ok h5
  refine ⟨res, hres, ?_, ?_⟩
  · simp only [hdrBytes, m5, List.append_assoc]
  · have hlen : es.length = n := by rw [← l4, ← m5]; simp
    refine ⟨hlen, ?_, hn, hd, ?_, d5, b5⟩
    · simp only [List.length_append, writeRaws_length, l4, ies] at l3
      show store.length = dl
      omega
    · intro e he
      apply w4
      rw [← m5]
      exact List.mem_map_of_mem he

theorem hdrBytes_split (res : Bytes) (h : Header) (rest : Bytes) :
    hdrBytes res h ++ rest =
      (HEADER_MAGIC ++ [1] ++ res ++ be32 h.nEntries ++ be32 h.dataSize) ++
        ((writeRaws (h.entries.map Entry.raw) ++ h.store) ++ rest) := by
  simp only [hdrBytes, List.append_assoc]

theorem introBytes_length {res : Bytes} (hr : res.length = 4) (n dl : Nat) :
    (HEADER_MAGIC ++ [1] ++ res ++ be32 n ++ be32 dl).length = INDEX_HEADER_SIZE := by
  simp only [List.length_append, hmagic, be32_length, hr, List.length_cons, List.length_nil, ihs]

theorem hdrBytes_size {res : Bytes} {h : Header} (hr : res.length = 4) (nEq : h.entries.length = h.nEntries)
    (dlEq : h.store.length = h.dataSize) : (hdrBytes res h).length = h.size := by
  simp only [hdrBytes, List.length_append, hmagic, be32_length, writeRaws_length, List.length_map, nEq, dlEq, hr,
    List.length_cons, List.length_nil, Header.size, ihs, ies]

theorem bodyBytes_length {h : Header} (nEq : h.entries.length = h.nEntries) (dlEq : h.store.length = h.dataSize) :
    (writeRaws (h.entries.map Entry.raw) ++ h.store).length = h.dataSize + h.nEntries * INDEX_ENTRY_SIZE := by
  rw [List.length_append, writeRaws_length, List.length_map, nEq, dlEq, ies, Nat.add_comm]

/-- takes the fields of `HeaderWF` one by one, without `dec` and `budget`, so that the refusal
(`parseHeader_write_overlap`) can use it as well as the acceptance -/
theorem parseHeader_hdrBytes {h : Header} (nEq : h.entries.length = h.nEntries) (dlEq : h.store.length = h.dataSize)
    (nLt : h.nEntries < 4294967296) (dlLt : h.dataSize < 4294967296) (fields : ∀ e ∈ h.entries, RawWF e.raw)
    {res : Bytes} (hr : res.length = 4) (rest : Bytes) :
    parseHeader (hdrBytes res h ++ rest) =
      decodeAll h.store (h.entries.map Entry.raw) >>= fun es => pure (⟨h.nEntries, h.dataSize, es, h.store⟩, rest) := by
  have hlenB := bodyBytes_length nEq dlEq
  have hn : h.nEntries = (h.entries.map Entry.raw).length := by rw [List.length_map, nEq]
  have hf : ∀ e ∈ h.entries.map Entry.raw, RawWF e := List.forall_mem_map.mpr fields
  rw [hdrBytes_split, parseHeader, ← introBytes_length hr, takeN_append]
  simp only [Out.bind_ok, parseIntro_write hr nLt dlLt]
  rw [← hlenB, takeN_append]
  simp only [Out.bind_ok]
  rw [hn, parseEntriesRaw_write _ _ hf]
  simp only [Out.bind_ok, ← hn]

theorem parseHeader_write {h : Header} (wf : HeaderWF h) {res : Bytes} (hr : res.length = 4) (rest : Bytes) :
    parseHeader (hdrBytes res h ++ rest) = .ok (h, rest) := by
  rw [parseHeader_hdrBytes wf.nEq wf.dlEq wf.nLt wf.dlLt wf.fields hr, decodeAll_write wf.dec wf.budget]
  rfl

theorem parseHeader_writeHeader {h : Header} (wf : HeaderWF h) : parseHeader (writeHeader h) = .ok (h, []) := by
  have := parseHeader_write wf (res := [0, 0, 0, 0]) rfl []
  rwa [List.append_nil, ← writeHeader_eq] at this

/-- **the budget rule refuses**: bytes that are a header in every other respect (sizes, fields, every entry's data
decodes) whose entries are charged more than the data section holds are refused with class `overlap` -/
theorem parseHeader_write_overlap {h : Header} (nEq : h.entries.length = h.nEntries) (dlEq : h.store.length = h.dataSize)
    (nLt : h.nEntries < 4294967296) (dlLt : h.dataSize < 4294967296) (fields : ∀ e ∈ h.entries, RawWF e.raw)
    (dec : ∀ e ∈ h.entries, decode h.store e.data.typeCode e.off e.cnt = .ok e.data)
    (over : h.store.length < usedSum h.store h.entries) {res : Bytes} (hr : res.length = 4) (rest : Bytes) :
    parseHeader (hdrBytes res h ++ rest) = .err "overlap" := by
  rw [parseHeader_hdrBytes nEq dlEq nLt dlLt fields hr, decodeAll, decodeAllB_overlap dec over]
  rfl

theorem headerWF_empty : HeaderWF Header.empty :=
  ⟨rfl, rfl, by decide, by decide, fun _ h => (nomatch h), fun _ h => (nomatch h), Nat.le_refl 0⟩

theorem parseSignature_ok {bs h rest} (hp : parseSignature bs = .ok (h, rest)) :
    ∃ res pad : Bytes, res.length = 4 ∧ pad.length = sigPad h.dataSize ∧
      bs = hdrBytes res h ++ pad ++ rest ∧ HeaderWF h := by
  simp only [parseSignature, Out.bind_eq_ok] at hp
  obtain ⟨⟨h', r⟩, h1, ⟨pad, r'⟩, h2, hp⟩ := hp
  dsimp only at h2
  cases hp
  obtain ⟨res, hres, rfl, wf⟩ := parseHeader_ok h1
  obtain ⟨rfl, lp⟩ := takeN_ok h2
  exact ⟨res, pad, hres, lp, by simp only [List.append_assoc], wf⟩

theorem parseSignature_write {h : Header} (wf : HeaderWF h) {res pad : Bytes} (hr : res.length = 4)
    (hpad : pad.length = sigPad h.dataSize) (rest : Bytes) :
    parseSignature (hdrBytes res h ++ pad ++ rest) = .ok (h, rest) := by
  rw [parseSignature, List.append_assoc, parseHeader_write wf hr]
  simp only [Out.bind_ok]
  rw [← hpad, takeN_append]
  rfl

theorem writeSignature_eq (h : Header) :
    writeSignature h = hdrBytes [0, 0, 0, 0] h ++ List.replicate (sigPad h.dataSize) 0 := by
  rw [writeSignature, writeHeader_eq]

structure LeadWF (l : Lead) : Prop where
  major : l.major < 256
  minor : l.minor < 256
  ptype : l.ptype < 65536
  arch : l.arch < 65536
  name : l.name.length = 66
  os : l.os < 65536
  sigtype : l.sigtype < 65536
  reserved : l.reserved.length = 16

theorem parseLead_ok {b l} (hp : parseLead b = .ok l) : b = writeLead l ∧ LeadWF l := by
  simp only [parseLead, Out.bind_eq_ok] at hp
  obtain ⟨⟨magic, r0⟩, h0, hp⟩ := hp
  dsimp only at hp
  obtain ⟨hm, hp⟩ := Out.ite_err_eq_ok hp
  simp only [Out.bind_eq_ok] at hp
  obtain ⟨⟨major, r1⟩, h1, ⟨minor, r2⟩, h2, ⟨ptype, r3⟩, h3, ⟨arch, r4⟩, h4, ⟨name, r5⟩, h5,
    ⟨os, r6⟩, h6, ⟨sigtype, r7⟩, h7, hp⟩ := hp
  dsimp only at h2 h3 h4 h5 h6 h7 hp
  obtain ⟨hres, hp⟩ := (Out.ite_eq_ok hp).resolve_left fun h => nomatch h.2
  cases hp
  obtain ⟨rfl, _⟩ := takeN_ok h0
  obtain ⟨rfl, t1⟩ := rd8_ok h1
  obtain ⟨rfl, t2⟩ := rd8_ok h2
  obtain ⟨rfl, t3⟩ := rd16_ok h3
  obtain ⟨rfl, t4⟩ := rd16_ok h4
  obtain ⟨rfl, t5⟩ := takeN_ok h5
  obtain ⟨rfl, t6⟩ := rd16_ok h6
  obtain ⟨rfl, t7⟩ := rd16_ok h7
  obtain rfl : magic = RPM_MAGIC := Decidable.not_not.mp hm
  exact ⟨by simp only [writeLead, List.append_assoc], ⟨t1, t2, t3, t4, t5, t6, t7, Decidable.not_not.mp hres⟩⟩

theorem parseLead_write {l : Lead} (wf : LeadWF l) : parseLead (writeLead l) = .ok l := by
  have hmag : RPM_MAGIC.length = 4 := rfl
  have hname := takeN_append l.name
  rw [wf.name] at hname
  rw [writeLead, parseLead]
  simp only [List.append_assoc, ← hmag, takeN_append, Out.bind_ok, ne_eq, not_true_eq_false, if_false, rd8_write wf.major,
    rd8_write wf.minor, rd16_be16 wf.ptype, rd16_be16 wf.arch, hname, rd16_be16 wf.os, rd16_be16 wf.sigtype,
    wf.reserved, Out.pure_eq]

theorem writeLead_length {l : Lead} (wf : LeadWF l) : (writeLead l).length = 96 := by
  simp only [writeLead, List.length_append, rmagic, be16, List.length_cons, List.length_nil, wf.name, wf.reserved]

structure MetadataWF (m : Metadata) : Prop where
  lead : LeadWF m.lead
  sig : HeaderWF m.signature
  hdr : HeaderWF m.header

/-- on-disk bytes of metadata with arbitrary reserved / padding bytes -/
def metaBytes (res1 pad res2 : Bytes) (m : Metadata) : Bytes :=
  writeLead m.lead ++ (hdrBytes res1 m.signature ++ pad) ++ hdrBytes res2 m.header

theorem writeMetadata_eq (m : Metadata) :
    writeMetadata m = metaBytes [0, 0, 0, 0] (List.replicate (sigPad m.signature.dataSize) 0) [0, 0, 0, 0] m := by
  simp only [writeMetadata, metaBytes, writeSignature_eq, writeHeader_eq]

theorem parseMetadata_ok {bs m rest} (hp : parseMetadata bs = .ok (m, rest)) :
    ∃ res1 pad res2 : Bytes, res1.length = 4 ∧ pad.length = sigPad m.signature.dataSize ∧ res2.length = 4 ∧
      bs = metaBytes res1 pad res2 m ++ rest ∧ MetadataWF m := by
  simp only [parseMetadata, Out.bind_eq_ok] at hp
  obtain ⟨⟨lb, r0⟩, h0, lead, h1, ⟨sig, r1⟩, h2, ⟨hdr, r2⟩, h3, hp⟩ := hp
  dsimp only at h1 h2 h3 hp
  cases hp
  obtain ⟨rfl, _⟩ := takeN_ok h0
  obtain ⟨rfl, wl⟩ := parseLead_ok h1
  obtain ⟨res1, pad, hr1, hpad, rfl, ws⟩ := parseSignature_ok h2
  obtain ⟨res2, hr2, rfl, wh⟩ := parseHeader_ok h3
  exact ⟨res1, pad, res2, hr1, hpad, hr2, by simp only [metaBytes, List.append_assoc], ⟨wl, ws, wh⟩⟩

theorem parseMetadata_write {m : Metadata} (wf : MetadataWF m) {res1 pad res2 : Bytes} (h1 : res1.length = 4)
    (hpad : pad.length = sigPad m.signature.dataSize) (h2 : res2.length = 4) (rest : Bytes) :
    parseMetadata (metaBytes res1 pad res2 m ++ rest) = .ok (m, rest) := by
  have hl := takeN_append (writeLead m.lead)
  rw [writeLead_length wf.lead, ← lds] at hl
  rw [metaBytes, List.append_assoc, List.append_assoc, parseMetadata]
  simp only [hl, parseLead_write wf.lead, parseSignature_write wf.sig h1 hpad, parseHeader_write wf.hdr h2, Out.bind_ok,
    Out.pure_eq]

theorem parsePackage_ok {bs p} (hp : parsePackage bs = .ok p) :
    ∃ res1 pad res2 : Bytes, res1.length = 4 ∧ pad.length = sigPad p.md.signature.dataSize ∧ res2.length = 4 ∧
      bs = metaBytes res1 pad res2 p.md ++ p.content ∧ MetadataWF p.md := by
  simp only [parsePackage, Out.bind_eq_ok] at hp
  obtain ⟨⟨m, r⟩, h1, hp⟩ := hp
  cases hp
  exact parseMetadata_ok h1

theorem parsePackage_wf {bs p} (hp : parsePackage bs = .ok p) : MetadataWF p.md := by
  obtain ⟨_, _, _, _, _, _, _, wf⟩ := parsePackage_ok hp
  exact wf

theorem parsePackage_write {m : Metadata} (wf : MetadataWF m) {res1 pad res2 : Bytes} (h1 : res1.length = 4)
    (hpad : pad.length = sigPad m.signature.dataSize) (h2 : res2.length = 4) (c : Bytes) :
    parsePackage (metaBytes res1 pad res2 m ++ c) = .ok ⟨m, c⟩ := by
  rw [parsePackage, parseMetadata_write wf h1 hpad h2]
  rfl

end RpmVerif.Hdr
