import RpmVerif.Lemmas.Builder
import RpmVerif.Model.Accessors
/-!
# `get_file_entries` on the builder's per-file arrays

`prepare_data` emits one array per file attribute, each a `map` over the builder's file list; `get_file_entries`
zips nine of them back together (`Acc.buildEntries`), looks capabilities / IMA signatures up by index and turns every
non-empty digest text into a `FileDigest` of the header's algorithm. This file proves the zip: on the arrays of a file
list it yields the list of the expected records (`buildEntries_files`), for every file list and every start index.
`signatureHeader_no_ima`: the signature headers the library makes carry no IMA array for `get_file_entries` to find.
-/
namespace RpmVerif.C06
open RpmVerif.Hdr RpmVerif.Bld RpmVerif.Gen RpmVerif.Acc

/-- the digest `get_file_entries` reports for the digest text the builder stored: none for the empty text, else the
text under algorithm 8 (SHA-256, the only algorithm the builder uses) -/
def digestExp (hex : Bytes) : Option (Nat × Bytes) := if hex.isEmpty then none else some (8, hex)

/-- the `FileEntry` expected for a builder file: destination path, raw mode, owner, group, clamped mtime, size, flags,
SHA-256 digest, capabilities (reported for every file as soon as one file of the package has some: `""` for the
others), link target, no IMA signature -/
def entryOf (x : Ctx) (f : FileE) : FileEntry :=
  { path := pathJoin f.dir f.baseName, mode := f.mode, user := f.user, group := f.group,
    mtime := clampMtime x.c.sourceDate f.mtime, size := f.size, flags := f.flags,
    digest := digestExp f.shaHex,
    caps := if usesCaps x.c then some (f.caps.getD []) else none,
    linkto := f.link, ima := none }

/-- every stored digest text is empty or has the 64 characters of a hex SHA-256 (`add_data` stores
`hex::encode(Sha256::digest(content))`, always 64 characters) -/
def DigestsOk (c : Cfg) : Prop := ∀ f ∈ c.files, f.shaHex = [] ∨ f.shaHex.length = 64

instance (c : Cfg) : Decidable (DigestsOk c) := by unfold DigestsOk; exact inferInstance

/-- the pairing `FileDigest::new` demands for SHA-256 is in the table regenerated from the source -/
theorem sha256_in_table : (8, 64) ∈ fileDigestHexLen := by decide

theorem digestOf_sha256 {tbl : List (Nat × Nat)} (htbl : (8, 64) ∈ tbl) {hex : Bytes}
    (h : hex = [] ∨ hex.length = 64) : digestOf 8 hex tbl = .ok (digestExp hex) := by
  unfold digestOf digestExp
  cases he : hex.isEmpty with
  | true => rfl
  | false =>
    have hl : hex.length = 64 := by
      rcases h with rfl | h
      · cases he
      · exact h
    have hany : tbl.any (fun p => p.1 == 8 && p.2 == hex.length) = true := by
      rw [List.any_eq_true]
      exact ⟨(8, 64), htbl, by simp [hl]⟩
    simp only [Bool.false_eq_true, if_false, fileDigestNew, hany, if_true]
    rfl

/-- `cap f` is what element `idx + i` of the capability array holds for the `i`-th file `f` -/
theorem buildEntries_files {tbl : List (Nat × Nat)} (htbl : (8, 64) ∈ tbl) (caps : Option (List Bytes))
    (path : FileE → Bytes) (mt : FileE → Nat) (cap : FileE → Option Bytes) (fs : List FileE)
    (hdig : ∀ f ∈ fs, f.shaHex = [] ∨ f.shaHex.length = 64) :
    ∀ idx, (∀ i (h : i < fs.length), caps.bind (·[idx + i]?) = cap fs[i]) →
    buildEntries 8 caps none tbl idx (fs.map path) (fs.map (·.user)) (fs.map (·.group)) (fs.map (·.mode))
        (fs.map (·.shaHex)) (fs.map mt) (fs.map (·.size)) (fs.map (·.flags)) (fs.map (·.link)) =
      .ok (fs.map fun f => ⟨path f, f.mode, f.user, f.group, mt f, f.size, f.flags, digestExp f.shaHex, cap f, f.link, none⟩) := by
  induction fs with
  | nil => intro _ _; rfl
  | cons f fs ih =>
    intro idx hc
    have h0 : caps.bind (·[idx]?) = cap f := hc 0 (Nat.zero_lt_succ _)
    have hrest : ∀ i (h : i < fs.length), caps.bind (·[idx + 1 + i]?) = cap fs[i] := by
      intro i h
      have h' := hc (i + 1) (Nat.succ_lt_succ h)
      rw [show idx + (i + 1) = idx + 1 + i by omega] at h'
      exact h'
    simp only [List.map_cons, buildEntries, digestOf_sha256 htbl (hdig f (by simp)), Out.bind_ok,
      ih (fun g hg => hdig g (by simp [hg])) (idx + 1) hrest, h0, Out.pure_eq, Option.bind_none]

/-- `SignatureHeaderBuilder::build` — what `build`, `build_and_sign`, `sign` and `clear_signatures` install — emits
OPENPGP, one legacy signature tag and SHA256 only: as long as the legacy tag is not RPMSIGTAG_FILESIGNATURES (it is
RSA or DSA), `get_file_entries` finds no IMA signature array -/
theorem signatureHeader_no_ima (sigs : List (Nat × Bytes × Bytes)) (sha : Option Bytes)
    (hl : ∀ s, sigs.getLast? = some s → s.1 ≠ SigTag.RPMSIGTAG_FILESIGNATURES) :
    getStringArray (signatureHeader sigs sha) SigTag.RPMSIGTAG_FILESIGNATURES = .err "notfound" := by
  unfold signatureHeader
  refine fromEntries_absent IndexData.asStringArray (by decide) ?_
  intro r hr
  rw [List.mem_append] at hr
  rcases hr with hr | hr
  · cases hlast : sigs.getLast? with
    | none => simp only [hlast] at hr; cases hr
    | some s =>
      obtain ⟨tag, raw, b⟩ := s
      simp only [hlast, List.mem_cons, List.not_mem_nil, or_false] at hr
      rcases hr with rfl | rfl
      · show SigTag.RPMSIGTAG_OPENPGP ≠ SigTag.RPMSIGTAG_FILESIGNATURES; decide
      · exact hl _ hlast
  · cases sha with
    | none => cases hr
    | some d =>
      simp only [List.mem_cons, List.not_mem_nil, or_false] at hr
      subst hr; show SigTag.RPMSIGTAG_SHA256 ≠ SigTag.RPMSIGTAG_FILESIGNATURES; decide

end RpmVerif.C06
