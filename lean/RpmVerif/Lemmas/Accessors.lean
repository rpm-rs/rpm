import RpmVerif.Model.Accessors
/-!
Facts about the building blocks of Model/Accessors.lean, for Props/C05.lean: `triple` (the shape of `get_dependencies`,
`get_changelog_entries`, `get_file_paths`) is the plain sequence of its three reads; `filePathsFrom` and `zip3` in
terms of `List.zip`; and a linear check that a list of numbers is strictly increasing.
-/
namespace RpmVerif.Acc
open RpmVerif.Hdr

theorem filePathsFrom_eq (bns : List Bytes) (idx : List Nat) (dirs : List Bytes) :
    filePathsFrom bns idx dirs =
      if ∀ p ∈ bns.zip idx, p.2 < dirs.length then .ok ((bns.zip idx).map fun p => pathJoin dirs[p.2]! p.1)
      else .err "index" := by
  induction bns generalizing idx with
  | nil => simp [filePathsFrom]
  | cons b bs ih =>
    cases idx with
    | nil => simp [filePathsFrom]
    | cons i is =>
      simp only [filePathsFrom, List.zip_cons_cons, List.forall_mem_cons, List.map_cons, ih]
      by_cases hi : i < dirs.length
      · simp only [List.getElem?_eq_getElem hi, hi, true_and, getElem!_pos dirs i hi]
        split <;> rfl
      · simp only [List.getElem?_eq_none (Nat.le_of_not_lt hi), hi, false_and, if_false]

theorem isNotFound_iff {α} (o : Out α) : isNotFound o = true ↔ o = .err "notfound" := by
  unfold isNotFound
  split
  · simp
  · rename_i hne
    exact ⟨nofun, fun h => absurd h hne⟩

/-- unless all three tags are absent, `triple` is the plain sequence of the three reads followed by `f`: the arm that
ends in `unreachable!()` is only entered when one of the reads has failed, and returns that failure -/
theorem triple_eq {α β γ δ} (a : Out α) (b : Out β) (c : Out γ) (f : α → β → γ → Out δ) (e : δ) :
    triple a b c f e = if isNotFound a && isNotFound b && isNotFound c then .ok e
      else a >>= fun x => b >>= fun y => c >>= fun z => f x y z := by
  unfold triple
  split
  · rfl
  · cases a with
    | ok x => cases b with
      | ok y => cases c <;> rfl
      | _ => rfl
    | _ => rfl

theorem triple_eq_ok {α β γ δ} {a : Out α} {b : Out β} {c : Out γ} {f : α → β → γ → Out δ} {e r : δ} :
    triple a b c f e = .ok r ↔
      (a = .err "notfound" ∧ b = .err "notfound" ∧ c = .err "notfound" ∧ r = e) ∨
      ∃ x y z, a = .ok x ∧ b = .ok y ∧ c = .ok z ∧ f x y z = .ok r := by
  rw [triple_eq]
  split
  · rename_i h
    simp only [Bool.and_eq_true, isNotFound_iff] at h
    obtain ⟨⟨rfl, rfl⟩, rfl⟩ := h
    simp [eq_comm]
  · rename_i h
    simp only [Out.bind_eq_ok]
    constructor
    · rintro ⟨x, rfl, y, rfl, z, rfl, hf⟩
      exact .inr ⟨x, y, z, rfl, rfl, rfl, hf⟩
    · rintro (⟨rfl, rfl, rfl, -⟩ | ⟨x, y, z, rfl, rfl, rfl, hf⟩)
      · exact absurd rfl h
      · exact ⟨x, rfl, y, rfl, z, rfl, hf⟩

/-- the `unreachable!()` arms are unreachable: the list accessors never panic -/
theorem triple_total {α β γ δ} {a : Out α} {b : Out β} {c : Out γ} {f : α → β → γ → Out δ} {e : δ}
    (hp : a.isPanic = false ∧ b.isPanic = false ∧ c.isPanic = false) (hf : ∀ x y z, (f x y z).isPanic = false) :
    (triple a b c f e).isPanic = false := by
  rw [triple_eq]
  split
  · rfl
  · exact Out.bind_not_panic hp.1 fun x _ => Out.bind_not_panic hp.2.1 fun y _ =>
      Out.bind_not_panic hp.2.2 fun z _ => hf x y z

theorem filePathsFrom_total (b : List Bytes) (i : List Nat) (d : List Bytes) : (filePathsFrom b i d).isPanic = false := by
  rw [filePathsFrom_eq]
  split <;> rfl

theorem zip3_eq_zip {α β γ} (as : List α) (bs : List β) (cs : List γ) : zip3 as bs cs = as.zip (bs.zip cs) := by
  induction as generalizing bs cs with
  | nil => simp [zip3]
  | cons a as ih =>
    cases bs with
    | nil => simp [zip3]
    | cons b bs =>
      cases cs with
      | nil => simp [zip3]
      | cons c cs => simp only [zip3, ih, List.zip_cons_cons]

theorem zip3_length {α β γ} (as : List α) (bs : List β) (cs : List γ) :
    (zip3 as bs cs).length = min as.length (min bs.length cs.length) := by
  rw [zip3_eq_zip, List.length_zip, List.length_zip]

def ascending : List Nat → Bool
  | a :: b :: r => a < b && ascending (b :: r)
  | _ => true

theorem ascending_cons {a : Nat} {l : List Nat} (h : ascending (a :: l) = true) :
    (∀ x ∈ l, a < x) ∧ ascending l = true := by
  induction l generalizing a with
  | nil => exact ⟨nofun, rfl⟩
  | cons b r ih =>
    simp only [ascending, Bool.and_eq_true, decide_eq_true_eq] at h
    refine ⟨fun x hx => ?_, h.2⟩
    rcases List.mem_cons.mp hx with rfl | hx
    · exact h.1
    · exact Nat.lt_trans h.1 ((ih h.2).1 x hx)

theorem ascending_pairwise {l : List Nat} (h : ascending l = true) : l.Pairwise (· < ·) := by
  induction l with
  | nil => exact .nil
  | cons a r ih =>
    obtain ⟨hlt, hr⟩ := ascending_cons h
    exact .cons hlt (ih hr)

end RpmVerif.Acc
