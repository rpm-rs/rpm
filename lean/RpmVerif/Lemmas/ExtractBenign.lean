import RpmVerif.Lemmas.Extract
/-!
The run of a benign package is computed step by step. The invariant `K` says what is at or below the destination
while it runs: directories at the prefixes of the paths `create_dir_all` was called with, the file and link entries
written so far as the nodes they prescribe, and nothing else; so every position the next call looks at is known.
The caller's side is `TargetReady`; `benign_spec` turns the spec's boolean `benign` into the propositions `BenignItems`
the steps use; `dirs_ok` and `items_ok` are the two loops.
-/
namespace RpmVerif.Fs
open RpmVerif.Extract

theorem wantNode_some {it : Item} (h : it.kind ≠ .other) : ∃ n, wantNode it = some n := by
  unfold wantNode
  cases hk : it.kind with
  | other => exact absurd hk h
  | dir => exact ⟨_, rfl⟩
  | regular => exact ⟨_, rfl⟩
  | symlink => exact ⟨_, rfl⟩

def DPos (dl : List Bytes) (p : List Name) : Prop := p = [] ∨ ∃ d ∈ dl, p <+: compsD d

theorem DPos.mono {dl dl' p} (h : DPos dl p) (h1 : ∀ d ∈ dl, d ∈ dl') : DPos dl' p :=
  h.imp id fun ⟨d, hd, hp⟩ => ⟨d, h1 d hd, hp⟩

/-- the invariant of a benign run: `dl` = the texts `create_dir_all` was called with (the directory names and
the paths of the directory entries processed), `done` = the entries processed -/
structure K (T : Path) (fs : Fs) (dl : List Bytes) (done : List Item) : Prop where
  top : DirsTo fs T
  dn : ∀ d ∈ dl, ∀ p, p <+: compsD d → fs.DirAt (T ++ p)
  shape : ∀ q n, fs.get q = some n → T <+: q →
    (n.isDir = true ∧ ∃ p, q = T ++ p ∧ DPos dl p) ∨ (∃ it ∈ done, it.kind ≠ .dir ∧ q = T ++ compsD it.path)
  faithful : ∀ it ∈ done, fs.get (T ++ compsD it.path) = wantNode it

theorem K.noneOrDir {T fs dl done} (hk : K T fs dl done) {c : List Name}
    (hfree : ∀ i ∈ done, i.kind ≠ .dir → ¬ compsD i.path <+: c) (p : List Name) (hp : p <+: c) :
    NoneOrDir (fs.get (T ++ p)) := by
  cases hg : fs.get (T ++ p) with
  | none => exact Or.inl rfl
  | some n =>
    rcases hk.shape _ n hg (List.prefix_append _ _) with ⟨hd, _⟩ | ⟨i, hi, hik, hq⟩
    · cases n with
      | dir m => exact Or.inr ⟨m, rfl⟩
      | file => simp [Node.isDir] at hd
      | symlink => simp [Node.isDir] at hd
    · exact absurd (List.append_cancel_left hq ▸ hp) (hfree i hi hik)

/-- what the caller must provide: the destination does not exist, nothing is below it, its parent
chain consists of directories -/
structure TargetReady (fs : Fs) (T : Path) : Prop where
  normal : ∀ c ∈ T, Normal c
  short : ∀ c ∈ T, Short c
  nonroot : T ≠ []
  parents : ∀ k, 0 < k → k < T.length → ∃ m, fs.get (T.take k) = some (.dir m)
  vacant : ∀ q, T <+: q → fs.get q = none

theorem mkdir_ready {fs : Fs} {T : Path} (hr : TargetReady fs T) :
    mkdir fs T = .ok (fs.set T (.dir (newDirMode fs T))) ∧ K T (fs.set T (.dir (newDirMode fs T))) [] [] := by
  have hres : resolve fs false T = .ok T := resolve_parents fs false T hr.normal hr.parents (by simp)
  refine ⟨mkdir_vacant hres (hr.vacant T (List.prefix_refl _))
    (by simpa using nameTooLong_of_short hr.short (c := []) (by simp)), ?_⟩
  refine ⟨dirs_set_self hr.parents _, fun d hd => by simp at hd, fun q n hq hT => ?_, fun it hit => by simp at hit⟩
  rw [get_set] at hq
  by_cases he : q = T
  · rw [if_pos he] at hq
    injection hq with hq; subst hq
    exact Or.inl ⟨rfl, [], by simp [he], Or.inl rfl⟩
  · rw [if_neg he, hr.vacant q hT] at hq; cases hq

/-- the entry `it` has been written: the state differs from one satisfying `K` at the entry's path only, where the node
the entry prescribes stands now, and the directories are still there -/
theorem K.write {T : Path} {fs fs2 : Fs} {dl : List Bytes} {done : List Item} (hk : K T fs dl done) (it : Item) (n : Node)
    (hw : wantNode it = some n)
    (h2 : ∀ q, fs2.get q = if q = T ++ compsD it.path then some n else fs.get q)
    (hkeep : ∀ q, fs.DirAt q → fs2.DirAt q)
    (hshape : (n.isDir = true ∧ DPos dl (compsD it.path)) ∨ it.kind ≠ .dir)
    (hdist : ∀ i ∈ done, compsD i.path ≠ compsD it.path) :
    K T fs2 dl (it :: done) := by
  refine ⟨fun k a b => hkeep _ (hk.top k a b), fun d hd p hp => hkeep _ (hk.dn d hd p hp),
    fun q n' hq hTq => ?_, fun i hi => ?_⟩
  · rw [h2] at hq
    by_cases he : q = T ++ compsD it.path
    · rw [if_pos he] at hq; injection hq with hq; subst hq
      exact hshape.imp (fun ⟨hd, hpos⟩ => ⟨hd, _, he, hpos⟩) fun hkind => ⟨it, by simp, hkind, he⟩
    · rw [if_neg he] at hq
      rcases hk.shape q n' hq hTq with hdir | ⟨i, hi, hik, hqi⟩
      · exact Or.inl hdir
      · exact Or.inr ⟨i, List.mem_cons_of_mem _ hi, hik, hqi⟩
  · rw [h2]
    rcases List.mem_cons.mp hi with he | hi
    · subst he; rw [if_pos rfl, hw]
    · rw [if_neg (mt List.append_cancel_left (hdist i hi))]; exact hk.faithful i hi

theorem K_setdir {T : Path} {fs : Fs} {dl : List Bytes} {done : List Item} (hk : K T fs dl done) (it : Item)
    (hkind : it.kind = .dir) (hmem : it.path ∈ dl) (hdist : ∀ i ∈ done, compsD i.path ≠ compsD it.path) :
    K T (fs.set (T ++ compsD it.path) (.dir it.perm)) dl (it :: done) :=
  hk.write it (.dir it.perm) (by simp [wantNode, hkind]) (fun q => get_set ..) (fun _ h => h.set_dir _ _)
    (Or.inl ⟨rfl, Or.inr ⟨it.path, hmem, List.prefix_refl _⟩⟩) hdist

theorem K_put {T : Path} {fs fs2 : Fs} {dl : List Bytes} {done : List Item} (hk : K T fs dl done) (it : Item) (n : Node)
    (hkind : it.kind ≠ .dir) (hw : wantNode it = some n)
    (hv : fs.get (T ++ compsD it.path) = none)
    (h2 : ∀ q, fs2.get q = if q = T ++ compsD it.path then some n else fs.get q)
    (hdist : ∀ i ∈ done, compsD i.path ≠ compsD it.path) :
    K T fs2 dl (it :: done) :=
  hk.write it n hw h2
    (fun q ⟨m, hm⟩ => ⟨m, by rw [h2, if_neg (fun he => by rw [he, hv] at hm; cases hm), hm]⟩) (Or.inr hkind) hdist

section
variable {T : Path} (hT : ∀ c ∈ T, Normal c) (hne : T ≠ [])
include hT hne

theorem K_cda {fs : Fs} {dl : List Bytes} {done : List Item} (hk : K T fs dl done) (d : Bytes)
    (hn : ∀ x ∈ compsD d, Normal x) (hs : ∀ x ∈ compsD d, Short x)
    (hko : ∀ i ∈ done, i.kind ≠ .other)
    (hfree : ∀ i ∈ done, i.kind ≠ .dir → ¬ compsD i.path <+: compsD d) :
    ∃ fs1, createDirAll fs (T ++ compsD d) = .ok fs1 ∧ K T fs1 (d :: dl) done := by
  obtain ⟨fs1, h1, post⟩ := cda_spec hT hne (compsD d) fs hn hs hk.top (hk.noneOrDir hfree)
  refine ⟨fs1, h1, ⟨fun k hk1 hk2 => ?_, fun d' hd' p hp => ?_, fun q n hq hTq => ?_, fun i hi => ?_⟩⟩
  · exact post.dirAt (hk.top k hk1 hk2)
  · rcases List.mem_cons.mp hd' with he | hd'
    · subst he
      exact post.made p hp
    · exact post.dirAt (hk.dn d' hd' p hp)
  · rcases post.only q with h | ⟨_, ⟨m, hm⟩, p, hp, hqk⟩
    · rw [h] at hq
      rcases hk.shape q n hq hTq with ⟨hd, p, hp, hpos⟩ | hleaf
      · exact Or.inl ⟨hd, p, hp, hpos.mono (fun x hx => List.mem_cons_of_mem _ hx)⟩
      · exact Or.inr hleaf
    · rw [hm] at hq; injection hq with hq; subst hq
      exact Or.inl ⟨rfl, p, hqk, Or.inr ⟨d, by simp, hp⟩⟩
  · obtain ⟨n, hw⟩ := wantNode_some (hko i hi)
    rw [hw]
    exact post.persist (hw ▸ hk.faithful i hi)

theorem dirs_ok : ∀ (dsr : List Bytes) (dl : List Bytes) (fs : Fs), K T fs dl [] →
    (∀ d ∈ dsr, ∀ x ∈ compsD d, Normal x) → (∀ d ∈ dsr, ∀ x ∈ compsD d, Short x) →
    ∃ fs', extractDirs T fs dsr = ⟨.ok (), fs'⟩ ∧ K T fs' (dsr.reverse ++ dl) [] := by
  intro dsr
  induction dsr with
  | nil => intro dl fs hk _ _; exact ⟨fs, rfl, by simpa using hk⟩
  | cons d r ih =>
    intro dl fs hk hn hs
    obtain ⟨fs1, h1, k1⟩ := K_cda hT hne hk d (hn d (by simp)) (hs d (by simp)) (by simp) (by simp)
    obtain ⟨fs', h2, k2⟩ := ih (d :: dl) fs1 k1 (fun d' hd' => hn d' (by simp [hd'])) (fun d' hd' => hs d' (by simp [hd']))
    refine ⟨fs', ?_, by simpa using k2⟩
    unfold extractDirs
    rw [extractionPath_normal T (hn d (by simp))]
    simp only
    rw [andThenDirs_ok h1]
    exact h2

theorem K_diritem {fs : Fs} {dl : List Bytes} {done : List Item} (hk : K T fs dl done) (it : Item)
    (hkind : it.kind = .dir)
    (hn : ∀ x ∈ compsD it.path, Normal x) (hs : ∀ x ∈ compsD it.path, Short x)
    (hko : ∀ i ∈ done, i.kind ≠ .other)
    (hfree : ∀ i ∈ done, i.kind ≠ .dir → ¬ compsD i.path <+: compsD it.path)
    (hdist : ∀ i ∈ done, compsD i.path ≠ compsD it.path) :
    ∃ fs2, extractItem T fs it = ⟨.ok (), fs2⟩ ∧ K T fs2 (it.path :: dl) (it :: done) := by
  obtain ⟨fs1, h1, k1⟩ := K_cda hT hne hk it.path hn hs hko hfree
  have hd := k1.dn it.path (by simp)
  obtain ⟨m0, hm0⟩ := hd _ (List.prefix_refl _)
  have hres : resolve fs1 true (T ++ compsD it.path) = .ok (T ++ compsD it.path) :=
    resolve_of_dirs hT true _ hn k1.top (fun k _ => hd _ (List.take_prefix _ _)) (fun _ => (hd _ (List.prefix_refl _)).noLink)
  have href : refuseSymlinks fs T (relOf it.path) true = false :=
    refuse_false hne hT hn hk.top true fun k _ _ => (hk.noneOrDir hfree _ (List.take_prefix k _)).noLink
  refine ⟨_, ?_, K_setdir k1 it hkind (by simp) hdist⟩
  unfold extractItem
  rw [extractionPath_normal T hn]
  simp only [hkind, href, Bool.false_eq_true, if_false]
  rw [andThenDirs_ok h1, setPerm_dir it.perm hres hm0]
  rfl

theorem K_leafitem {fs : Fs} {dl : List Bytes} {done : List Item} (hk : K T fs dl done) (it : Item)
    (hnd : it.kind ≠ .dir) (hko : it.kind ≠ .other) (hlink : it.kind = .symlink → it.linkto ≠ [])
    (hn : ∀ x ∈ compsD it.path, Normal x) (hTs : ∀ c ∈ T, Short c) (hs : ∀ x ∈ compsD it.path, Short x)
    (hparent : ∃ d ∈ dl, (compsD it.path).dropLast <+: compsD d)
    (hself : ¬ DPos dl (compsD it.path))
    (hdist : ∀ i ∈ done, compsD i.path ≠ compsD it.path) :
    ∃ fs2, extractItem T fs it = ⟨.ok (), fs2⟩ ∧ K T fs2 dl (it :: done) := by
  have hv : fs.get (T ++ compsD it.path) = none := by
    cases hg : fs.get (T ++ compsD it.path) with
    | none => rfl
    | some n =>
      exfalso
      rcases hk.shape _ n hg (List.prefix_append _ _) with ⟨_, p, hp, hpos⟩ | ⟨i, hi, _, hq⟩
      · exact hself ((List.append_cancel_left hp) ▸ hpos)
      · exact hdist i hi (List.append_cancel_left hq).symm
  obtain ⟨d, hd, hpd⟩ := hparent
  have hdirs : ∀ k, k < (compsD it.path).length → fs.DirAt (T ++ (compsD it.path).take k) := by
    intro k hk'
    refine hk.dn d hd _ (List.IsPrefix.trans ?_ hpd)
    rw [List.dropLast_eq_take]
    exact (List.prefix_take_le_iff hk').mpr (by omega)
  have hres : ∀ fl, resolve fs fl (T ++ compsD it.path) = .ok (T ++ compsD it.path) := fun fl =>
    resolve_of_dirs hT fl _ hn hk.top hdirs (fun _ t h => by rw [hv] at h; cases h)
  have href : refuseSymlinks fs T (relOf it.path) false = false :=
    refuse_false hne hT hn hk.top false fun k _ hlk => (hdirs k (hlk.resolve_left (by simp))).noLink
  have hnotlink : isSymlinkAt fs (T ++ compsD it.path) = false := by
    unfold isSymlinkAt
    rw [hres false]
    simp only [hv]
  cases hkk : it.kind with
  | dir => exact absurd hkk hnd
  | other => exact absurd hkk hko
  | regular =>
    have h1 := fileCreate_vacant it.content (hres true) hv (nameTooLong_of_short hTs hs)
    -- the second call sees the file just created
    let fs1 := fs.set (T ++ compsD it.path) (.file it.content (fs.masked 0o666))
    have hg1 : fs1.get (T ++ compsD it.path) = some (.file it.content (fs.masked 0o666)) := by simp [fs1, get_set]
    have hres1 : resolve fs1 true (T ++ compsD it.path) = .ok (T ++ compsD it.path) :=
      resolve_of_dirs hT true _ hn (fun k a b => (hk.top k a b).set_vacant hv _) (fun k hk' => (hdirs k hk').set_vacant hv _)
        (fun _ t h => by rw [hg1] at h; cases h)
    have h2 := setPerm_file it.perm hres1 hg1
    refine ⟨fs1.set (T ++ compsD it.path) (.file it.content it.perm), ?_, ?_⟩
    · unfold extractItem
      rw [extractionPath_normal T hn]
      simp only [hkk, href, hnotlink, Bool.false_eq_true, if_false, andThen_ok]
      rw [h1]
      simp only [andThen_ok]
      rw [h2]
      rfl
    · refine K_put hk it (.file it.content it.perm) hnd (by simp [wantNode, hkk]) hv (fun q => ?_) hdist
      by_cases he : q = T ++ compsD it.path
      · simp [get_set, he]
      · simp [fs1, get_set, he]
  | symlink =>
    have hlt := hlink hkk
    have hle : lexists fs (T ++ compsD it.path) = false := lexists_vacant (hres false) hv
    have h1 := symlink_vacant hlt (hres false) hv (nameTooLong_of_short hTs hs)
    refine ⟨fs.set (T ++ compsD it.path) (.symlink it.linkto), ?_, ?_⟩
    · unfold extractItem
      rw [extractionPath_normal T hn]
      simp only [hkk, href, hle, Bool.false_eq_true, if_false]
      rw [h1]
      rfl
    · exact K_put hk it (.symlink it.linkto) hnd (by simp [wantNode, hkk]) hv
        (fun q => get_set fs _ q _) hdist

end
/-- what `benign` says about the entries, as propositions -/
structure BenignItems (ds : List Bytes) (all : List Item) : Prop where
  kinds : ∀ it ∈ all, it.kind ≠ .other
  normal : ∀ it ∈ all, ∀ x ∈ compsD it.path, Normal x
  short : ∀ it ∈ all, ∀ x ∈ compsD it.path, Short x
  leaf : ∀ it ∈ all, it.kind ≠ .dir →
    (∃ d ∈ ds, (compsD it.path).dropLast <+: compsD d) ∧ compsD it.path ≠ [] ∧
    (¬ ∃ d ∈ ds, compsD it.path <+: compsD d) ∧
    (∀ d ∈ all, d.kind = .dir → ¬ compsD it.path <+: compsD d.path) ∧
    (it.kind = .symlink → it.linkto ≠ [])

def Src (ds : List Bytes) (done : List Item) (dl : List Bytes) : Prop :=
  (∀ d ∈ ds, d ∈ dl) ∧ ∀ d ∈ dl, d ∈ ds ∨ ∃ i ∈ done, i.kind = .dir ∧ d = i.path

theorem Src.leaf {ds done dl} (h : Src ds done dl) (it : Item) : Src ds (it :: done) dl :=
  ⟨h.1, fun d hd => (h.2 d hd).imp id fun ⟨i, hi, hi'⟩ => ⟨i, List.mem_cons_of_mem _ hi, hi'⟩⟩

theorem Src.dir {ds done dl} (h : Src ds done dl) {it : Item} (hk : it.kind = .dir) :
    Src ds (it :: done) (it.path :: dl) :=
  ⟨fun d hd => List.mem_cons_of_mem _ (h.1 d hd), fun d hd =>
    (List.mem_cons.mp hd).elim (fun e => Or.inr ⟨it, by simp, hk, e⟩) ((h.leaf it).2 d)⟩

section
variable {T : Path} (hT : ∀ c ∈ T, Normal c) (hne : T ≠ [])
include hT hne

theorem items_ok {ds : List Bytes} {all : List Item} (hTs : ∀ c ∈ T, Short c) (hb : BenignItems ds all)
    (hnd : (all.map (fun i => compsD i.path)).Nodup) :
    ∀ (rest done : List Item) (dl : List Bytes) (fs : Fs), done.reverse ++ rest = all → K T fs dl done → Src ds done dl →
    ∃ fs' dl', extractItems T fs rest = ⟨.ok (), fs'⟩ ∧ K T fs' dl' all.reverse := by
  intro rest
  induction rest with
  | nil => intro done dl fs he hk _; subst he; exact ⟨fs, dl, rfl, by simpa using hk⟩
  | cons it r ih =>
    intro done dl fs he hk hsrc
    have hit : it ∈ all := he ▸ by simp
    have hda : ∀ i ∈ done, i ∈ all := fun i hi => he ▸ by simp [hi]
    have hdist : ∀ i ∈ done, compsD i.path ≠ compsD it.path := by
      rw [← he, List.map_append] at hnd
      exact fun i hi => (List.nodup_append.mp hnd).2.2 _ (List.mem_map_of_mem (List.mem_reverse.mpr hi)) _
        (List.mem_map_of_mem List.mem_cons_self)
    have hstep : ∃ fs2 dl2, extractItem T fs it = ⟨.ok (), fs2⟩ ∧ K T fs2 dl2 (it :: done) ∧ Src ds (it :: done) dl2 := by
      by_cases hkd : it.kind = .dir
      · obtain ⟨fs2, h2, k2⟩ := K_diritem hT hne hk it hkd (hb.normal it hit) (hb.short it hit)
          (fun i hi => hb.kinds i (hda i hi)) (fun i hi hik => (hb.leaf i (hda i hi) hik).2.2.2.1 it hit hkd) hdist
        exact ⟨fs2, _, h2, k2, hsrc.dir hkd⟩
      · obtain ⟨⟨d, hd, hpar⟩, hne', hnotdn, hnotdir, hlink⟩ := hb.leaf it hit hkd
        obtain ⟨fs2, h2, k2⟩ := K_leafitem hT hne hk it hkd (hb.kinds it hit) hlink (hb.normal it hit) hTs (hb.short it hit)
          ⟨d, hsrc.1 d hd, hpar⟩ (by
            rintro (h | ⟨d', hd', hpre⟩)
            · exact hne' h
            · rcases hsrc.2 d' hd' with h | ⟨i, hi, hik, rfl⟩
              · exact hnotdn ⟨d', h, hpre⟩
              · exact hnotdir i (hda i hi) hik hpre) hdist
        exact ⟨fs2, dl, h2, k2, hsrc.leaf it⟩
    obtain ⟨fs2, dl2, h2, k2, hsrc2⟩ := hstep
    obtain ⟨fs', dl', h3, k3⟩ := ih (it :: done) dl2 fs2 (by simpa using he) k2 hsrc2
    refine ⟨fs', dl', ?_, k3⟩
    unfold extractItems
    rw [h2]
    exact h3

end
theorem inDirnames_iff {ds : List Bytes} {p : List Name} : inDirnames ds p = true ↔ ∃ d ∈ ds, p <+: compsD d := by
  simp only [inDirnames, List.any_eq_true, List.isPrefixOf_iff_prefix]

theorem benign_spec {inp : Input} (h : benign inp = true) :
    ∃ ds, inp.dirnames = some ds ∧ inp.tailOk = true ∧ (∀ d ∈ ds, ∀ x ∈ compsD d, Normal x) ∧
      (∀ d ∈ ds, ∀ x ∈ compsD d, Short x) ∧
      BenignItems ds inp.items ∧ (inp.items.map (fun i => compsD i.path)).Nodup := by
  unfold benign at h
  cases hd : inp.dirnames with
  | none => rw [hd] at h; simp at h
  | some ds =>
    rw [hd] at h
    simp only [Bool.and_eq_true, List.all_eq_true, decide_eq_true_eq, Bool.or_eq_true] at h
    obtain ⟨⟨⟨⟨⟨⟨⟨htail, hkinds⟩, hdd⟩, _⟩, hitems⟩, hnodup⟩, hleaf⟩, hshort⟩ := h
    have hsh : ∀ s ∈ allTexts inp, ∀ x ∈ compsD s, Short x := by
      intro s hs x hx
      simp only [shortNames, List.all_eq_true, decide_eq_true_eq] at hshort
      exact hshort s hs x hx
    have hall : ∀ s ∈ allTexts inp, hasDotDot s = false := by
      simpa [noDotDot, List.all_eq_true] using hdd
    have hk : ∀ it ∈ inp.items, it.kind ≠ .other := by
      simpa [threeKinds, List.all_eq_true] using hkinds
    have hmd : ∀ d ∈ ds, d ∈ allTexts inp := fun d hd' => by simp [allTexts, hd, hd']
    have hmi : ∀ it ∈ inp.items, it.path ∈ allTexts inp := fun it hit =>
      List.mem_append_right _ (List.mem_map_of_mem hit)
    refine ⟨ds, rfl, htail, fun d hd' => compsD_normal (hall d (hmd d hd')), fun d hd' => hsh d (hmd d hd'),
      ⟨hk, fun it hit => compsD_normal (hall _ (hmi it hit)), fun it hit => hsh _ (hmi it hit), fun it hit hnd => ?_⟩,
      hnodup⟩
    rcases hleaf it hit with hdir | ⟨⟨⟨hpar, hself⟩, hnotdir⟩, hlink⟩
    · exact absurd hdir hnd
    · refine ⟨inDirnames_iff.mp hpar, (hitems it hit).2, fun h => ?_, ?_, ?_⟩
      · rw [inDirnames_iff.mpr h] at hself; cases hself
      · intro d hd' hdk hp
        have := hnotdir d hd'
        have hp' : (compsD it.path).isPrefixOf (compsD d.path) = true := List.isPrefixOf_iff_prefix.mpr hp
        simp [hdk, hp'] at this
      · intro hsym
        rcases hlink with h1 | h1
        · exact absurd hsym h1
        · intro he; simp [he] at h1

end RpmVerif.Fs
