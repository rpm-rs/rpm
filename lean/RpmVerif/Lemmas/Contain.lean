import RpmVerif.Lemmas.Fs
import RpmVerif.Spec.Extract
/-!
Containment rests on one invariant, `Inv T`: the destination `T` and its ancestors are directories, and every node
strictly below `T` hangs in a directory. Under it a path `T ++ r` of ordinary names with no link on the way resolves to
itself (`resolve_at`), so a system call on it writes at `T ++ r` and nowhere else; every call re-establishes the
invariant and logs what it changed (`Good`), and every call but `symlink` adds no link (`Quiet`).
-/
namespace RpmVerif.Fs
open RpmVerif.Extract

structure Inv (T : Path) (fs : Fs) : Prop where
  dirs : DirsTo fs T
  tree : ∀ q n, fs.get q = some n → T <+: q → q ≠ T → fs.DirAt q.dropLast

theorem dropLast_ne_self {q : Path} (h : q ≠ []) : q.dropLast ≠ q := by
  intro he
  have := congrArg List.length he
  simp at this
  have : q.length ≠ 0 := fun h0 => h (List.length_eq_zero_iff.mp h0)
  omega

theorem Inv.of_keep {T fs fs'} (h : Inv T fs) (keep : ∀ p, fs.DirAt p → fs'.DirAt p)
    (hnew : ∀ p n, fs'.get p = some n → T <+: p → p ≠ T → (∃ n', fs.get p = some n') ∨ fs.DirAt p.dropLast) :
    Inv T fs' := by
  refine ⟨fun k hk hk2 => keep _ (h.dirs k hk hk2), fun p n hp hT hne => ?_⟩
  rcases hnew p n hp hT hne with ⟨n', hn'⟩ | hd
  · exact keep _ (h.tree p n' hn' hT hne)
  · exact keep _ hd

theorem Inv.set {T fs} (h : Inv T fs) (q : Path) (n : Node)
    (hd : ∀ m, fs.get q = some (.dir m) → n.isDir = true)
    (hp : T <+: q → q ≠ T → fs.DirAt q.dropLast) : Inv T (fs.set q n) := by
  refine h.of_keep (fun p ⟨m, hm⟩ => ?_) (fun p n' hp' hT hne => ?_)
  · unfold Fs.DirAt
    rw [get_set]
    by_cases he : p = q
    · subst he
      cases n with
      | dir m' => exact ⟨m', by simp⟩
      | file => exact absurd (hd m hm) (by simp [Node.isDir])
      | symlink => exact absurd (hd m hm) (by simp [Node.isDir])
    · exact ⟨m, by simp [he, hm]⟩
  · rw [get_set] at hp'
    by_cases he : p = q
    · subst he; exact Or.inr (hp hT hne)
    · rw [if_neg he] at hp'; exact Or.inl ⟨n', hp'⟩

theorem Inv.del {T fs} (h : Inv T fs) (q : Path) (n : Node) (hq : fs.get q = some n) (hd : n.isDir = false) :
    Inv T (fs.del q) := by
  refine h.of_keep (fun p ⟨m, hm⟩ => ?_) (fun p n' hp' _ _ => ?_)
  · unfold Fs.DirAt
    rw [get_del]
    by_cases he : p = q
    · subst he; rw [hq] at hm; injection hm with hm; subst hm; simp [Node.isDir] at hd
    · exact ⟨m, by simp [he, hm]⟩
  · rw [get_del] at hp'
    by_cases he : p = q
    · simp [he] at hp'
    · rw [if_neg he] at hp'; exact Or.inl ⟨n', hp'⟩

def Good (T : Path) (fs fs' : Fs) : Prop :=
  Inv T fs' ∧ ∃ L, Ext fs fs' L ∧ ∀ q ∈ L, T <+: q

theorem Good.refl {T fs} (h : Inv T fs) : Good T fs fs := ⟨h, [], Ext.refl fs, by simp⟩

theorem Good.trans {T a b c} (h1 : Good T a b) (h2 : Good T b c) : Good T a c := by
  obtain ⟨_, L1, e1, u1⟩ := h1
  obtain ⟨i2, L2, e2, u2⟩ := h2
  exact ⟨i2, L2 ++ L1, e1.trans e2, List.forall_mem_append.mpr ⟨u2, u1⟩⟩

theorem Inv.set_good {T fs} (hi : Inv T fs) (r : List Name) (n : Node)
    (hd : ∀ m, fs.get (T ++ r) = some (.dir m) → n.isDir = true)
    (hp : T <+: T ++ r → T ++ r ≠ T → fs.DirAt (T ++ r).dropLast) : Good T fs (fs.set (T ++ r) n) :=
  ⟨hi.set _ _ hd hp, [T ++ r], Ext.set _ _ _, by simp⟩

def Quiet (fs fs' : Fs) : Prop := ∀ q, fs.NoLinkAt q → fs'.NoLinkAt q

theorem Quiet.refl (fs : Fs) : Quiet fs fs := fun _ h => h
theorem Quiet.trans {a b c : Fs} (h1 : Quiet a b) (h2 : Quiet b c) : Quiet a c := fun q h => h2 q (h1 q h)
theorem Quiet.set {fs : Fs} (q : Path) (n : Node) (hn : n.isSymlink = false) : Quiet fs (fs.set q n) := by
  intro p h t ht
  rw [get_set] at ht
  by_cases he : p = q
  · simp only [he, if_true] at ht; injection ht with ht; subst ht; simp [Node.isSymlink] at hn
  · simp only [he, if_false] at ht; exact h t ht
theorem Quiet.del {fs : Fs} (q : Path) : Quiet fs (fs.del q) := by
  intro p h t ht
  rw [get_del] at ht
  by_cases he : p = q
  · simp [he] at ht
  · simp only [he, if_false] at ht; exact h t ht

def NoLinkTo (fs : Fs) (T : Path) (r : List Name) (n : Nat) : Prop :=
  ∀ k, 0 < k → k ≤ n → fs.NoLinkAt (T ++ r.take k)

theorem NoLinkTo.quiet {fs fs' T r n} (h : NoLinkTo fs T r n) (hq : Quiet fs fs') : NoLinkTo fs' T r n :=
  fun k hk hk2 => hq _ (h k hk hk2)

section ops
variable {T : Path} (hT : ∀ c ∈ T, Normal c) (hne : T ≠ [])
include hT hne

theorem resolve_at {fs : Fs} (hi : Inv T fs) (fl : Bool) (r : List Name) (hr : ∀ c ∈ r, Normal c)
    (hN : NoLinkTo fs T r (r.length - 1))
    (hl : fl = true → fs.NoLinkAt (T ++ r))
    {q} (hq : resolve fs fl (T ++ r) = .ok q) :
    q = T ++ r ∧ (T <+: T ++ r → T ++ r ≠ T → ∃ m, fs.get (T ++ r).dropLast = some (.dir m)) := by
  obtain ⟨rfl, hd⟩ := resolve_ok fs fl (T ++ r) (List.forall_mem_append.mpr ⟨hT, hr⟩)
    (forall_take_append (P := fs.NoLinkAt)
      (fun k hk hk2 => (hi.dirs k hk hk2).noLink)
      fun k hk hk2 => hN k hk (by omega)) hl hq
  refine ⟨rfl, fun _ hne' => ?_⟩
  have hrne : r ≠ [] := fun h => hne' (by simp [h])
  have hT0 : 0 < T.length := List.length_pos_iff.mpr hne
  have hr0 : 0 < r.length := List.length_pos_iff.mpr hrne
  have := hd (T.length + (r.length - 1)) (by omega) (by simp; omega)
  rwa [List.take_length_add_append, ← List.dropLast_eq_take, ← List.dropLast_append_of_ne_nil hrne] at this

theorem mkdir_good {fs fs' : Fs} (hi : Inv T fs) {r : List Name} (hr : ∀ c ∈ r, Normal c)
    (hN : NoLinkTo fs T r (r.length - 1)) (h : mkdir fs (T ++ r) = .ok fs') : Good T fs fs' ∧ Quiet fs fs' := by
  obtain ⟨q, hq, hv, _, rfl⟩ := mkdir_ok h
  obtain ⟨rfl, hp⟩ := resolve_at hT hne hi false r hr hN (by simp) hq
  exact ⟨hi.set_good r _ (fun _ _ => rfl) hp, Quiet.set _ _ rfl⟩

theorem fileCreate_good {fs fs' : Fs} (hi : Inv T fs) {r : List Name} (hr : ∀ c ∈ r, Normal c)
    (hN : NoLinkTo fs T r (r.length - 1)) (hl : fs.NoLinkAt (T ++ r)) {c}
    (h : fileCreate fs (T ++ r) c = .ok fs') :
    (Good T fs fs' ∧ Quiet fs fs') ∧ ∃ m, fs'.get (T ++ r) = some (.file c m) := by
  obtain ⟨q, m, hq, rfl, hv⟩ := fileCreate_ok h
  obtain ⟨rfl, hp⟩ := resolve_at hT hne hi true r hr hN (fun _ => hl) hq
  refine ⟨⟨hi.set_good r _ (fun m' hm' => ?_) hp, Quiet.set _ _ rfl⟩,
    m, by simp [get_set]⟩
  rcases hv with ⟨hv, _⟩ | ⟨c0, hv⟩ <;> rw [hv] at hm' <;> cases hm'

theorem setPerm_good {fs fs' : Fs} (hi : Inv T fs) {r : List Name} (hr : ∀ c ∈ r, Normal c)
    (hN : NoLinkTo fs T r (r.length - 1)) (hl : fs.NoLinkAt (T ++ r)) {p}
    (h : setPerm fs (T ++ r) p = .ok fs') : Good T fs fs' ∧ Quiet fs fs' := by
  obtain ⟨q, hq, hv⟩ := setPerm_ok h
  obtain ⟨rfl, hp⟩ := resolve_at hT hne hi true r hr hN (fun _ => hl) hq
  rcases hv with ⟨m, hv, rfl⟩ | ⟨c, m, hv, rfl⟩
  · exact ⟨hi.set_good r _ (fun _ _ => rfl) hp, Quiet.set _ _ rfl⟩
  · refine ⟨hi.set_good r _ (fun m' hm' => ?_) hp, Quiet.set _ _ rfl⟩
    rw [hv] at hm'; cases hm'

theorem unlink_good {fs fs' : Fs} (hi : Inv T fs) {r : List Name} (hr : ∀ c ∈ r, Normal c)
    (hN : NoLinkTo fs T r (r.length - 1)) (h : unlink fs (T ++ r) = .ok fs') :
    (Good T fs fs' ∧ Quiet fs fs') ∧ fs'.get (T ++ r) = none := by
  obtain ⟨q, n, hq, hv, hd, rfl⟩ := unlink_ok h
  obtain ⟨rfl, _⟩ := resolve_at hT hne hi false r hr hN (by simp) hq
  exact ⟨⟨⟨hi.del _ n hv hd, [T ++ r], Ext.del _ _, by simp⟩, Quiet.del _⟩, by simp [get_del]⟩

theorem symlink_good {fs fs' : Fs} (hi : Inv T fs) {r : List Name} (hr : ∀ c ∈ r, Normal c)
    (hN : NoLinkTo fs T r (r.length - 1)) {t} (h : symlink fs (T ++ r) t = .ok fs') : Good T fs fs' := by
  obtain ⟨q, hq, hv, _, _, rfl⟩ := symlink_ok h
  obtain ⟨rfl, hp⟩ := resolve_at hT hne hi false r hr hN (by simp) hq
  refine hi.set_good r _ (fun m hm => ?_) hp
  rw [hv] at hm; cases hm

omit hne in
theorem mkdir_above {fs fs' : Fs} (hi : Inv T fs) {cs : List Name} (hcs : cs <+: T) (h0 : cs ≠ []) :
    mkdir fs cs ≠ .ok fs' := by
  have hlen := hcs.length_le
  have htk : ∀ k, k ≤ cs.length → cs.take k = T.take k := fun k hk => by
    rw [List.prefix_iff_eq_take.mp hcs, List.take_take, Nat.min_eq_left hk]
  obtain ⟨m, hm⟩ := hi.dirs cs.length (List.length_pos_iff.mpr h0) hlen
  rw [← htk _ (Nat.le_refl _), List.take_length] at hm
  have hres : resolve fs false cs = .ok cs := resolve_parents fs false cs (fun c hc => hT c (hcs.subset hc))
    (fun k hk hk2 => by rw [htk k (Nat.le_of_lt hk2)]; exact hi.dirs k hk (by omega)) (by simp)
  rw [mkdir_exists hres hm]
  intro h; cases h

omit hT hne in
theorem NoLinkTo.of_prefix {fs : Fs} {r r' : List Name} {n n' : Nat} (h : NoLinkTo fs T r n) (hp : r' <+: r)
    (hn : n' ≤ n) (hl : n' ≤ r'.length) : NoLinkTo fs T r' n' := by
  intro k hk hk2 t
  have := h k hk (by omega) t
  rwa [List.prefix_iff_eq_take.mp hp, List.take_take, Nat.min_eq_left (by omega)]

theorem createDirAll_good {fs : Fs} (hi : Inv T fs) {r : List Name} (hr : ∀ c ∈ r, Normal c)
    (hl : NoLinkTo fs T r r.length) :
    (∀ fs', createDirAll fs (T ++ r) = .ok fs' → Good T fs fs' ∧ Quiet fs fs') ∧
    Good T fs (createDirAllLeft fs (T ++ r)) ∧ Quiet fs (createDirAllLeft fs (T ++ r)) := by
  have key := cdaRev_chain (p := T ++ r)
    (R := fun a b => Inv T a → NoLinkTo a T r r.length → Good T a b ∧ Quiet a b)
    (fun a ha _ => ⟨Good.refl ha, Quiet.refl a⟩)
    (fun h1 h2 ha hn => by
      obtain ⟨g1, q1⟩ := h1 ha hn
      obtain ⟨g2, q2⟩ := h2 g1.1 (hn.quiet q1)
      exact ⟨g1.trans g2, q1.trans q2⟩)
    (fun {a b cs} hcs h0 hm ha hn => by
      rcases List.prefix_or_prefix_of_prefix hcs (List.prefix_append T r) with hp | ⟨r', rfl⟩
      · exact absurd hm (mkdir_above hT ha hp h0)
      · have hp : r' <+: r := (List.prefix_append_right_inj T).mp hcs
        exact mkdir_good hT hne ha (fun c hc => hr c (hp.subset hc))
          (hn.of_prefix hp (by have := hp.length_le; omega) (by omega)) hm)
    (T ++ r).reverse (by simp) fs
  exact ⟨fun fs' h => key.1 fs' h hi hl, key.2 hi hl⟩

end ops
end RpmVerif.Fs
