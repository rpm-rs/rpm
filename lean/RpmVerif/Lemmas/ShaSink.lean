import RpmVerif.Model.ShaSink
import RpmVerif.Lemmas.PayloadWriter
/-!
Lemmas for Model/ShaSink.lean: every machine over the hashing writer (`HSink`, `HWriter`, …) projects onto its twin over
the bare compressor (`PWriter.Sink`, `PWriter.Writer`, …) — same outcome, same compressor state —, and keeps the invariant
`Inv pre h`: the compressor's accepted bytes are `pre` (what it held when the `Sha256Writer` was made) followed by exactly
the hashed bytes.  The large-file branch, which talks to the hashing writer directly, is a `?`-sequence of steps that each
keep `Inv` and `PWriter.Emits` (`andThen_spec`).
-/
namespace RpmVerif.ShaSink
open RpmVerif.Cpio RpmVerif.Gen RpmVerif.PWriter

def Inv (pre : Bytes) (h : HSink) : Prop := h.inner.out = pre ++ h.hashed

def HWriter.proj (w : HWriter) : Writer := ⟨w.inner.inner, w.written, w.fileSize, w.headerSize, w.header⟩

theorem HSink.write_proj (pre : Bytes) (h : HSink) (buf : Bytes) :
    (h.write buf).1 = (h.inner.write buf).1 ∧ (h.write buf).2.inner = (h.inner.write buf).2
    ∧ (Inv pre h → Inv pre (h.write buf).2)
    ∧ (∀ n, (h.write buf).1 = .ok n → (h.write buf).2.hashed = h.hashed ++ buf.take n)
    ∧ (∀ c, (h.write buf).1 = .err c → (h.write buf).2.hashed = h.hashed) := by
  obtain ⟨_, _, _, _, h5⟩ := Sink.write_spec h.inner buf
  unfold HSink.write
  rcases hw : h.inner.write buf with ⟨r, s⟩
  rw [hw] at h5
  simp only at h5
  rcases h5 with ⟨n, hr, hn, hout⟩ | ⟨hr, hout⟩
  · subst hr
    simp only [hn, if_true]
    refine ⟨trivial, trivial, fun hi => ?_, fun k hk => by cases hk; rfl, fun c hc => by cases hc⟩
    show s.out = pre ++ (h.hashed ++ buf.take n)
    rw [hout, hi, List.append_assoc]
  · obtain ⟨c, rfl⟩ : ∃ c, r = .err c := hr.elim (⟨_, ·⟩) (⟨_, ·⟩)
    exact ⟨rfl, rfl, fun hi => hout.trans hi, nofun, fun _ _ => rfl⟩

/-- `&buf[..n]` never panics: the hashing layer adds no outcome of its own -/
theorem HSink.write_no_new_panic (h : HSink) (buf : Bytes) (p : String) :
    (h.write buf).1 = .panic p → (h.inner.write buf).1 = .panic p := by
  intro hp
  rw [← (HSink.write_proj [] h buf).1]; exact hp

theorem proj_cases {α σ τ : Type} {π : σ → τ} {P : σ → Prop} {x : Out α × σ} {y : Out α × τ}
    (h : x.1 = y.1 ∧ π x.2 = y.2 ∧ P x.2) : ∃ o s, x = (o, s) ∧ y = (o, π s) ∧ P s :=
  ⟨x.1, x.2, rfl, Prod.ext h.1.symm h.2.1.symm, h.2.2⟩

theorem loop_proj {σ τ : Type} (w₁ : σ → Bytes → Out Nat × σ) (w₂ : τ → Bytes → Out Nat × τ) (π : σ → τ) (P : σ → Prop)
    (hstep : ∀ s buf, P s → (w₁ s buf).1 = (w₂ (π s) buf).1 ∧ π (w₁ s buf).2 = (w₂ (π s) buf).2 ∧ P (w₁ s buf).2) :
    ∀ (fuel : Nat) (buf : Bytes) (s : σ), P s →
      (writeAllLoop w₁ fuel buf s).1 = (writeAllLoop w₂ fuel buf (π s)).1
      ∧ π (writeAllLoop w₁ fuel buf s).2 = (writeAllLoop w₂ fuel buf (π s)).2
      ∧ P (writeAllLoop w₁ fuel buf s).2 := by
  intro fuel
  induction fuel with
  | zero =>
    intro buf s hp
    cases buf with
    | nil => exact ⟨rfl, rfl, hp⟩
    | cons b bs => exact ⟨rfl, rfl, hp⟩
  | succ f ih =>
    intro buf s hp
    cases buf with
    | nil => exact ⟨rfl, rfl, hp⟩
    | cons b bs =>
      unfold writeAllLoop
      obtain ⟨r, s', h1, h2, a3⟩ := proj_cases (hstep s (b :: bs) hp)
      rw [h1, h2]
      cases r with
      | ok n =>
        cases n with
        | zero => exact ⟨rfl, rfl, a3⟩
        | succ n => exact ih _ _ a3
      | err c =>
        by_cases hc : c = "interrupted"
        · simp only [hc, if_true]; exact ih _ _ a3
        · simp only [hc, if_false]; exact ⟨trivial, trivial, a3⟩
      | panic p => exact ⟨rfl, rfl, a3⟩

theorem HSink.writeAll_proj (pre : Bytes) (h : HSink) (buf : Bytes) (hi : Inv pre h) :
    (h.writeAll buf).1 = (h.inner.writeAll buf).1 ∧ (h.writeAll buf).2.inner = (h.inner.writeAll buf).2
    ∧ Inv pre (h.writeAll buf).2 :=
  loop_proj HSink.write Sink.write HSink.inner (Inv pre)
    (fun s b hp => ⟨(HSink.write_proj pre s b).1, (HSink.write_proj pre s b).2.1, (HSink.write_proj pre s b).2.2.1 hp⟩)
    _ buf h hi

theorem HWriter.tryWriteHeader_proj (pre : Bytes) (w : HWriter) (hi : Inv pre w.inner) :
    (w.tryWriteHeader).1 = (w.proj.tryWriteHeader).1 ∧ (w.tryWriteHeader).2.proj = (w.proj.tryWriteHeader).2
    ∧ Inv pre (w.tryWriteHeader).2.inner := by
  unfold HWriter.tryWriteHeader Writer.tryWriteHeader
  by_cases he : w.header.isEmpty
  · have he' : w.proj.header.isEmpty := he
    simp only [he, he', if_true]
    exact ⟨trivial, trivial, hi⟩
  · have he' : ¬ w.proj.header.isEmpty := he
    simp only [he, he']
    have e : w.proj.inner.writeAll w.proj.header = w.inner.inner.writeAll w.header := rfl
    rw [e]
    obtain ⟨r, s, h1, h2, a3⟩ := proj_cases (HSink.writeAll_proj pre w.inner w.header hi)
    rw [h1, h2]
    cases r with
    | ok u => exact ⟨rfl, rfl, a3⟩
    | err c => exact ⟨rfl, rfl, a3⟩
    | panic p => exact ⟨rfl, rfl, a3⟩

theorem HWriter.write_proj (pre : Bytes) (w : HWriter) (buf : Bytes) (hi : Inv pre w.inner) :
    (w.write buf).1 = (w.proj.write buf).1 ∧ (w.write buf).2.proj = (w.proj.write buf).2
    ∧ Inv pre (w.write buf).2.inner := by
  unfold HWriter.write Writer.write
  have ew : w.proj.written = w.written := rfl
  have ef : w.proj.fileSize = w.fileSize := rfl
  rw [ew, ef]
  cases hu : u32Add w.written (buf.length % 4294967296) with
  | none => exact ⟨rfl, rfl, hi⟩
  | some sum =>
    simp only
    by_cases hle : sum ≤ w.fileSize
    · simp only [hle, if_true]
      obtain ⟨r, w1, h1, h2, a3⟩ := proj_cases (P := fun w : HWriter => Inv pre w.inner) (HWriter.tryWriteHeader_proj pre w hi)
      rw [h1, h2]
      cases r with
      | ok u =>
        simp only
        obtain ⟨b1, b2, b3, _⟩ := HSink.write_proj pre w1.inner buf
        have e : w1.proj.inner.write buf = w1.inner.inner.write buf := rfl
        rw [e]
        obtain ⟨q, s, h3, h4, b3'⟩ := proj_cases ⟨b1, b2, b3 a3⟩
        rw [h3, h4]
        cases q with
        | ok n =>
          simp only
          have ew1 : w1.proj.written = w1.written := rfl
          rw [ew1]
          cases u32Add w1.written (n % 4294967296) with
          | some wr => exact ⟨rfl, rfl, b3'⟩
          | none => exact ⟨rfl, rfl, b3'⟩
        | err c => exact ⟨rfl, rfl, b3'⟩
        | panic p => exact ⟨rfl, rfl, b3'⟩
      | err c => exact ⟨rfl, rfl, a3⟩
      | panic p => exact ⟨rfl, rfl, a3⟩
    · simp only [hle, if_false]
      exact ⟨trivial, trivial, hi⟩

theorem HWriter.writeAll_proj (pre : Bytes) (w : HWriter) (buf : Bytes) (hi : Inv pre w.inner) :
    (w.writeAll buf).1 = (w.proj.writeAll buf).1 ∧ (w.writeAll buf).2.proj = (w.proj.writeAll buf).2
    ∧ Inv pre (w.writeAll buf).2.inner :=
  loop_proj HWriter.write Writer.write HWriter.proj (fun w => Inv pre w.inner)
    (fun s b hp => HWriter.write_proj pre s b hp) _ buf w hi

theorem HWriter.doFinish_proj (pre : Bytes) (w : HWriter) (hi : Inv pre w.inner) :
    (w.doFinish).1 = (w.proj.doFinish).1 ∧ (w.doFinish).2.proj = (w.proj.doFinish).2
    ∧ Inv pre (w.doFinish).2.inner := by
  unfold HWriter.doFinish Writer.doFinish
  obtain ⟨r, w1, h1, h2, a3⟩ := proj_cases (P := fun w : HWriter => Inv pre w.inner) (HWriter.tryWriteHeader_proj pre w hi)
  rw [h1, h2]
  cases r with
  | ok u =>
    simp only
    have e1 : w1.proj.written = w1.written := rfl
    have e2 : w1.proj.fileSize = w1.fileSize := rfl
    have e3 : w1.proj.headerSize = w1.headerSize := rfl
    rw [e1, e2, e3]
    by_cases hw : w1.written = w1.fileSize
    · simp only [hw, if_true]
      by_cases hp : padLen (w1.headerSize + w1.fileSize) = 0
      · simp only [hp, if_true]; exact ⟨trivial, trivial, a3⟩
      · simp only [hp, if_false]
        have e : w1.proj.inner.writeAll (pad (w1.headerSize + w1.fileSize))
            = w1.inner.inner.writeAll (pad (w1.headerSize + w1.fileSize)) := rfl
        rw [e]
        obtain ⟨q, s, h3, h4, b3⟩ := proj_cases (HSink.writeAll_proj pre w1.inner (pad (w1.headerSize + w1.fileSize)) a3)
        rw [h3, h4]
        cases q with
        | ok u' =>
          simp only
          unfold HSink.flush
          cases s.inner.flush with
          | ok u'' => exact ⟨rfl, rfl, b3⟩
          | err c => exact ⟨rfl, rfl, b3⟩
          | panic p => exact ⟨rfl, rfl, b3⟩
        | err c => exact ⟨rfl, rfl, b3⟩
        | panic p => exact ⟨rfl, rfl, b3⟩
    · simp only [hw, if_false]; exact ⟨trivial, trivial, a3⟩
  | err c => exact ⟨rfl, rfl, a3⟩
  | panic p => exact ⟨rfl, rfl, a3⟩

theorem HWriter.finish_proj (pre : Bytes) (w : HWriter) (hi : Inv pre w.inner) :
    (w.finish).1 = (w.proj.finish).1 ∧ (w.finish).2.inner = (w.proj.finish).2 ∧ Inv pre (w.finish).2 := by
  unfold HWriter.finish Writer.finish
  obtain ⟨r, w1, h1, h2, a3⟩ := proj_cases (P := fun w : HWriter => Inv pre w.inner) (HWriter.doFinish_proj pre w hi)
  rw [h1, h2]
  exact ⟨rfl, rfl, a3⟩

theorem trailerH_proj (pre : Bytes) (h : HSink) (hi : Inv pre h) :
    (trailerH h).1 = (trailerW h.inner).1 ∧ (trailerH h).2.inner = (trailerW h.inner).2 ∧ Inv pre (trailerH h).2 :=
  HWriter.finish_proj pre (HWriter.new { name := cpioTrailerName, nlink := 1 } 0 none h) hi

theorem entryH_proj (pre : Bytes) (m : EntryMeta) (content : Bytes) (h : HSink) (hi : Inv pre h) :
    (entryH m content h).1 = (entryW m content h.inner).1 ∧ (entryH m content h).2.inner = (entryW m content h.inner).2
    ∧ Inv pre (entryH m content h).2 := by
  unfold entryH entryW
  obtain ⟨r, w1, h1, h2, a3⟩ := proj_cases (P := fun w : HWriter => Inv pre w.inner)
    (HWriter.writeAll_proj pre (HWriter.new m (content.length % 4294967296) none h) content hi)
  have e : (HWriter.new m (content.length % 4294967296) none h).proj = Writer.new m (content.length % 4294967296) none h.inner := rfl
  rw [e] at h2
  rw [h1, h2]
  cases r with
  | ok u => exact HWriter.finish_proj pre w1 a3
  | err c => exact ⟨rfl, rfl, a3⟩
  | panic p => exact ⟨rfl, rfl, a3⟩

theorem entriesH_proj (pre : Bytes) (es : List (EntryMeta × Bytes)) (h : HSink) (hi : Inv pre h) :
    (entriesH es h).1 = (entriesW es h.inner).1 ∧ (entriesH es h).2.inner = (entriesW es h.inner).2
    ∧ Inv pre (entriesH es h).2 := by
  induction es generalizing h with
  | nil => exact trailerH_proj pre h hi
  | cons x r ih =>
    obtain ⟨m, c⟩ := x
    unfold entriesH entriesW
    obtain ⟨o, h', h1, h2, a3⟩ := proj_cases (entryH_proj pre m c h hi)
    rw [h1, h2]
    cases o with
    | ok u => exact ih h' a3
    | err c => exact ⟨rfl, rfl, a3⟩
    | panic p => exact ⟨rfl, rfl, a3⟩

theorem strippedHeader_mod (n : Nat) : strippedHeader (n % 4294967296) = strippedHeader n := by
  unfold strippedHeader; rw [fmtHex8_mod]

theorem andThen_spec {pre : Bytes} {h : HSink} {a b : Bytes} {r : Out Unit × HSink} {k : HSink → Out Unit × HSink}
    (h1 : Inv pre r.2 ∧ Emits h.inner a r.1 r.2.inner)
    (h2 : ∀ h', Inv pre h' → Inv pre (k h').2 ∧ Emits h'.inner b (k h').1 (k h').2.inner) :
    Inv pre (andThen r k).2 ∧ Emits h.inner (a ++ b) (andThen r k).1 (andThen r k).2.inner := by
  obtain ⟨o, h'⟩ := r
  obtain ⟨i1, e1⟩ := h1
  rcases e1.2.2.2 with ⟨rfl, _⟩ | rfl | rfl
  · exact ⟨(h2 h' i1).1, e1.trans (h2 h' i1).2⟩
  · exact ⟨i1, e1.of_err⟩
  · exact ⟨i1, e1.of_err⟩

theorem emits_of_proj {pre : Bytes} {h : HSink} {a : Bytes} {x : Out Unit × HSink} {y : Out Unit × Sink}
    (hp : x.1 = y.1 ∧ x.2.inner = y.2 ∧ Inv pre x.2) (he : Emits h.inner a y.1 y.2) :
    Inv pre x.2 ∧ Emits h.inner a x.1 x.2.inner := by
  rw [hp.1, hp.2.1]; exact ⟨hp.2.2, he⟩

theorem HSink.writeAll_emits (pre : Bytes) (h : HSink) (buf : Bytes) (hi : Inv pre h) :
    Inv pre (h.writeAll buf).2 ∧ Emits h.inner buf (h.writeAll buf).1 (h.writeAll buf).2.inner :=
  emits_of_proj (HSink.writeAll_proj pre h buf hi) (Sink.writeAll_emits h.inner buf)

theorem flush_emits (pre : Bytes) (h : HSink) (hi : Inv pre h) :
    let r : Out Unit × HSink := match h.flush with
      | .ok () => (.ok (), h)
      | .err c => (.err c, h)
      | .panic p => (.panic p, h)
    Inv pre r.2 ∧ Emits h.inner [] r.1 r.2.inner := by
  have e : Emits h.inner [] h.flush h.inner := Sink.flush_emits h.inner
  generalize h.flush = o at e
  cases o with
  | ok u => exact ⟨hi, e⟩
  | err c => exact ⟨hi, e⟩
  | panic p => exact ⟨hi, e⟩

theorem largeEntryH_spec (pre : Bytes) (idx : Nat) (c : Bytes) (h : HSink) (hi : Inv pre h) :
    Inv pre (largeEntryH idx c h).2
    ∧ Emits h.inner (strippedHeader idx ++ (c ++ strippedDataPad c.length)) (largeEntryH idx c h).1 (largeEntryH idx c h).2.inner := by
  have := andThen_spec (HSink.writeAll_emits pre h (strippedHeader idx) hi) fun h1 i1 =>
    andThen_spec (HSink.writeAll_emits pre h1 c i1) fun h2 i2 =>
      andThen_spec (HSink.writeAll_emits pre h2 (strippedDataPad c.length) i2) fun h3 i3 => flush_emits pre h3 i3
  rw [List.append_nil] at this
  unfold largeEntryH
  rw [strippedHeader_mod]
  exact this

theorem largeEntriesH_spec (pre : Bytes) (cs : List Bytes) (idx : Nat) (h : HSink) (hi : Inv pre h) :
    Inv pre (largeEntriesH idx cs h).2
    ∧ (largeEntriesH idx cs h).2.inner.script.length ≤ h.inner.script.length
    ∧ (largeEntriesH idx cs h).2.inner.flushFails = h.inner.flushFails
    ∧ (h.inner.script = [] → h.inner.flushFails = false → (largeEntriesH idx cs h).1 = .ok ())
    ∧ (((largeEntriesH idx cs h).1 = .ok ()
          ∧ (largeEntriesH idx cs h).2.inner.out = h.inner.out ++ archiveStrippedFrom idx cs)
       ∨ ((largeEntriesH idx cs h).1 = .err "io" ∨ (largeEntriesH idx cs h).1 = .err "write-zero")) := by
  show Inv pre _ ∧ Emits h.inner (archiveStrippedFrom idx cs) _ _
  induction cs generalizing idx h with
  | nil => exact emits_of_proj (trailerH_proj pre h hi) (trailerW_spec h.inner)
  | cons c r ih =>
    have := andThen_spec (largeEntryH_spec pre idx c h hi) fun h' i' => ih (idx + 1) h' i'
    rw [List.append_assoc, List.append_assoc] at this
    exact this

theorem entriesH_spec (pre : Bytes) (es : List (EntryMeta × Bytes)) (hes : ∀ x ∈ es, x.2.length < 4294967296)
    (h : HSink) (hi : Inv pre h) :
    Inv pre (entriesH es h).2
    ∧ (entriesH es h).2.inner.script.length ≤ h.inner.script.length
    ∧ (entriesH es h).2.inner.flushFails = h.inner.flushFails
    ∧ (h.inner.script = [] → h.inner.flushFails = false → (entriesH es h).1 = .ok ())
    ∧ (((entriesH es h).1 = .ok () ∧ (entriesH es h).2.inner.out = h.inner.out ++ archiveOf es)
       ∨ ((entriesH es h).1 = .err "io" ∨ (entriesH es h).1 = .err "write-zero")) :=
  emits_of_proj (entriesH_proj pre es h hi) (entriesW_spec es hes h.inner)

end RpmVerif.ShaSink
