import RpmVerif.Lemmas.FromEntries
/-! Decoding characterised relationally: what `decode` returns is exactly what the store holds at the offset. -/
namespace RpmVerif.Hdr

theorem rd16_ok' {bs n r} (h : rd16 bs = .ok (n, r)) : bs = be16 n ++ r ∧ n < 65536 := rd16_ok h

/-- the loop shared by `rdN16` / `rdN32` / `rdN64`, for any item reader `rd` that pins its input down as `be n ++ rest`:
what the loop returns is what the input starts with -/
theorem rdMany_ok {rd : Bytes → Out (Nat × Bytes)} {be : Nat → Bytes} {B : Nat} {f : Nat → Bytes → Out (List Nat)}
    (h0 : ∀ bs, f 0 bs = pure [])
    (hs : ∀ k bs, f (k + 1) bs = do let (x, bs) ← rd bs; let xs ← f k bs; pure (x :: xs))
    (hrd : ∀ {bs n r}, rd bs = .ok (n, r) → bs = be n ++ r ∧ n < B) {k bs l} (h : f k bs = .ok l) :
    ∃ rest, bs = (l.map be).flatten ++ rest ∧ l.length = k ∧ ∀ x ∈ l, x < B := by
  induction k generalizing bs l with
  | zero => rw [h0] at h; cases h; exact ⟨bs, rfl, rfl, fun _ m => nomatch m⟩
  | succ k ih =>
    simp only [hs, Out.bind_eq_ok] at h
    obtain ⟨⟨x, b1⟩, h1, xs, h2, h⟩ := h
    cases h
    obtain ⟨rfl, t⟩ := hrd h1
    obtain ⟨rest, rfl, hl, hb⟩ := ih h2
    exact ⟨rest, by simp only [List.map_cons, List.flatten_cons, List.append_assoc], congrArg (· + 1) hl,
      List.forall_mem_cons.mpr ⟨t, hb⟩⟩

theorem rdN16_ok {k bs l} (h : rdN16 k bs = .ok l) :
    ∃ rest, bs = (l.map be16).flatten ++ rest ∧ l.length = k ∧ ∀ x ∈ l, x < 65536 :=
  rdMany_ok (fun _ => rfl) (fun _ _ => rfl) rd16_ok h

theorem rdN32_ok {k bs l} (h : rdN32 k bs = .ok l) :
    ∃ rest, bs = (l.map be32).flatten ++ rest ∧ l.length = k ∧ ∀ x ∈ l, x < 4294967296 :=
  rdMany_ok (fun _ => rfl) (fun _ _ => rfl) rd32_ok h

theorem rdN64_ok {k bs l} (h : rdN64 k bs = .ok l) :
    ∃ rest, bs = (l.map be64).flatten ++ rest ∧ l.length = k ∧ ∀ x ∈ l, x < 18446744073709551616 :=
  rdMany_ok (fun _ => rfl) (fun _ _ => rfl) rd64_ok h

theorem takeTill0_spec (bs : Bytes) :
    bs = (takeTill0 bs).1 ++ (takeTill0 bs).2 ∧ (0 : UInt8) ∉ (takeTill0 bs).1 ∧
      ((takeTill0 bs).2 = [] ∨ ∃ r, (takeTill0 bs).2 = 0 :: r) := by
  induction bs with
  | nil => simp [takeTill0]
  | cons b r ih =>
    simp only [takeTill0]
    split
    · rename_i hb; subst hb; exact ⟨by simp, by simp, Or.inr ⟨r, rfl⟩⟩
    · rename_i hb
      obtain ⟨i1, i2, i3⟩ := ih
      exact ⟨by simp only [List.cons_append]; rw [← i1], fun hm => (List.mem_cons.mp hm).elim (fun e => hb e.symm) i2, i3⟩

theorem rdStrings_ok {k bs l} (h : rdStrings k bs = .ok l) :
    ∃ (raws : List Bytes) (rest : Bytes), bs = (raws.map (· ++ [0])).flatten ++ rest ∧ raws.length = k ∧ (∀ r ∈ raws, (0 : UInt8) ∉ r) ∧
      l = raws.map Utf8.lossy := by
  induction k generalizing bs l with
  | zero => cases h; exact ⟨[], bs, rfl, rfl, nofun, rfl⟩
  | succ k ih =>
    simp only [rdStrings] at h
    obtain ⟨s1, s2, s3⟩ := takeTill0_spec bs
    split at h
    · cases h
    · rename_i b rest' hrest
      simp only [Out.bind_eq_ok] at h
      obtain ⟨ss, h2, h⟩ := h
      cases h
      obtain ⟨raws, rest, rfl, hl, hn, rfl⟩ := ih h2
      have hb : b = 0 := by
        rcases s3 with e | ⟨r, e⟩
        · rw [hrest] at e; cases e
        · rw [hrest] at e; cases e; rfl
      subst hb
      refine ⟨(takeTill0 bs).1 :: raws, rest, ?_, congrArg (· + 1) hl, List.forall_mem_cons.mpr ⟨s2, hn⟩, rfl⟩
      conv => lhs; rw [s1, hrest]
      simp [List.append_assoc]

/-- **what the store holds at an offset**: the relational reading of the format, independent of the parser's loops
(strings are still given as `Utf8.lossy` of the raw bytes, the model's `from_utf8_lossy`) -/
inductive Stores (store : Bytes) (off cnt : Nat) : IndexData → Prop where
  | null : off ≤ store.length → Stores store off cnt .null
  | char (b rest : Bytes) : store.drop off = b ++ rest → b.length = cnt → off ≤ store.length → Stores store off cnt (.char b)
  | int8 (b rest : Bytes) : store.drop off = b ++ rest → b.length = cnt → off ≤ store.length → Stores store off cnt (.int8 b)
  | bin (b rest : Bytes) : store.drop off = b ++ rest → b.length = cnt → off ≤ store.length → Stores store off cnt (.bin b)
  | int16 (l : List Nat) (rest : Bytes) : store.drop off = (l.map be16).flatten ++ rest → l.length = cnt →
      (∀ x ∈ l, x < 65536) → off ≤ store.length → Stores store off cnt (.int16 l)
  | int32 (l : List Nat) (rest : Bytes) : store.drop off = (l.map be32).flatten ++ rest → l.length = cnt →
      (∀ x ∈ l, x < 4294967296) → off ≤ store.length → Stores store off cnt (.int32 l)
  | int64 (l : List Nat) (rest : Bytes) : store.drop off = (l.map be64).flatten ++ rest → l.length = cnt →
      (∀ x ∈ l, x < 18446744073709551616) → off ≤ store.length → Stores store off cnt (.int64 l)
  /-- a string runs to its terminator, or to the end of the store when there is none -/
  | str (raw rest : Bytes) : (store.drop off = raw ++ 0 :: rest ∨ store.drop off = raw) → (0 : UInt8) ∉ raw →
      off ≤ store.length → Stores store off cnt (.str (Utf8.lossy raw))
  | strArray (raws : List Bytes) (rest : Bytes) : store.drop off = (raws.map (· ++ [0])).flatten ++ rest →
      raws.length = cnt → (∀ r ∈ raws, (0 : UInt8) ∉ r) → off ≤ store.length →
      Stores store off cnt (.strArray (raws.map Utf8.lossy))
  | i18n (raws : List Bytes) (rest : Bytes) : store.drop off = (raws.map (· ++ [0])).flatten ++ rest →
      raws.length = cnt → (∀ r ∈ raws, (0 : UInt8) ∉ r) → off ≤ store.length →
      Stores store off cnt (.i18n (raws.map Utf8.lossy))

theorem rdBin_ok {cnt bs b} (h : rdBin cnt bs = .ok b) : ∃ rest, bs = b ++ rest ∧ b.length = cnt := by
  unfold rdBin at h
  split at h
  · cases h
    exact ⟨bs.drop cnt, (List.take_append_drop cnt bs).symm, by simp; omega⟩
  · cases h

theorem decode_stores {store ty off cnt d} (h : decode store ty off cnt = .ok d) : Stores store off cnt d := by
  obtain ⟨hoff, h⟩ := Out.ite_err_eq_ok h
  have hle : off ≤ store.length := by omega
  split at h
  · cases h; exact .null hle
  · obtain ⟨b, hb, rfl⟩ := Out.map_eq_ok.mp h
    obtain ⟨rest, e, l⟩ := rdBin_ok hb; exact .char b rest e l hle
  · obtain ⟨b, hb, rfl⟩ := Out.map_eq_ok.mp h
    obtain ⟨rest, e, l⟩ := rdBin_ok hb; exact .int8 b rest e l hle
  · obtain ⟨l, hl, rfl⟩ := Out.map_eq_ok.mp h
    obtain ⟨rest, e, len, bd⟩ := rdN16_ok hl; exact .int16 l rest e len bd hle
  · obtain ⟨l, hl, rfl⟩ := Out.map_eq_ok.mp h
    obtain ⟨rest, e, len, bd⟩ := rdN32_ok hl; exact .int32 l rest e len bd hle
  · obtain ⟨l, hl, rfl⟩ := Out.map_eq_ok.mp h
    obtain ⟨rest, e, len, bd⟩ := rdN64_ok hl; exact .int64 l rest e len bd hle
  · cases h
    obtain ⟨s1, s2, s3⟩ := takeTill0_spec (store.drop off)
    rcases s3 with e | ⟨r, e⟩
    · exact .str _ [] (Or.inr (by rw [e, List.append_nil] at s1; exact s1)) s2 hle
    · exact .str _ r (Or.inl (by rw [e] at s1; exact s1)) s2 hle
  · obtain ⟨b, hb, rfl⟩ := Out.map_eq_ok.mp h
    obtain ⟨rest, e, l⟩ := rdBin_ok hb; exact .bin b rest e l hle
  · obtain ⟨l, hl, rfl⟩ := Out.map_eq_ok.mp h
    obtain ⟨raws, rest, e, len, nn, rfl⟩ := rdStrings_ok hl; exact .strArray raws rest e len nn hle
  · obtain ⟨l, hl, rfl⟩ := Out.map_eq_ok.mp h
    obtain ⟨raws, rest, e, len, nn, rfl⟩ := rdStrings_ok hl; exact .i18n raws rest e len nn hle
  · cases h

end RpmVerif.Hdr
