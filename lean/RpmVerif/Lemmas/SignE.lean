import RpmVerif.Model.SignE
import RpmVerif.Lemmas.Sign
/-! Lemmas for the signing side with failures (`Model/SignE.lean`): the scraped tables, `SignatureHeaderBuilder::build`
as a fallible function, single steps of `sign_with_timestamp`, and histories with failing attempts as histories of
their effective operations. -/
namespace RpmVerif.Sign
open RpmVerif.Hdr RpmVerif.Gen RpmVerif.Gen.SigAlgs RpmVerif.AddData

/-- every arm of the `match` in `SignatureHeaderBuilder::build` selects the RSA or the DSA legacy tag -/
theorem legacyTagOf_mem_range {a t : Nat} (h : legacyTagOf a = some t) :
    t = SigTag.RPMSIGTAG_RSA ∨ t = SigTag.RPMSIGTAG_DSA := by
  have key : ∀ p ∈ buildLegacyArms, p.2 = SigTag.RPMSIGTAG_RSA ∨ p.2 = SigTag.RPMSIGTAG_DSA := by decide
  exact key _ (mem_of_lookup_eq_some h)

theorem signerNew_ok {n : Nat} {a : AlgorithmType} (h : signerNew n = .ok a) : (n, a) ∈ signerNewArms := by
  unfold signerNew at h
  split at h
  · rename_i a' hl
    cases h
    exact mem_of_lookup_eq_some hl
  · cases h

theorem toPgp_lookup (a : AlgorithmType) : toPgpArms.lookup a = some (toPgp a) := by
  cases a <;> decide

theorem signerLegacyTag_some (a : AlgorithmType) : legacyTagOf (toPgp a) = some (signerLegacyTag a) := by
  cases a <;> decide

theorem signerLegacyTag_range (a : AlgorithmType) :
    signerLegacyTag a = SigTag.RPMSIGTAG_RSA ∨ signerLegacyTag a = SigTag.RPMSIGTAG_DSA :=
  legacyTagOf_mem_range (signerLegacyTag_some a)

variable {S : SigScheme} {pubAlg : Bytes → Option Nat} {sha256 : Bytes → Bytes}

theorem sigTriples_not_panic (b64enc : Bytes → Bytes) (sigs : List Bytes) :
    (sigTriples pubAlg b64enc sigs).isPanic = false := by
  fun_induction sigTriples pubAlg b64enc sigs with
  | case1 => rfl
  | case2 => rfl
  | case3 => rfl
  | case4 s rest a ha tag htag ih => exact Out.bind_not_panic ih (fun _ _ => rfl)

theorem sigBuilderBuild_not_panic (b64enc : Bytes → Bytes) (sigs : List Bytes) (sha : Option Bytes) :
    (sigBuilderBuild pubAlg b64enc sigs sha).isPanic = false :=
  Out.bind_not_panic (sigTriples_not_panic b64enc sigs) (fun _ _ => rfl)

theorem sigTriples_spec (b64enc : Bytes → Bytes) (sigs : List Bytes) (tr : List (Nat × Bytes × Bytes))
    (h : sigTriples pubAlg b64enc sigs = .ok tr) :
    tr.map (·.2.1) = sigs ∧ ∀ x ∈ tr, (∃ a, pubAlg x.2.1 = some a ∧ legacyTagOf a = some x.1) ∧ x.2.2 = b64enc x.2.1 := by
  fun_induction sigTriples pubAlg b64enc sigs generalizing tr with
  | case1 => cases h; exact ⟨rfl, nofun⟩
  | case2 => cases h
  | case3 => cases h
  | case4 s rest a ha tag htag ih =>
    obtain ⟨more, hm, hr⟩ := Out.bind_eq_ok.mp h
    cases hr
    obtain ⟨h1, h2⟩ := ih more hm
    refine ⟨by rw [List.map_cons, h1], fun x hx => ?_⟩
    rcases List.mem_cons.mp hx with rfl | hx
    · exact ⟨⟨a, ha, htag⟩, rfl⟩
    · exact h2 x hx
theorem sigBuilderBuild_ok {b64enc : Bytes → Bytes} {sigs : List Bytes} {sha : Option Bytes} {h : Header}
    (hb : sigBuilderBuild pubAlg b64enc sigs sha = .ok h) :
    ∃ tr, sigTriples pubAlg b64enc sigs = .ok tr ∧ h = Bld.signatureHeader tr sha := by
  obtain ⟨tr, h1, h2⟩ := Out.bind_eq_ok.mp hb
  simp only [Out.pure_eq, Out.ok.injEq] at h2
  exact ⟨tr, h1, h2.symm⟩

theorem sigBuild_one_ok {sig : Bytes} {a tag : Nat} (b64enc : Bytes → Bytes) (d : Bytes) (h1 : pubAlg sig = some a)
    (h2 : legacyTagOf a = some tag) :
    sigBuilderBuild pubAlg b64enc [sig] (some d) = .ok (Bld.signatureHeader [(tag, sig, b64enc sig)] (some d)) := by
  simp [sigBuilderBuild, sigTriples, h1, h2]

theorem sigBuild_one_nosig {sig : Bytes} (b64enc : Bytes → Bytes) (d : Bytes) (h : pubAlg sig = none) :
    sigBuilderBuild pubAlg b64enc [sig] (some d) = .err "NoSignatureFound" := by
  simp [sigBuilderBuild, sigTriples, h]

theorem sigBuild_one_unsupported {sig : Bytes} {a : Nat} (b64enc : Bytes → Bytes) (d : Bytes) (h1 : pubAlg sig = some a)
    (h2 : legacyTagOf a = none) :
    sigBuilderBuild pubAlg b64enc [sig] (some d) = .err "UnsupportedPGPKeyType" := by
  simp [sigBuilderBuild, sigTriples, h1, h2]

theorem sigBuild_one_rejects {sig : Bytes} (b64enc : Bytes → Bytes) (d : Bytes) (h : BuildRejects pubAlg sig) :
    ∃ c, sigBuilderBuild pubAlg b64enc [sig] (some d) = .err c := by
  rcases h with h | ⟨a, h1, h2⟩
  · exact ⟨_, sigBuild_one_nosig b64enc d h⟩
  · exact ⟨_, sigBuild_one_unsupported b64enc d h1 h2⟩

theorem signOpE_key (ha : AlgOk S pubAlg) {t : TsArg} {n : Nat} (ht : timestampSetter t = .ok n) (k : S.Key) (p : Package) :
    signOpE S pubAlg sha256 ((SignerE.key k).sign S) t p = .ok (signOp S sha256 k n p) := by
  obtain ⟨a, h1, h2⟩ := ha k (writeHeader p.md.header) n
  simp only [signOpE, ht, Out.bind_ok, SignerE.sign, sigBuild_one_ok S.b64enc _ h1 h2]
  rfl

theorem signOpE_failing {t : TsArg} {n : Nat} (ht : timestampSetter t = .ok n) (c : String) (p : Package) :
    signOpE S pubAlg sha256 ((SignerE.failing c).sign S) t p = .err c := by
  simp only [signOpE, ht, Out.bind_ok, SignerE.sign, Out.bind_err]

theorem signOpE_raw_rejected {t : TsArg} {n : Nat} (ht : timestampSetter t = .ok n) {s : Bytes}
    (hr : BuildRejects pubAlg s) (p : Package) :
    ∃ c, signOpE S pubAlg sha256 ((SignerE.raw s).sign S) t p = .err c := by
  obtain ⟨c, hc⟩ := sigBuild_one_rejects S.b64enc (shaHex sha256 (writeHeader p.md.header)) hr
  exact ⟨c, by simp only [signOpE, ht, Out.bind_ok, SignerE.sign, hc, Out.bind_err]⟩

theorem signNowE_ok {c : Timestamp.Instant} {n : Nat} (h : Timestamp.now c = .ok n) (signer : Bytes → Nat → Out Bytes)
    (p : Package) :
    signNowE S pubAlg sha256 signer c p = signOpE S pubAlg sha256 signer (.secs n) p := by
  simp only [signNowE, h, Timestamp.Conv.toOut, Out.bind_ok]

theorem SignerE.sign_not_panic (sg : SignerE S.Key) (m : Bytes) (n : Nat) : (sg.sign S m n).isPanic = false := by
  cases sg <;> rfl

/-- the timestamp argument converts (`try_into().unwrap()` does not panic) -/
def TsOk (t : TsArg) : Prop := ∃ n, timestampSetter t = .ok n
/-- `Timestamp::now()` does not panic for this reading of the clock -/
def NowOk (c : Timestamp.Instant) : Prop := ∃ n, Timestamp.now c = .ok n

def SignerE.Quiet {K : Type} (pubAlg : Bytes → Option Nat) : SignerE K → Prop
  | .raw s => BuildRejects pubAlg s
  | _ => True

def OpF.Quiet {K : Type} (pubAlg : Bytes → Option Nat) : OpF K → Prop
  | .sign sg t => TsOk t ∧ sg.Quiet pubAlg
  | .signNow sg c => NowOk c ∧ sg.Quiet pubAlg
  | _ => True

theorem stepF_quiet (ha : AlgOk S pubAlg) (o : OpF S.Key) (hq : o.Quiet pubAlg) (p : Package) :
    stepF S pubAlg sha256 o p = match o.effective with
      | some o' => step S sha256 o' p
      | none => .ok p := by
  cases o with
  | writeParse => rfl
  | clear => rfl
  | sign sg t =>
    obtain ⟨⟨n, ht⟩, hsg⟩ := hq
    cases sg with
    | key k => simp only [stepF, attemptF, signOpE_key ha ht, settle, OpF.effective, ht, step]
    | failing c => simp only [stepF, attemptF, signOpE_failing ht, settle, OpF.effective]
    | raw s =>
      obtain ⟨c, hc⟩ := signOpE_raw_rejected (S := S) (sha256 := sha256) ht hsg p
      simp only [stepF, attemptF, hc, settle, OpF.effective]
  | signNow sg c =>
    obtain ⟨⟨n, ht⟩, hsg⟩ := hq
    have hs : timestampSetter (.secs n) = .ok n := rfl
    cases sg with
    | key k => simp only [stepF, attemptF, signNowE_ok ht, signOpE_key ha hs, settle, OpF.effective, ht, step]
    | failing c => simp only [stepF, attemptF, signNowE_ok ht, signOpE_failing hs, settle, OpF.effective]
    | raw s =>
      obtain ⟨c, hc⟩ := signOpE_raw_rejected (S := S) (sha256 := sha256) hs hsg p
      simp only [stepF, attemptF, signNowE_ok ht, hc, settle, OpF.effective]

theorem runF_quiet (ha : AlgOk S pubAlg) (ops : List (OpF S.Key)) (hq : ∀ o ∈ ops, o.Quiet pubAlg) (p : Package) :
    runF S pubAlg sha256 ops p = run S sha256 (effectiveOps ops) p := by
  induction ops generalizing p with
  | nil => rfl
  | cons o os ih =>
    have hq' : ∀ o ∈ os, o.Quiet pubAlg := fun x hx => hq x (List.mem_cons_of_mem _ hx)
    simp only [runF, stepF_quiet ha o (hq o (List.mem_cons_self ..)) p, effectiveOps, List.filterMap_cons]
    cases o.effective with
    | none => simp only [Out.bind_ok]; exact ih hq' p
    | some o' =>
      simp only [run]
      cases step S sha256 o' p with
      | ok q => simp only [Out.bind_ok]; exact ih hq' q
      | err c => rfl
      | panic c => rfl

theorem runF_append (ops1 ops2 : List (OpF S.Key)) (p : Package) :
    runF S pubAlg sha256 (ops1 ++ ops2) p = runF S pubAlg sha256 ops1 p >>= runF S pubAlg sha256 ops2 := by
  induction ops1 generalizing p with
  | nil => rfl
  | cons o os ih =>
    simp only [List.cons_append, runF]
    cases stepF S pubAlg sha256 o p with
    | ok q => simp only [Out.bind_ok]; exact ih q
    | err c => rfl
    | panic c => rfl

theorem legacyOk_of_algOk (ha : AlgOk S pubAlg) : S.LegacyOk := by
  intro k
  obtain ⟨a, _, h2⟩ := ha k [] 0
  exact legacyTagOf_mem_range h2

theorem chronoTimestampOpt_u32 {t : Nat} (h : t < 4294967296) : chronoTimestampOpt t 0 = some ((t : Int), 0) := by
  unfold chronoTimestampOpt chronoMinSecs chronoMaxSecs
  rw [if_pos (by omega)]

theorem mkConfig_issuers (a : AlgorithmType) (kid fp : Bytes) (t : Int) : (mkConfig a kid fp t).issuers = [kid] := rfl
theorem mkConfig_fingerprints (a : AlgorithmType) (kid fp : Bytes) (t : Int) : (mkConfig a kid fp t).fingerprints = [fp] := rfl
theorem mkConfig_created (a : AlgorithmType) (kid fp : Bytes) (t : Int) : (mkConfig a kid fp t).created = some t := rfl
theorem mkConfig_pubAlg (a : AlgorithmType) (kid fp : Bytes) (t : Int) : (mkConfig a kid fp t).pubAlg = toPgp a := rfl

theorem PgpScheme.algOk (P : PgpScheme) (hp : P.ParseSeal) : AlgOk P.toSigScheme P.pubAlg := by
  intro (k : P.Key) m t
  have h := hp k m t
  refine ⟨toPgp (P.alg k), ?_, signerLegacyTag_some _⟩
  show Option.map (·.pubAlg) (P.parse (P.sealSig k m (P.configOf k t))) = _
  rw [h]; rfl

theorem PgpScheme.legacyOk (P : PgpScheme) : P.toSigScheme.LegacyOk := fun k => signerLegacyTag_range (P.alg k)

theorem PgpScheme.issuerOk (P : PgpScheme) (hp : P.ParseSeal) : P.toSigScheme.IssuerOk := by
  intro (k : P.Key) m t
  have h := hp k m t
  show Option.map (·.issuers) (P.parse (P.sealSig k m (P.configOf k t))) = _
  rw [h]; rfl

end RpmVerif.Sign

namespace RpmVerif.Sign.Sym
open RpmVerif.Gen RpmVerif.Gen.SigAlgs

theorem algOf_tag (k : UInt8) :
    legacyTagOf (toPgp (algOf k)) = some (if k < 2 then SigTag.RPMSIGTAG_RSA else SigTag.RPMSIGTAG_DSA) := by
  unfold algOf
  split
  · decide
  · split <;> decide

theorem algOk (ids : UInt8 → Bytes) : AlgOk (scheme ids) pubAlg := by
  intro (k : UInt8) m t
  have h := signerOf_sign k m t
  refine ⟨toPgp (algOf k), ?_, algOf_tag k⟩
  show Option.map (fun k => toPgp (algOf k)) (signerOf (sign k m t)) = _
  rw [h]; rfl

end RpmVerif.Sign.Sym
