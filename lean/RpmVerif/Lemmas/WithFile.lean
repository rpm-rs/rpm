import RpmVerif.Model.WithFile
import RpmVerif.Lemmas.FileMode
import RpmVerif.Lemmas.Timestamp
/-!
# Helper lemmas for the builder front-end (`Model/WithFile.lean`): the inherited mode word, the fields `with_file`
stores, chains of `FileOptionsBuilder` setters, the builder state over a sequence of calls
-/
namespace RpmVerif.WithFile
open RpmVerif.FileMode RpmVerif.Bld RpmVerif.AddData RpmVerif.Gen

theorem asU16_u32AsI32 (n : Nat) : asU16 (u32AsI32 n) = n % 65536 := by
  unfold asU16 u32AsI32
  split <;> omega

theorem rawMode_fromI32 (z : Int) : rawMode (fromI32 z) = asU16 z := by
  unfold fromI32
  split
  · rfl
  · exact rawMode_fromU16 _ (asU16_lt z)

theorem inheritMode_word (st : Nat) (o : FileOpts) :
    toU16 (inheritMode st o).mode = if o.inheritPermissions then st % 65536 else rawMode o.mode := by
  unfold inheritMode
  cases o.inheritPermissions
  · rfl
  · rw [if_pos rfl, if_pos rfl, toU16, rawMode_fromI32, asU16_u32AsI32]

theorem inheritMode_rest (st : Nat) (o : FileOpts) :
    (inheritMode st o).destination = o.destination ∧ (inheritMode st o).user = o.user ∧ (inheritMode st o).group = o.group ∧
    (inheritMode st o).symlink = o.symlink ∧ (inheritMode st o).flag = o.flag ∧ (inheritMode st o).caps = o.caps ∧
    (inheritMode st o).verifyFlags = o.verifyFlags := by
  unfold inheritMode
  cases o.inheritPermissions <;> simp

/-- the entry `add_data` stores for an accepted destination -/
def entryFor (sha256hex : Bytes → Bytes) (f : SrcFile) (o : FileOpts) (cpio dir base : Bytes) : FileE :=
  { cpioPath := cpio, dir := dir, baseName := base, size := f.content.length,
    mode := if o.inheritPermissions then f.stMode % 65536 else rawMode o.mode,
    user := o.user, group := o.group, link := o.symlink, flags := o.flag, caps := o.caps, verifyFlags := o.verifyFlags,
    mtime := f.mtime.secs.toNat, shaHex := sha256hex f.content }

theorem addDataEntry_inherit (sha256hex : Bytes → Bytes) (f : SrcFile) (o : FileOpts) (t : Nat) :
    addDataEntry sha256hex f.content t (inheritMode f.stMode o) =
      match addData o.destination with
      | .ok (cpio, dir, base) => .ok { entryFor sha256hex f o cpio dir base with mtime := t }
      | .err e => .err e
      | .panic s => .panic s := by
  obtain ⟨hd, hu, hg, hs, hf, hc, hv⟩ := inheritMode_rest f.stMode o
  unfold addDataEntry
  rw [hd]
  cases addData o.destination with
  | ok r =>
    obtain ⟨cpio, dir, base⟩ := r
    simp only [entryFor, hu, hg, hs, hf, hc, hv, inheritMode_word]
  | err e => rfl
  | panic s => rfl

theorem withFile_readable (sha256hex : Bytes → Bytes) (f : SrcFile) (o : FileOpts) :
    withFile sha256hex (.readable f) o =
      if f.mtime.secs < 0 ∨ 4294967296 ≤ f.mtime.secs then .err "TimestampConv"
      else match addData o.destination with
        | .ok (cpio, dir, base) => .ok (entryFor sha256hex f o cpio dir base)
        | .err e => .err e
        | .panic s => .panic s := by
  unfold withFile
  rcases Timestamp.fromSystemTime_cases f.mtime with ⟨h, e⟩ | ⟨h0, h1, e⟩ | ⟨h, e⟩
  · simp only [e, errTs]; rw [if_pos (Or.inl h)]
  · simp only [e]
    rw [if_neg (by omega), addDataEntry_inherit]
    cases addData o.destination with
    | ok r => rfl
    | err e => rfl
    | panic s => rfl
  · simp only [e, errTs]; rw [if_pos (Or.inr h)]

theorem withFile_ok {sha256hex : Bytes → Bytes} {src : Source} {o : FileOpts} {e : FileE}
    (h : withFile sha256hex src o = .ok e) :
    ∃ f cpio dir base, src = .readable f ∧ 0 ≤ f.mtime.secs ∧ f.mtime.secs < 4294967296 ∧
      addData o.destination = .ok (cpio, dir, base) ∧ e = entryFor sha256hex f o cpio dir base := by
  cases src with
  | openFails => cases h
  | readFails => cases h
  | readable f =>
    rw [withFile_readable] at h
    split at h
    · cases h
    · split at h
      · next cpio dir base ha => cases h; exact ⟨f, cpio, dir, base, rfl, by omega, by omega, ha, rfl⟩
      · cases h
      · cases h

theorem capsSetter_cases (valid : Bytes → Bool) (t : Bytes) :
    capsSetter valid t = .ok t ∨ capsSetter valid t = .err "InvalidCapabilities" := by
  unfold capsSetter; cases valid t <;> simp

/-- what a setter that returns `Ok` does to the options -/
def Setter.effect : Setter → FileOpts → FileOpts
  | .user u, o => { o with user := u }
  | .group g, o => { o with group := g }
  | .symlink l, o => { o with symlink := l }
  | .mode m, o => setMode m o
  | .caps t, o => { o with caps := some t }
  | .verify f, o => { o with verifyFlags := f }
  | .flag i, o => applySetter i o

theorem Setter.apply_cases (valid : Bytes → Bool) (s : Setter) (o : FileOpts) :
    s.apply valid o = .ok (s.effect o) ∨ s.apply valid o = .err "InvalidCapabilities" := by
  cases s with
  | caps t =>
    rcases capsSetter_cases valid t with h | h
    · exact .inl (by rw [Setter.apply, h]; rfl)
    · exact .inr (by rw [Setter.apply, h])
  | _ => exact .inl rfl

theorem applySetters_cons (valid : Bytes → Bool) (s : Setter) (r : List Setter) (o : FileOpts) :
    applySetters valid (s :: r) o = s.apply valid o >>= applySetters valid r := by
  rw [applySetters]; cases s.apply valid o <;> rfl

theorem applySetters_cases (valid : Bytes → Bool) (ss : List Setter) (o : FileOpts) :
    applySetters valid ss o = .ok (ss.foldl (fun o s => s.effect o) o) ∨ applySetters valid ss o = .err "InvalidCapabilities" := by
  induction ss generalizing o with
  | nil => exact .inl rfl
  | cons s r ih =>
    rw [applySetters_cons]
    rcases Setter.apply_cases valid s o with h | h <;> rw [h]
    · exact ih _
    · exact .inr rfl

theorem applySetters_ok {valid : Bytes → Bool} {ss : List Setter} {o o' : FileOpts}
    (h : applySetters valid ss o = .ok o') : o' = ss.foldl (fun o s => s.effect o) o := by
  rcases applySetters_cases valid ss o with e | e <;> rw [e] at h <;> cases h
  rfl

theorem applySetters_cons_ok {valid : Bytes → Bool} {s : Setter} {r : List Setter} {o o' : FileOpts}
    (h : applySetters valid (s :: r) o = .ok o') : ∃ o₁, s.apply valid o = .ok o₁ ∧ applySetters valid r o₁ = .ok o' :=
  Out.bind_eq_ok.mp (applySetters_cons .. ▸ h)

theorem applySetters_append_ok {valid : Bytes → Bool} {a b : List Setter} {o o' : FileOpts}
    (h : applySetters valid (a ++ b) o = .ok o') : ∃ o₁, applySetters valid a o = .ok o₁ ∧ applySetters valid b o₁ = .ok o' := by
  induction a generalizing o with
  | nil => exact ⟨o, rfl, h⟩
  | cons s r ih =>
    obtain ⟨o₁, h1, h2⟩ := applySetters_cons_ok (by simpa using h)
    obtain ⟨o₂, h3, h4⟩ := ih h2
    exact ⟨o₂, by simp only [applySetters, h1, h3], h4⟩

theorem applySetters_keeps_mode {valid : Bytes → Bool} {ss : List Setter} {o o' : FileOpts}
    (h : applySetters valid ss o = .ok o') (hm : ∀ s ∈ ss, s.isMode = false) :
    o'.mode = o.mode ∧ o'.inheritPermissions = o.inheritPermissions := by
  rw [applySetters_ok h]
  clear h
  induction ss generalizing o with
  | nil => exact ⟨rfl, rfl⟩
  | cons s r ih =>
    obtain ⟨a, b⟩ := ih (o := s.effect o) (fun t ht => hm t (List.mem_cons_of_mem _ ht))
    rw [List.foldl_cons, a, b]
    have := hm s (List.mem_cons_self ..)
    cases s <;> first | exact ⟨rfl, rfl⟩ | cases this

theorem applySetters_keeps_dest {valid : Bytes → Bool} {ss : List Setter} {o o' : FileOpts}
    (h : applySetters valid ss o = .ok o') : o'.destination = o.destination := by
  rw [applySetters_ok h]
  clear h
  induction ss generalizing o with
  | nil => rfl
  | cons s r ih => rw [List.foldl_cons, ih]; cases s <;> rfl

theorem applySetters_flag {valid : Bytes → Bool} {ss : List Setter} {o o' : FileOpts}
    (h : applySetters valid ss o = .ok o') : o'.flag = settersFlags o.flag ss := by
  rw [applySetters_ok h]
  clear h
  induction ss generalizing o with
  | nil => rfl
  | cons s r ih => rw [List.foldl_cons, ih]; cases s <;> rfl

theorem runCall_eq (sha256hex : Bytes → Bytes) (valid : Bytes → Bool) (c : Call) :
    runCall sha256hex valid c = applySetters valid c.setters (FileOpts.new c.dest) >>= withFile sha256hex c.src := by
  rw [runCall]; cases applySetters valid c.setters (FileOpts.new c.dest) <;> rfl

/-! ### the builder state

`insertFileE`, `insertDir` (and `Build.insertFE`, `insertFileC`, which carry the contents along) are one walk over a list
sorted by a key: `BTreeMap::entry(k).or_insert(v)` / `BTreeSet::insert`. The facts about it are proved for `insertKeyed`. -/
section keyed
variable {α : Type} (key : α → Bytes)

def insertKeyed (x : α) : List α → List α
  | [] => [x]
  | g :: r => if key x == key g then g :: r else if key x < key g then x :: g :: r else g :: insertKeyed x r

theorem mem_insertKeyed {x y : α} {l : List α} (h : y ∈ insertKeyed key x l) : y = x ∨ y ∈ l := by
  induction l with
  | nil => exact .inl (List.mem_singleton.mp h)
  | cons g r ih =>
    rw [insertKeyed] at h
    split at h
    · exact .inr h
    · split at h
      · exact List.mem_cons.mp h
      · rcases List.mem_cons.mp h with rfl | h'
        · exact .inr (List.mem_cons_self ..)
        · exact (ih h').imp_right (List.mem_cons_of_mem _)

/-- `or_insert`, not `insert`: what is in the map stays in it -/
theorem mem_insertKeyed_of_mem (x : α) {y : α} {l : List α} (h : y ∈ l) : y ∈ insertKeyed key x l := by
  induction l with
  | nil => cases h
  | cons g r ih =>
    rw [insertKeyed]
    split
    · exact h
    · split
      · exact List.mem_cons_of_mem _ h
      · rcases List.mem_cons.mp h with rfl | h'
        · exact List.mem_cons_self ..
        · exact List.mem_cons_of_mem _ (ih h')

theorem mem_insertKeyed_self {x : α} (hinj : ∀ g, key x = key g → x = g) (l : List α) : x ∈ insertKeyed key x l := by
  induction l with
  | nil => exact List.mem_singleton.mpr rfl
  | cons g r ih =>
    rw [insertKeyed]
    split
    · next h => rw [hinj g (by simpa using h)]; exact List.mem_cons_self ..
    · split
      · exact List.mem_cons_self ..
      · exact List.mem_cons_of_mem _ ih

theorem length_insertKeyed_le (x : α) (l : List α) : (insertKeyed key x l).length ≤ l.length + 1 := by
  induction l with
  | nil => exact Nat.le_refl _
  | cons g r ih =>
    rw [insertKeyed]
    split
    · exact Nat.le_succ _
    · split
      · exact Nat.le_refl _
      · exact Nat.succ_le_succ ih

theorem map_insertKeyed {β : Type} (f : α → β) (key' : β → Bytes) (hk : ∀ a, key' (f a) = key a) (x : α) (l : List α) :
    (insertKeyed key x l).map f = insertKeyed key' (f x) (l.map f) := by
  induction l with
  | nil => rfl
  | cons g r ih =>
    rw [List.map_cons, insertKeyed, insertKeyed, hk, hk]
    split
    · rfl
    · split
      · rfl
      · rw [List.map_cons, ih]

end keyed

theorem insertFileE_eq (f : FileE) (l : List FileE) : insertFileE f l = insertKeyed (·.cpioPath) f l := by
  induction l with
  | nil => rfl
  | cons g r ih => rw [insertFileE, insertKeyed, ih]

theorem insertDir_eq (d : Bytes) (l : List Bytes) : insertDir d l = insertKeyed id d l := by
  induction l with
  | nil => rfl
  | cons g r ih => rw [insertDir, insertKeyed, ih]; rfl

theorem mem_insertFileE {e x : FileE} {l : List FileE} (h : x ∈ insertFileE e l) : x = e ∨ x ∈ l :=
  mem_insertKeyed _ (insertFileE_eq .. ▸ h)

theorem mem_insertDir_of_mem {d x : Bytes} {l : List Bytes} (h : x ∈ l) : x ∈ insertDir d l :=
  insertDir_eq .. ▸ mem_insertKeyed_of_mem _ d h

theorem mem_insertDir_self (d : Bytes) (l : List Bytes) : d ∈ insertDir d l :=
  insertDir_eq .. ▸ mem_insertKeyed_self id (fun _ h => h) l

/-- every file's directory is registered (what `prepare_data`'s `position(..).unwrap()` relies on) -/
def DirsOk (s : BState) : Prop := ∀ e ∈ s.files, e.dir ∈ s.directories

theorem DirsOk.add {s : BState} (h : DirsOk s) (e : FileE) : DirsOk (s.add e) := by
  intro x hx
  rcases mem_insertFileE hx with rfl | hx'
  · exact mem_insertDir_self _ _
  · exact mem_insertDir_of_mem (h x hx')

theorem buildState_cons (sha256hex : Bytes → Bytes) (valid : Bytes → Bool) (c : Call) (r : List Call) (s : BState) :
    buildState sha256hex valid (c :: r) s = runCall sha256hex valid c >>= fun e => buildState sha256hex valid r (s.add e) := by
  rw [buildState]; cases runCall sha256hex valid c <;> rfl

theorem buildState_cons_ok {sha256hex : Bytes → Bytes} {valid : Bytes → Bool} {c : Call} {r : List Call} {s s' : BState}
    (h : buildState sha256hex valid (c :: r) s = .ok s') :
    ∃ e, runCall sha256hex valid c = .ok e ∧ buildState sha256hex valid r (s.add e) = .ok s' :=
  Out.bind_eq_ok.mp (buildState_cons .. ▸ h)

theorem buildState_ok {sha256hex : Bytes → Bytes} {valid : Bytes → Bool} {calls : List Call} {s s' : BState}
    (h : buildState sha256hex valid calls s = .ok s') :
    (∀ e ∈ s'.files, e ∈ s.files ∨ ∃ c ∈ calls, runCall sha256hex valid c = .ok e) ∧ (DirsOk s → DirsOk s') := by
  induction calls generalizing s with
  | nil => cases h; exact ⟨fun e he => .inl he, id⟩
  | cons c r ih =>
    obtain ⟨e, h1, h2⟩ := buildState_cons_ok h
    obtain ⟨a, b⟩ := ih h2
    refine ⟨fun x hx => ?_, fun hd => b (hd.add e)⟩
    rcases a x hx with hx' | ⟨c', hc', hr⟩
    · rcases mem_insertFileE hx' with rfl | hx''
      · exact .inr ⟨c, by simp, h1⟩
      · exact .inl hx''
    · exact .inr ⟨c', by simp [hc'], hr⟩

end RpmVerif.WithFile
