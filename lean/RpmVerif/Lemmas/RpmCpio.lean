import RpmVerif.Lemmas.Cpio
import RpmVerif.Spec.RpmValid
/-! What the Spec's independent newc reader (`RpmValid.readEntry`, a transcription of rpm's
`rpmcpioHeaderRead`) makes of the bytes rpm-rs' writer model (`Cpio.intoHeader`, `Cpio.writeEntry`, `Cpio.strippedHeader`) emits.
The independence is in the field syntax (exactly eight digits, no sign: `hexField`) and in the walk over the header; the
value of a single hex digit is the same function on both sides (`hexDigit?_eq_hexVal` holds by `rfl`). -/
namespace RpmVerif.RpmValid
open RpmVerif RpmVerif.Cpio RpmVerif.Gen

theorem hexDigit?_eq_hexVal : hexDigit? = Cpio.hexVal := rfl

/-- rpm's numeric field is rpm-rs' digit string (without the `+` that `from_str_radix` admits) of exactly eight bytes -/
theorem hexField_eq_parseDigits (a b c d e f g h : UInt8) :
    hexField [a, b, c, d, e, f, g, h] = parseDigits [a, b, c, d, e, f, g, h] 0 := by
  have nil (acc : Nat) : parseDigits [] acc = some acc := rfl
  simp only [hexField, hexDigit?_eq_hexVal, parseDigits_cons, nil, Option.bind_eq_bind, Option.pure_def,
    Nat.add_mul, Nat.mul_assoc, Nat.zero_mul, Nat.zero_add, Nat.reduceMul]

theorem hexField_fmtHex8 {n : Nat} (h : n < 4294967296) : hexField (fmtHex8 n) = some n := by
  rw [fmtHex8, hexField_eq_parseDigits, ← fmtHex8, parseDigits_fmtHex8, Nat.mod_eq_of_lt h]

theorem rdField_fmt {n : Nat} (h : n < 4294967296) (r : Bytes) : rdField (fmtHex8 n ++ r) = some (n, r) := by
  simp only [rdField, List.take_left' (fmtHex8_length n), List.drop_left' (fmtHex8_length n), hexField_fmtHex8 h, Option.map_some]

theorem pad4_eq_padLen (n : Nat) : pad4 n = padLen n := by
  unfold pad4 padLen; split <;> omega

theorem skipN_append {n : Nat} {a : Bytes} (h : a.length = n) (r : Bytes) : skipN n (a ++ r) = some r := by
  subst h; simp [skipN]

theorem takeWhile_ne_zero (name rest : Bytes) (h : ∀ b ∈ name, b ≠ 0) : (name ++ 0 :: rest).takeWhile (· != 0) = name := by
  induction name with
  | nil => simp
  | cons a t ih =>
    have ha : a ≠ 0 := h a (by simp)
    simp only [List.cons_append, List.takeWhile_cons, bne_iff_ne, ne_eq, ha, not_false_eq_true, if_true, List.cons.injEq, true_and]
    exact ih (fun b hb => h b (by simp [hb]))

theorem bind_eq_of_some {α β} {x : Option α} {a : α} {f : α → Option β} {y : Option β} (hx : x = some a)
    (hf : f a = y) : (x >>= f) = y := by
  rw [hx]; exact hf

/-- the name block of a newc header: `r` starts with the name, its NUL (counted in `namesize`), and the padding `p`
that brings header and name to a multiple of 4 -/
theorem readName {name p : Bytes} (h0 : ∀ b ∈ name, b ≠ 0) (hl : name.length + 1 ≤ 4096)
    (hp : p.length = pad4 (110 + (name.length + 1))) (mode nlink size : Nat) (rest : Bytes)
    {n : Nat} (hn : n = name.length + 1) {r : Bytes} (hr : r = name ++ [0] ++ (p ++ rest)) :
    (if n = 0 ∨ 4096 < n ∨ r.length < n then none
    else if (r.take n).getLast? ≠ some 0 then none
    else do
      let r' ← skipN (pad4 (110 + n)) (r.drop n)
      pure (ArchEntry.newc ((r.take n).takeWhile (· != 0)) mode nlink size, r')) =
      some (.newc name mode nlink size, rest) := by
  have hlen : (name ++ [0]).length = name.length + 1 := List.length_append
  subst hn hr
  rw [if_neg (by rw [List.length_append, hlen]; omega), List.take_left' hlen, List.drop_left' hlen,
    List.getLast?_concat, if_neg (not_not_intro rfl), skipN_append hp, takeWhile_ne_zero name [] h0]
  rfl

theorem readEntry_intoHeader {m : EntryMeta} (hm : m.WF) {fs : Nat} (hfs : fs < 4294967296)
    (ck : Option Nat) (hck : ck.getD 0 < 4294967296) (rest : Bytes) :
    readEntry (intoHeader m fs ck ++ rest) = some (.newc m.name m.mode m.nlink fs, rest) := by
  have hnl : m.name.length + 1 < 4294967296 := Nat.lt_of_le_of_lt hm.nameLen (by decide)
  have hmag : ((if ck.isSome then cpioMagicCrc else cpioMagicNewc) = [48, 55, 48, 55, 48, 49] ∨
      (if ck.isSome then cpioMagicCrc else cpioMagicNewc) = [48, 55, 48, 55, 48, 50]) := by
    split
    · exact Or.inr rfl
    · exact Or.inl rfl
  unfold readEntry intoHeader
  simp only [List.append_assoc]
  rw [List.take_left' (magic_length ck), List.drop_left' (magic_length ck), if_pos hmag]
  refine bind_eq_of_some (rdField_fmt hm.ino _) ?_
  refine bind_eq_of_some (rdField_fmt hm.mode _) ?_
  refine bind_eq_of_some (rdField_fmt hm.uid _) ?_
  refine bind_eq_of_some (rdField_fmt hm.gid _) ?_
  refine bind_eq_of_some (rdField_fmt hm.nlink _) ?_
  refine bind_eq_of_some (rdField_fmt hm.mtime _) ?_
  refine bind_eq_of_some (rdField_fmt hfs _) ?_
  refine bind_eq_of_some (rdField_fmt hm.devMajor _) ?_
  refine bind_eq_of_some (rdField_fmt hm.devMinor _) ?_
  refine bind_eq_of_some (rdField_fmt hm.rdevMajor _) ?_
  refine bind_eq_of_some (rdField_fmt hm.rdevMinor _) ?_
  refine bind_eq_of_some (rdField_fmt hnl _) ?_
  rw [← List.append_assoc m.name]
  refine bind_eq_of_some (rdField_fmt hck _) ?_
  exact readName hm.nameNulFree hm.nameLen ((pad_length _).trans (pad4_eq_padLen _).symm) _ _ _ rest rfl rfl

theorem skipData_append (c rest : Bytes) : skipData c.length (c ++ (pad c.length ++ rest)) = some rest := by
  unfold skipData
  rw [← List.append_assoc]
  exact skipN_append (by simp [pad_length, pad4_eq_padLen]) rest

theorem readEntry_writeEntry {m : EntryMeta} (hm : m.WF) {c : Bytes} (hc : c.length < 4294967296)
    (ck : Option Nat) (hck : ck.getD 0 < 4294967296) (rest : Bytes) :
    readEntry (writeEntry m c ck ++ rest) = some (.newc m.name m.mode m.nlink c.length, c ++ (pad c.length ++ rest)) := by
  simp only [writeEntry, List.append_assoc, readEntry_intoHeader hm hc ck hck]
  rw [pad, padLen_add_mul4 _ (intoHeader_length m c.length ck), ← pad]

theorem readEntry_strippedHeader {idx : Nat} (hi : idx < 4294967296) (rest : Bytes) :
    readEntry (strippedHeader idx ++ rest) = some (.stripped idx, rest) := by
  have h6 : cpioMagicStripped.length = 6 := rfl
  have hp : skipN 2 (pad cpioStrippedHeaderLen ++ rest) = some rest := skipN_append (by decide) rest
  have e1 : ¬ (cpioMagicStripped = [48, 55, 48, 55, 48, 49] ∨ cpioMagicStripped = [48, 55, 48, 55, 48, 50]) := by decide
  have e2 : cpioMagicStripped = [48, 55, 48, 55, 48, 88] := rfl
  unfold readEntry strippedHeader
  rw [List.append_assoc, List.append_assoc, List.take_left' h6, List.drop_left' h6, if_neg e1, if_pos e2]
  simp only [rdField_fmt hi, hp, Option.bind_eq_bind, Option.bind_some, Option.pure_def]

end RpmVerif.RpmValid
