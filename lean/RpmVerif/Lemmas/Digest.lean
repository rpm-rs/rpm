import RpmVerif.Model.Digest
import RpmVerif.Spec.Digest
/-!
Lemmas for C03: the getters agree with the spec's "first entry with the tag" reading, the two hex encoders
coincide, the algorithm table classifies numbers, and `verifyDigests` is the fold `outcome` over `Recorded`
(`verifyDigests_eq_outcome`), whose result is `failureOf` of the first record that is not fine (`outcome_find`).
-/
namespace RpmVerif.Digest
open RpmVerif.Hdr RpmVerif.Gen RpmVerif.DigestSpec

theorem hexDigit_eq {n : Nat} (h : n < 16) : hexDigitByte n = hexDigits.getD n 0 :=
  (by decide +kernel : ∀ n : Fin 16, hexDigitByte n.val = hexDigits.getD n.val 0) ⟨n, h⟩

theorem hexLower_eq_hexText (bs : Bytes) : hexLower bs = hexText bs := by
  induction bs with
  | nil => rfl
  | cons b r ih =>
    have hb := b.toNat_lt
    have h1 : b.toNat / 16 < 16 := by omega
    have h2 : b.toNat % 16 < 16 := by omega
    simp only [hexLower, List.flatMap_cons, List.cons_append, List.nil_append, hexText] at ih ⊢
    rw [hexDigit_eq h1, hexDigit_eq h2, ih]

theorem find?_firstData (es : List Entry) (tag : Nat) :
    (es.find? (fun e => e.tag == tag)).map (·.data) = firstData es tag := by
  induction es with
  | nil => rfl
  | cons e r ih =>
    simp only [List.find?, firstData]
    by_cases h : e.tag = tag
    · simp [h]
    · have : (e.tag == tag) = false := by simp [h]
      simp only [this, h, if_false]
      exact ih

theorem getWith_eq {α} (proj : IndexData → Option α) (h : Header) (tag : Nat) :
    getWith proj h tag =
      match firstData h.entries tag with
      | none => .err "notfound"
      | some d => match proj d with
        | some a => .ok a
        | none => .err "wrongtype" := by
  rw [← find?_firstData, getWith_find]
  cases h.entries.find? (fun e => e.tag == tag) <;> rfl

theorem recMd5_eq (sig : Header) :
    recMd5 sig = match getBinary sig SigTag.RPMSIGTAG_MD5 with | .ok d => [⟨.md5, some d⟩] | _ => [] := by
  rw [recMd5, getBinary, getWith_eq]
  cases firstData sig.entries SigTag.RPMSIGTAG_MD5 with
  | none => rfl
  | some d => cases d <;> rfl

theorem recSha1_eq (sig : Header) :
    recSha1 sig = match getString sig SigTag.RPMSIGTAG_SHA1 with | .ok d => [⟨.sha1, some d⟩] | _ => [] := by
  rw [recSha1, getString, getWith_eq]
  cases firstData sig.entries SigTag.RPMSIGTAG_SHA1 with
  | none => rfl
  | some d => cases d <;> rfl

theorem recSha256_eq (sig : Header) :
    recSha256 sig = match getString sig SigTag.RPMSIGTAG_SHA256 with | .ok d => [⟨.sha256, some d⟩] | _ => [] := by
  rw [recSha256, getString, getWith_eq]
  cases firstData sig.entries SigTag.RPMSIGTAG_SHA256 with
  | none => rfl
  | some d => cases d <;> rfl

theorem recPayload_eq (hdr : Header) :
    recPayload hdr =
      match getStringArray hdr IndexTag.RPMTAG_PAYLOADDIGEST, getU32 hdr IndexTag.RPMTAG_PAYLOADDIGESTALGO with
      | .ok l, .ok a => [⟨.payload a, l.head?⟩]
      | _, _ => [] := by
  rw [recPayload, getStringArray, getU32, getWith_eq, getWith_eq]
  cases firstData hdr.entries IndexTag.RPMTAG_PAYLOADDIGEST with
  | none => rfl
  | some d =>
    cases firstData hdr.entries IndexTag.RPMTAG_PAYLOADDIGESTALGO with
    | none => cases d <;> rfl
    | some a =>
      cases d <;> first
        | rfl
        | (cases a <;> first | rfl | (rename_i l2; cases l2 <;> rfl))

theorem algo_supported_iff (a : Nat) : algoFromU32 a = some "Sha2_256" ↔ ("Sha2_256", a) ∈ digestAlgoTable := by
  constructor
  · intro h
    obtain ⟨⟨n, a'⟩, hp, rfl⟩ := Option.map_eq_some_iff.mp h
    have : a' = a := by simpa using List.find?_some hp
    exact this ▸ List.mem_of_find?_eq_some hp
  · intro h
    have : a = 8 := by simpa [digestAlgoTable] using h
    subst this
    rfl

/-- what a record that is not fine turns into -/
def failureOf (r : Rec) : Out Unit :=
  if Supported r.which then .err "mismatch"
  else match r.which with
    | .payload a => if (algoFromU32 a).isSome then .err "unsupported" else .err "enum-variant"
    | _ => .err "mismatch"

/-- first record (in check order) that is not fine decides -/
def outcome (H : Hashes) (p : Package) : List Rec → Out Unit
  | [] => .ok ()
  | r :: rest => if Rec.good H p r then outcome H p rest else failureOf r

theorem failureOf_err (r : Rec) : ∃ c, failureOf r = .err c := by
  unfold failureOf
  split
  · exact ⟨_, rfl⟩
  · split
    · split <;> exact ⟨_, rfl⟩
    · exact ⟨_, rfl⟩

theorem outcome_find (H : Hashes) (p : Package) (l : List Rec) :
    outcome H p l = match l.find? (fun r => !decide (Rec.good H p r)) with
      | none => .ok ()
      | some r => failureOf r := by
  induction l with
  | nil => rfl
  | cons r rest ih =>
    by_cases h : Rec.good H p r
    · simp only [outcome, h, if_true, ih, List.find?_cons, decide_true, Bool.not_true]
    · simp only [outcome, h, if_false, List.find?_cons, decide_false, Bool.not_false]

theorem outcome_append (H : Hashes) (p : Package) (l1 l2 : List Rec) :
    outcome H p (l1 ++ l2) = (outcome H p l1 >>= fun _ => outcome H p l2) := by
  simp only [outcome_find, List.find?_append]
  cases l1.find? (fun r => !decide (Rec.good H p r)) with
  | none => rfl
  | some r => obtain ⟨c, hc⟩ := failureOf_err r; simp only [Option.some_or, hc]; rfl

theorem checkDeclared_eq (H : Hashes) (p : Package) (w : Which) (hs : Supported w) (g : Out Bytes) (c : Bytes)
    (hc : recompute H p w = c) :
    checkDeclared g c = outcome H p (match g with | .ok d => [⟨w, some d⟩] | _ => []) := by
  cases g with
  | ok d =>
    simp only [checkDeclared, outcome, Rec.good, hc, hs, true_and, Option.some.injEq, failureOf, if_true]
    by_cases h : d = c <;> simp [h]
  | err _ => rfl
  | panic _ => rfl

theorem checkPayload_eq (H : Hashes) (p : Package) :
    checkPayload H.sha256 p = outcome H p (recPayload p.md.header) := by
  rw [recPayload_eq, checkPayload]
  cases getStringArray p.md.header IndexTag.RPMTAG_PAYLOADDIGEST with
  | err _ => rfl
  | panic _ => rfl
  | ok l =>
    cases getU32 p.md.header IndexTag.RPMTAG_PAYLOADDIGESTALGO with
    | err _ => rfl
    | panic _ => rfl
    | ok a =>
      simp only [outcome, Rec.good, failureOf, Supported, recompute, ← algo_supported_iff, ← hexLower_eq_hexText]
      cases hn : algoFromU32 a with
      | none => simp
      | some name =>
        by_cases h : name = "Sha2_256"
        · subst h
          by_cases h2 : l.head? = some (hexLower (H.sha256 p.content)) <;> simp [h2]
        · simp [h]

theorem Out.bind_assoc' {α β γ} (x : Out α) (f : α → Out β) (g : β → Out γ) :
    ((x >>= f) >>= g) = (x >>= fun a => f a >>= g) := by
  cases x <;> rfl

theorem verifyDigests_eq_outcome (H : Hashes) (p : Package) :
    verifyDigests H.md5 H.sha1 H.sha256 p = outcome H p (Recorded p) := by
  have e1 : checkDeclared (getBinary p.md.signature SigTag.RPMSIGTAG_MD5) (H.md5 (writeHeader p.md.header ++ p.content))
      = outcome H p (recMd5 p.md.signature) := by
    rw [recMd5_eq]; exact checkDeclared_eq H p .md5 trivial _ _ rfl
  have e2 : checkDeclared (getString p.md.signature SigTag.RPMSIGTAG_SHA1) (hexLower (H.sha1 (writeHeader p.md.header)))
      = outcome H p (recSha1 p.md.signature) := by
    rw [recSha1_eq]; exact checkDeclared_eq H p .sha1 trivial _ _ (by simp only [recompute, hexLower_eq_hexText])
  have e3 : checkDeclared (getString p.md.signature SigTag.RPMSIGTAG_SHA256) (hexLower (H.sha256 (writeHeader p.md.header)))
      = outcome H p (recSha256 p.md.signature) := by
    rw [recSha256_eq]; exact checkDeclared_eq H p .sha256 trivial _ _ (by simp only [recompute, hexLower_eq_hexText])
  simp only [verifyDigests, Recorded, outcome_append, e1, e2, e3, checkPayload_eq, Out.bind_assoc']

theorem outcome_ok_iff (H : Hashes) (p : Package) (l : List Rec) :
    outcome H p l = .ok () ↔ ∀ r ∈ l, Rec.good H p r := by
  rw [outcome_find]
  split
  · rename_i hn
    simpa using hn
  · rename_i r hs
    obtain ⟨c, hc⟩ := failureOf_err r
    have hb := List.find?_some hs
    simp only [hc, reduceCtorEq, false_iff]
    exact fun hall => by simp [hall r (List.mem_of_find?_eq_some hs)] at hb

theorem outcome_first_failure (H : Hashes) (p : Package) (pre post : List Rec) (r : Rec)
    (hpre : ∀ x ∈ pre, Rec.good H p x) (hr : ¬ Rec.good H p r) :
    outcome H p (pre ++ r :: post) = failureOf r := by
  have h1 : pre.find? (fun r => !decide (Rec.good H p r)) = none := by simpa using hpre
  simp only [outcome_find, List.find?_append, h1, Option.none_or, List.find?_cons, hr, decide_false, Bool.not_false]

theorem outcome_not_panic (H : Hashes) (p : Package) (l : List Rec) : (outcome H p l).isPanic = false := by
  rw [outcome_find]
  split
  · rfl
  · rename_i r _
    obtain ⟨c, hc⟩ := failureOf_err r
    rw [hc]; rfl

theorem verifyDigests_total (md5 sha1 sha256 : Bytes → Bytes) (p : Package) :
    (verifyDigests md5 sha1 sha256 p).isPanic = false := by
  rw [verifyDigests_eq_outcome ⟨md5, sha1, sha256⟩ p]
  exact outcome_not_panic _ p _

/-- an error result names its cause: a mismatch comes from a supported record that differs
(or, never in `Recorded`, an unsupported non-payload record), any other class from an unsupported algorithm -/
theorem outcome_err (H : Hashes) (p : Package) (l : List Rec) (c : String) (h : outcome H p l = .err c) :
    (c = "mismatch" ∧ ∃ r ∈ l, Rec.differs H p r) ∨ (∃ r ∈ l, ¬ Supported r.which) := by
  rw [outcome_find] at h
  split at h
  · cases h
  · rename_i r hs
    have hm := List.mem_of_find?_eq_some hs
    have hg : ¬ Rec.good H p r := by simpa using List.find?_some hs
    by_cases hsup : Supported r.which
    · simp only [failureOf, hsup, if_true, Out.err.injEq] at h
      exact .inl ⟨h.symm, r, hm, hsup, fun hd => hg ⟨hsup, hd⟩⟩
    · exact .inr ⟨r, hm, hsup⟩

end RpmVerif.Digest
