import RpmVerif.Lemmas.Contain
/-!
The loops of `Package::extract`: `refuse_symlinks` establishes what `Contain` needs of a path (`nolink_of_refuse`), so
every entry keeps the run inside the destination (`extract_good`); and every run whatsoever ends without a panic and
with a log that accounts for every change (`extract_sound`). At the end, the converse direction for runs in which
nothing is refused (`refuse_false`, `extractionPath_normal`), which `ExtractBenign` builds on.
-/
namespace RpmVerif.Fs
open RpmVerif.Extract

theorem relOf_eq (s : Bytes) : relOf s = compsD s := rfl

theorem mem_relOf {s : Bytes} {c : Name} (h : c ∈ relOf s) : c ≠ dot ∧ c ≠ [] := by
  unfold relOf relComps at h
  split at h
  · simp only [Option.getD_some, List.mem_filter, decide_eq_true_eq] at h
    exact ⟨h.2.2, h.2.1⟩
  · simp at h

theorem extractionPath_eq (T : List Name) (s : Bytes) :
    extractionPath T s = if dotdot ∈ relOf s then none else some (T ++ relOf s) := by
  unfold extractionPath relOf
  cases relComps s <;> simp

theorem relOf_normal {s : Bytes} (h : dotdot ∉ relOf s) : ∀ c ∈ relOf s, Normal c :=
  fun _ hc => ⟨(mem_relOf hc).1, (mem_relOf hc).2, fun he => h (he ▸ hc)⟩

theorem extractionPath_some {T : List Name} {s : Bytes} {p} (h : extractionPath T s = some p) :
    p = T ++ relOf s ∧ ∀ c ∈ relOf s, Normal c := by
  rw [extractionPath_eq] at h
  split at h
  · cases h
  · rename_i hd
    injection h with h
    exact ⟨h.symm, relOf_normal hd⟩

theorem refuseFrom_cons_eq_false (fs : Fs) (last : Bool) (cur : List Name) (c : Name) (rest : List Name) :
    refuseFrom fs last cur (c :: rest) = false ↔
      ((last = true ∨ rest ≠ []) → isSymlinkAt fs (cur ++ [c]) = false) ∧
        refuseFrom fs last (cur ++ [c]) rest = false := by
  rw [refuseFrom, Bool.or_eq_false_iff, Bool.and_eq_false_imp, Bool.or_eq_true, Bool.not_eq_true',
    List.isEmpty_eq_false_iff]

theorem refuseFrom_eq_false_iff (fs : Fs) (last : Bool) : ∀ (cs cur : List Name), refuseFrom fs last cur cs = false ↔
    ∀ k, 0 < k → k ≤ cs.length → (last = true ∨ k < cs.length) → isSymlinkAt fs (cur ++ cs.take k) = false := by
  intro cs
  induction cs with
  | nil => intro cur; simp [refuseFrom]; omega
  | cons c rest ih =>
    intro cur
    rw [refuseFrom_cons_eq_false, ih]
    constructor
    · rintro ⟨h1, h2⟩ k hk hk2 hlk
      rcases Nat.lt_or_ge 1 k with hk1 | hk1
      · have := h2 (k - 1) (by omega) (by simp at hk2; omega) (hlk.imp_right (by simp; omega))
        rw [show k = (k - 1) + 1 by omega]
        simpa using this
      · rw [show k = 1 by omega]
        exact h1 (hlk.imp_right fun h e => by simp [e] at h; omega)
    · intro h
      refine ⟨fun hc => ?_, fun k hk hk2 hlk => ?_⟩
      · simpa using h 1 (by omega) (by simp) (hc.imp_right fun e => by simpa [List.length_pos_iff] using e)
      · simpa using h (k + 1) (by omega) (by simp; omega) (hlk.imp_right (by simp))

section
variable {T : Path} (hT : ∀ c ∈ T, Normal c)
include hT

omit hT in
theorem tree_prefix_dirs {fs : Fs} (hi : Inv T fs) (p : List Name) : ∀ (nd : Node),
    fs.get (T ++ p) = some nd → ∀ j, j < p.length → fs.DirAt (T ++ p.take j) := by
  induction p using snocInduction with
  | nil => intro nd _ j hj; simp at hj
  | snoc p' x ih =>
    intro nd hg j hj
    have hpar : fs.DirAt (T ++ p') := by
      have := hi.tree (T ++ (p' ++ [x])) nd hg (List.prefix_append _ _) (by simp)
      rwa [← List.append_assoc, List.dropLast_concat] at this
    simp at hj
    rcases Nat.lt_or_ge j p'.length with hj' | hj'
    · obtain ⟨m, hm⟩ := hpar
      rw [List.take_append_of_le_length (by omega)]
      exact ih _ hm j hj'
    · rw [show j = p'.length by omega]
      simpa using hpar

theorem isSymlinkAt_true {fs : Fs} (hi : Inv T fs) {p : List Name} (hp : ∀ c ∈ p, Normal c) {t}
    (hg : fs.get (T ++ p) = some (.symlink t)) : isSymlinkAt fs (T ++ p) = true := by
  have hd := tree_prefix_dirs hi p _ hg
  have hres : resolve fs false (T ++ p) = .ok (T ++ p) :=
    resolve_of_dirs hT false p hp hi.dirs hd (by simp)
  unfold isSymlinkAt
  rw [hres]
  simp only [hg]

theorem nolink_of_refuse {fs : Fs} (hi : Inv T fs) {r : List Name} (hr : ∀ c ∈ r, Normal c) {last : Bool}
    (h : refuseSymlinks fs T r last = false) :
    NoLinkTo fs T r (if last then r.length else r.length - 1) := by
  intro k hk hk2 t ht
  have hk3 : k ≤ r.length := by split at hk2 <;> omega
  have hlk : last = true ∨ k < r.length := by
    cases last with
    | true => exact Or.inl rfl
    | false => right; simp at hk2; omega
  have h1 := (refuseFrom_eq_false_iff fs last r T).mp h k hk hk3 hlk
  have h2 := isSymlinkAt_true hT hi (p := r.take k) (fun c hc => hr c (List.mem_of_mem_take hc)) ht
  rw [h1] at h2; cases h2

end

theorem andThen_fs_err (fs : Fs) (e : Errno) (k : Fs → Res) : (andThen fs (.error e) k).fs = fs := rfl
theorem andThen_ok (fs fs' : Fs) (k : Fs → Res) : andThen fs (.ok fs') k = k fs' := rfl
theorem andThenDirs_ok {fs fs' : Fs} {p : List Name} (h : createDirAll fs p = .ok fs') (k : Fs → Res) :
    andThenDirs fs p k = k fs' := by unfold andThenDirs; rw [h]
theorem extract_mkdir_error {inp : Input} {T : List Name} {fs : Fs} {e : Errno} (h : mkdir fs T = .error e) :
    extract inp T fs = ⟨.err e.name, fs⟩ := by unfold extract; rw [h]; rfl
theorem andThenDirs_err {fs : Fs} {p : List Name} {e : Errno} (h : createDirAll fs p = .error e) (k : Fs → Res) :
    andThenDirs fs p k = ⟨.err e.name, createDirAllLeft fs p⟩ := by unfold andThenDirs; rw [h]

section
variable {T : Path} (hT : ∀ c ∈ T, Normal c) (hne : T ≠ [])
include hT hne

omit hT hne in
theorem andThen_good {a fs : Fs} {r : Except Errno Fs} {k : Fs → Res} (g : Good T a fs)
    (h : ∀ fs', r = .ok fs' → Good T a (k fs').fs) : Good T a (andThen fs r k).fs := by
  cases r with
  | error e => exact g
  | ok fs' => exact h fs' rfl

omit hT in
theorem NoLinkTo.at_end {fs : Fs} (hi : Inv T fs) {r : List Name} (hN : NoLinkTo fs T r r.length) :
    fs.NoLinkAt (T ++ r) := by
  intro t ht
  rcases Nat.eq_zero_or_pos r.length with h0 | h0
  · rw [List.length_eq_zero_iff.mp h0, List.append_nil] at ht
    obtain ⟨m, hm⟩ := hi.dirs T.length (List.length_pos_iff.mpr hne) (Nat.le_refl _)
    rw [List.take_length, ht] at hm; cases hm
  · have := hN r.length h0 (Nat.le_refl _) t
    rw [List.take_length] at this
    exact this ht

omit hne in
theorem refuse_guard_good {fs : Fs} (hi : Inv T fs) {r : List Name} (hn : ∀ c ∈ r, Normal c) {last : Bool} {res : Res}
    (h : NoLinkTo fs T r (if last then r.length else r.length - 1) → Good T fs res.fs) :
    Good T fs (if refuseSymlinks fs T r last then ⟨.err "symlink", fs⟩ else res).fs := by
  split
  · exact Good.refl hi
  · rename_i href
    exact h (nolink_of_refuse hT hi hn (by simpa using href))

theorem extractItem_good {fs : Fs} (hi : Inv T fs) (it : Item) : Good T fs (extractItem T fs it).fs := by
  unfold extractItem
  cases hp : extractionPath T it.path with
  | none => exact Good.refl hi
  | some p =>
    obtain ⟨rfl, hn⟩ := extractionPath_some hp
    cases it.kind with
    | dir =>
      refine refuse_guard_good hT hi hn fun (hN : NoLinkTo fs T _ (relOf it.path).length) => ?_
      have hcda := createDirAll_good hT hne hi hn hN
      cases hc : createDirAll fs (T ++ relOf it.path) with
      | error e =>
        rw [andThenDirs_err hc]
        exact hcda.2.1
      | ok fs1 =>
        obtain ⟨g1, q1⟩ := hcda.1 fs1 hc
        rw [andThenDirs_ok hc]
        have hN1 := hN.quiet q1
        exact andThen_good g1 fun fs2 hs => g1.trans (setPerm_good hT hne g1.1 hn
          (hN1.of_prefix (List.prefix_refl _) (by omega) (by omega)) (hN1.at_end hne g1.1) hs).1
    | regular =>
      refine refuse_guard_good hT hi hn fun hN => ?_
      refine andThen_good (Good.refl hi) fun fs0 h0 => ?_
      -- a link at the very path is removed first
      have ⟨⟨g0, q0⟩, hl0⟩ : (Good T fs fs0 ∧ Quiet fs fs0) ∧ fs0.NoLinkAt (T ++ relOf it.path) := by
        split at h0
        · obtain ⟨gq, hv⟩ := unlink_good hT hne hi hn hN h0
          exact ⟨gq, fun t ht => by rw [hv] at ht; cases ht⟩
        · rename_i hns
          injection h0 with h0; subst h0
          refine ⟨⟨Good.refl hi, Quiet.refl _⟩, fun t ht => ?_⟩
          rw [isSymlinkAt_true hT hi hn ht] at hns
          exact hns rfl
      refine andThen_good g0 fun fs1 hc => ?_
      obtain ⟨⟨g1, q1⟩, m, hm⟩ := fileCreate_good hT hne g0.1 hn (hN.quiet q0) hl0 hc
      exact andThen_good (g0.trans g1) fun fs2 hs => (g0.trans g1).trans
        (setPerm_good hT hne g1.1 hn ((hN.quiet q0).quiet q1) (fun t ht => by rw [hm] at ht; cases ht) hs).1
    | symlink =>
      refine refuse_guard_good hT hi hn fun hN => ?_
      split
      · refine andThen_good (Good.refl hi) fun fs1 hu => ?_
        obtain ⟨⟨g1, q1⟩, _⟩ := unlink_good hT hne hi hn hN hu
        exact andThen_good g1 fun fs2 hs => g1.trans (symlink_good hT hne g1.1 hn (hN.quiet q1) hs)
      · exact andThen_good (Good.refl hi) fun fs2 hs => symlink_good hT hne hi hn hN hs
    | other => exact Good.refl hi

theorem extractItems_good : ∀ (items : List Item) (fs : Fs), Inv T fs → Good T fs (extractItems T fs items).fs := by
  intro items
  induction items with
  | nil => intro fs hi; exact Good.refl hi
  | cons it r ih =>
    intro fs hi
    have g := extractItem_good hT hne hi it
    unfold extractItems
    split
    · rename_i u fs' heq
      rw [heq] at g
      exact g.trans (ih fs' g.1)
    · exact g

/-- no link at or below the destination (the state while the directory names are processed) -/
def NoLinksUnder (T : Path) (fs : Fs) : Prop := ∀ q, T <+: q → fs.NoLinkAt q

omit hT hne in
theorem NoLinksUnder.quiet {fs fs' : Fs} (h : NoLinksUnder T fs) (hq : Quiet fs fs') : NoLinksUnder T fs' :=
  fun q hT' => hq q (h q hT')

theorem extractDirs_good : ∀ (ds : List Bytes) (fs : Fs), Inv T fs → NoLinksUnder T fs →
    Good T fs (extractDirs T fs ds).fs ∧ Quiet fs (extractDirs T fs ds).fs := by
  intro ds
  induction ds with
  | nil => intro fs hi _; exact ⟨Good.refl hi, Quiet.refl _⟩
  | cons d r ih =>
    intro fs hi hnl
    unfold extractDirs
    cases hp : extractionPath T d with
    | none => exact ⟨Good.refl hi, Quiet.refl _⟩
    | some p =>
      obtain ⟨rfl, hn⟩ := extractionPath_some hp
      simp only
      have hcda := createDirAll_good hT hne hi hn (fun k _ _ => hnl _ (List.prefix_append _ _))
      cases hc : createDirAll fs (T ++ relOf d) with
      | error e =>
        rw [andThenDirs_err hc]
        exact hcda.2
      | ok fs1 =>
        obtain ⟨g1, q1⟩ := hcda.1 fs1 hc
        rw [andThenDirs_ok hc]
        obtain ⟨g2, q2⟩ := ih fs1 g1.1 (hnl.quiet q1)
        exact ⟨g1.trans g2, q1.trans q2⟩

theorem extract_good {inp : Input} {fs fs0 : Fs} (hm : mkdir fs T = .ok fs0) (hi : Inv T fs0) (hnl : NoLinksUnder T fs0) :
    Good T fs0 (extract inp T fs).fs := by
  unfold extract
  rw [hm]
  simp only [andThen_ok]
  cases inp.dirnames with
  | none => exact Good.refl hi
  | some ds =>
    simp only
    have g1 := (extractDirs_good hT hne ds fs0 hi hnl).1
    split
    · rename_i u fs1 heq
      rw [heq] at g1
      have g := g1.trans (extractItems_good hT hne inp.items fs1 g1.1)
      split
      · rename_i u2 fs2 heq2
        rw [heq2] at g
        split <;> exact g
      · exact g
    · exact g1

end

/-- `Good` without the invariant and without "below `T`": it holds of every run, where `Good` needs `Inv` at the start -/
def Logged (fs fs' : Fs) : Prop := ∃ L, Ext fs fs' L

theorem Logged.refl (fs : Fs) : Logged fs fs := ⟨[], Ext.refl fs⟩
theorem Logged.trans {a b c : Fs} (h1 : Logged a b) (h2 : Logged b c) : Logged a c := by
  obtain ⟨L1, e1⟩ := h1; obtain ⟨L2, e2⟩ := h2; exact ⟨L2 ++ L1, e1.trans e2⟩

theorem mkdir_logged {fs fs' : Fs} {cs} (h : mkdir fs cs = .ok fs') : Logged fs fs' := by
  obtain ⟨q, _, _, _, rfl⟩ := mkdir_ok h; exact ⟨[q], Ext.set _ _ _⟩
theorem fileCreate_logged {fs fs' : Fs} {cs c} (h : fileCreate fs cs c = .ok fs') : Logged fs fs' := by
  obtain ⟨q, m, _, rfl, _⟩ := fileCreate_ok h; exact ⟨[q], Ext.set _ _ _⟩
theorem setPerm_logged {fs fs' : Fs} {cs p} (h : setPerm fs cs p = .ok fs') : Logged fs fs' := by
  obtain ⟨q, _, hv⟩ := setPerm_ok h
  rcases hv with ⟨m, _, rfl⟩ | ⟨c, m, _, rfl⟩ <;> exact ⟨[q], Ext.set _ _ _⟩
theorem unlink_logged {fs fs' : Fs} {cs} (h : unlink fs cs = .ok fs') : Logged fs fs' := by
  obtain ⟨q, n, _, _, _, rfl⟩ := unlink_ok h; exact ⟨[q], Ext.del _ _⟩
theorem symlink_logged {fs fs' : Fs} {cs t} (h : symlink fs cs t = .ok fs') : Logged fs fs' := by
  obtain ⟨q, _, _, _, _, rfl⟩ := symlink_ok h; exact ⟨[q], Ext.set _ _ _⟩

def Sound (fs : Fs) (res : Res) : Prop := res.out.isPanic = false ∧ Logged fs res.fs

theorem Sound.stop (fs : Fs) {o : Out Unit} (h : o.isPanic = false := by rfl) : Sound fs ⟨o, fs⟩ := ⟨h, Logged.refl fs⟩

theorem Sound.after {fs fs' : Fs} {res : Res} (h1 : Logged fs fs') (h2 : Sound fs' res) : Sound fs res :=
  ⟨h2.1, h1.trans h2.2⟩

theorem andThen_sound {fs : Fs} {r : Except Errno Fs} {k : Fs → Res}
    (h1 : ∀ fs', r = .ok fs' → Logged fs fs') (h2 : ∀ fs', Sound fs' (k fs')) : Sound fs (andThen fs r k) := by
  cases r with
  | error e => exact Sound.stop fs
  | ok fs' => exact (h2 fs').after (h1 fs' rfl)

theorem andThenDirs_sound {fs : Fs} {p : List Name} {k : Fs → Res} (h2 : ∀ fs', Sound fs' (k fs')) :
    Sound fs (andThenDirs fs p k) := by
  have key := cdaRev_chain Logged.refl Logged.trans (p := p) (fun _ _ h => mkdir_logged h) p.reverse (by simp) fs
  unfold andThenDirs
  cases hc : createDirAll fs p with
  | error e => exact ⟨rfl, key.2⟩
  | ok fs' => exact (h2 fs').after (key.1 fs' hc)

theorem extractItem_sound (T : List Name) (fs : Fs) (it : Item) : Sound fs (extractItem T fs it) := by
  unfold extractItem
  cases extractionPath T it.path with
  | none => exact Sound.stop fs
  | some p =>
    simp only
    cases it.kind with
    | dir =>
      simp only
      split
      · exact Sound.stop fs
      · exact andThenDirs_sound fun _ => andThen_sound (fun _ h => setPerm_logged h) fun fs2 => Sound.stop fs2
    | regular =>
      simp only
      split
      · exact Sound.stop fs
      · refine andThen_sound (fun fs0 h => ?_) fun _ => andThen_sound (fun _ h => fileCreate_logged h) fun _ =>
          andThen_sound (fun _ h => setPerm_logged h) fun fs2 => Sound.stop fs2
        split at h
        · exact unlink_logged h
        · injection h with h; subst h; exact Logged.refl _
    | symlink =>
      simp only
      split
      · exact Sound.stop fs
      · split
        · exact andThen_sound (fun _ h => unlink_logged h) fun _ =>
            andThen_sound (fun _ h => symlink_logged h) fun fs2 => Sound.stop fs2
        · exact andThen_sound (fun _ h => symlink_logged h) fun fs2 => Sound.stop fs2
    | other => exact Sound.stop fs

theorem extractItems_sound (T : List Name) : ∀ (items : List Item) (fs : Fs), Sound fs (extractItems T fs items) := by
  intro items
  induction items with
  | nil => intro fs; exact Sound.stop fs
  | cons it r ih =>
    intro fs
    have g := extractItem_sound T fs it
    unfold extractItems
    split
    · rename_i u fs' heq; rw [heq] at g; exact (ih fs').after g.2
    · exact g

theorem extractDirs_sound (T : List Name) : ∀ (ds : List Bytes) (fs : Fs), Sound fs (extractDirs T fs ds) := by
  intro ds
  induction ds with
  | nil => intro fs; exact Sound.stop fs
  | cons d r ih =>
    intro fs
    unfold extractDirs
    cases extractionPath T d with
    | none => exact Sound.stop fs
    | some p => exact andThenDirs_sound fun fs1 => ih fs1

theorem extract_sound (inp : Input) (T : List Name) (fs : Fs) : Sound fs (extract inp T fs) := by
  unfold extract
  refine andThen_sound (fun _ h => mkdir_logged h) (fun fs0 => ?_)
  cases inp.dirnames with
  | none => exact Sound.stop fs0
  | some ds =>
    simp only
    have g1 := extractDirs_sound T ds fs0
    split
    · rename_i u fs1 heq
      rw [heq] at g1
      have g2 := extractItems_sound T inp.items fs1
      split
      · rename_i u2 fs2 heq2
        rw [heq2] at g2
        split
        · exact (Sound.stop fs2).after (g1.2.trans g2.2)
        · exact (Sound.stop fs2).after (g1.2.trans g2.2)
      · exact g2.after g1.2
    · exact g1

theorem compsD_normal {s : Bytes} (h : hasDotDot s = false) : ∀ c ∈ compsD s, Normal c := by
  have h' : dotdot ∉ compsD s := by simpa [hasDotDot, List.contains_eq_mem] using h
  exact relOf_normal h'

theorem extractionPath_normal (T : List Name) {s : Bytes} (hn : ∀ x ∈ compsD s, Normal x) :
    extractionPath T s = some (T ++ compsD s) := by
  rw [extractionPath_eq, if_neg (show dotdot ∉ relOf s from fun hm => (hn dotdot hm).2.2 rfl)]
  rfl

theorem isSymlinkAt_false_of_nolink {fs : Fs} {cs : List Name} (hne : cs ≠ []) (hn : ∀ c ∈ cs, Normal c)
    (hs : ∀ k, 0 < k → k ≤ cs.length → fs.NoLinkAt (cs.take k)) :
    isSymlinkAt fs cs = false := by
  unfold isSymlinkAt
  cases hr : resolve fs false cs with
  | error e => rfl
  | ok q =>
    have := (resolve_ok fs false cs hn (fun k hk hk2 => hs k hk (Nat.le_of_lt hk2)) (by simp) hr).1
    subst this
    simp only
    cases hg : fs.get q with
    | none => rfl
    | some n =>
      cases n with
      | dir => rfl
      | file => rfl
      | symlink t =>
        have h0 : 0 < q.length := by cases q with | nil => exact absurd rfl hne | cons => simp
        exact absurd (by simpa using hg) (hs q.length h0 (Nat.le_refl _) t)

theorem refuse_false {fs : Fs} {T r : List Name} (hne : T ≠ []) (hT : ∀ c ∈ T, Normal c) (hr : ∀ c ∈ r, Normal c)
    (htop : DirsTo fs T) (last : Bool)
    (hnl : ∀ k, k ≤ r.length → (last = true ∨ k < r.length) → fs.NoLinkAt (T ++ r.take k)) :
    refuseSymlinks fs T r last = false := by
  refine (refuseFrom_eq_false_iff fs last r T).mpr (fun k hk hk2 hlk => ?_)
  refine isSymlinkAt_false_of_nolink (by simp [hne])
    (List.forall_mem_append.mpr ⟨hT, fun c hc => hr c (List.mem_of_mem_take hc)⟩) ?_
  · intro j hj hj2 t ht
    by_cases hle : j ≤ T.length
    · rw [List.take_append_of_le_length hle] at ht
      exact (htop j hj hle).noLink t ht
    · rw [List.take_append, List.take_of_length_le (by omega), List.take_take] at ht
      simp at hj2
      have hmin : min (j - T.length) k = j - T.length := by omega
      rw [hmin] at ht
      refine hnl (j - T.length) (by omega) ?_ t ht
      rcases hlk with h | h
      · exact Or.inl h
      · right; omega

end RpmVerif.Fs
