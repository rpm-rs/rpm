import RpmVerif.Model.FileCaps
import RpmVerif.Spec.FileCaps
/-!
Lemmas for C19: the model of `filecaps.rs` against the grammar of `Spec/FileCaps.lean`.

First the notions the C19 theorems are stated with beyond the spec file: the order on readings, the reading the code
implements (`codeReading`), and the two shapes a don't-care clause can have (`EndsWithOp`, `AllInList`).  Then, bottom up:
the character classes of model and spec agree; `split` is `fields` and `trim` keeps the words; the suffix scan is `groups`;
the name-list check is `nameList`; the cut of a clause is where `find` puts it (`clauseAt_findOp`), which gives
`validateCapsText_ok_iff_wf`.  After that monotonicity in the reading, the gap between the strict and the lenient reading,
ASCII-ness of every clause, and the pre-e20037b validator at the ASCII upper-casing.
-/
namespace RpmVerif.FileCaps
open RpmVerif RpmVerif.FileCaps.Spec

/-- `a ≤ b`: reading `b` accepts at least what `a` accepts -/
def Reading.le (a b : Reading) : Prop :=
  (a.flaglessLast = true → b.flaglessLast = true) ∧ (a.allInList = true → b.allInList = true)

/-- the reading the code implements, read off `validate_suffix` (a flagless last group passes) and `validate_capset` (`all` is
compared with the whole name list only): this side of `C19.caps_accepts_iff_code_reading` is fitted to the code -/
def codeReading : Reading := ⟨true, false⟩

theorem strict_le_code : Reading.le strict codeReading := ⟨fun _ => rfl, fun h => h⟩
theorem code_le_lenient : Reading.le codeReading lenient := ⟨fun _ => rfl, fun _ => rfl⟩
theorem strict_le_lenient : Reading.le strict lenient := ⟨fun _ => rfl, fun _ => rfl⟩

/-- the clause ends with an operator: its last group has no flag -/
def EndsWithOp (c : Str) : Prop := ∃ x, c.getLast? = some x ∧ isOp x = true

/-- `all` is an item of a comma list of at least two items that starts the clause -/
def AllInList (c : Str) : Prop :=
  ∃ k, 2 ≤ (fields (· == 44) (c.take k)).length ∧ ∃ f ∈ fields (· == 44) (c.take k), isAll f = true

theorem isUniSpace_eq (c : Nat) : isUniSpace c =
    (c == 0x85 || c == 0xA0 || c == 0x1680 || (decide (0x2000 ≤ c) && decide (c ≤ 0x200A)) || c == 0x2028 ||
      c == 0x2029 || c == 0x202F || c == 0x205F || c == 0x3000) := by
  have e : isUniSpace c = ([0x85, 0xA0, 0x1680] ++ List.range' 0x2000 11 ++
      [0x2028, 0x2029, 0x202F, 0x205F, 0x3000]).contains c := rfl
  rw [e, Bool.eq_iff_iff]
  simp only [List.contains_iff_mem, List.mem_append, List.mem_range'_1, List.mem_cons, List.not_mem_nil, or_false,
    Bool.or_eq_true, Bool.and_eq_true, beq_iff_eq, decide_eq_true_eq, or_assoc, Nat.lt_succ_iff]

theorem isSureSpace_or_vt (c : Nat) :
    (isSureSpace c || c == 11) = (decide (9 ≤ c) && decide (c ≤ 13) || c == 32) := by
  have e : (decide (9 ≤ c) && decide (c ≤ 13)) = [9, 10, 11, 12, 13].contains c := by
    rw [show [9, 10, 11, 12, 13] = List.range' 9 5 from rfl, Bool.eq_iff_iff, List.contains_iff_mem,
      List.mem_range'_1, Bool.and_eq_true, decide_eq_true_eq, decide_eq_true_eq, Nat.lt_succ_iff]
  rw [e, isSureSpace]
  simp only [List.contains_cons, List.contains_nil, Bool.or_false]
  ac_rfl

/-- the spec's most generous notion of whitespace (listed code points) is the model's
`char::is_whitespace` (ranges): both are the `White_Space` property -/
theorem isSpace_eq_isWs (c : Nat) : isSpace c = isWs c := by
  rw [isSpace, isDoubtfulSpace, ← Bool.or_assoc, isSureSpace_or_vt, isUniSpace_eq, isWs]
  simp only [Bool.or_assoc]

theorem isUniSpace_ge {c : Nat} (h : isUniSpace c = true) : 128 ≤ c := by
  simp only [isUniSpace_eq, Bool.or_eq_true, Bool.and_eq_true, beq_iff_eq, decide_eq_true_eq] at h
  omega

theorem isSpace_ascii {c : Nat} (h : isSpace c = true) (hd : isDoubtfulSpace c = false) : c < 128 := by
  simp only [isSpace, hd, Bool.or_false, isSureSpace, Bool.or_eq_true, beq_iff_eq] at h
  omega

theorem isSpace_fun : isSpace = isWs := funext isSpace_eq_isWs

theorem isOpCh_eq (c : Nat) : isOpCh c = isOp c := by
  rw [isOpCh, isOp, Bool.or_comm, ← Bool.or_assoc]

theorem isOp_iff {c : Nat} : isOp c = true ↔ c = 61 ∨ c = 43 ∨ c = 45 := by
  simp [isOp, or_assoc]

theorem isOpCh_iff {c : Nat} : isOpCh c = true ↔ c = 61 ∨ c = 43 ∨ c = 45 := by
  rw [isOpCh_eq]; exact isOp_iff

theorem isFlag_iff {c : Nat} : isFlag c = true ↔ c = 101 ∨ c = 105 ∨ c = 112 := by
  simp [isFlag, or_assoc]

theorem isFlag_not_op {c : Nat} (h : isFlag c = true) : isOp c = false := by
  cases hc : isOp c
  · rfl
  · rw [isFlag_iff] at h; rw [isOp_iff] at hc; omega

theorem fields_ne_nil (p : Nat → Bool) (s : Str) : fields p s ≠ [] := by
  induction s with
  | nil => simp [fields]
  | cons c r ih =>
    simp only [fields]
    split
    · simp
    · cases h : fields p r with
      | nil => exact absurd h ih
      | cons f fs => simp [consHead]

theorem fields_cons_sep {p : Nat → Bool} {c : Nat} (s : Str) (h : p c = true) :
    fields p (c :: s) = [] :: fields p s := by
  simp only [fields, h, if_true]

theorem fields_cons_not {p : Nat → Bool} {c : Nat} (s : Str) (h : p c = false) :
    ∃ f fs, fields p s = f :: fs ∧ fields p (c :: s) = (c :: f) :: fs := by
  cases hf : fields p s with
  | nil => exact absurd hf (fields_ne_nil p s)
  | cons f fs =>
    exact ⟨f, fs, rfl, by simp only [fields, h, Bool.false_eq_true, if_false, hf, consHead, List.cons_append,
      List.nil_append]⟩

theorem mem_fields_iff (p : Nat → Bool) (x : Nat) (s : Str) :
    (∃ f ∈ fields p s, x ∈ f) ↔ x ∈ s ∧ p x = false := by
  induction s with
  | nil => simp [fields]
  | cons c s ih =>
    cases hc : p c
    · obtain ⟨f, fs, hf, e⟩ := fields_cons_not s hc
      rw [hf] at ih
      simp only [List.mem_cons, or_and_right, exists_or, exists_eq_left] at ih
      simp only [e, List.mem_cons, or_and_right, exists_or, exists_eq_left, or_assoc, ih]
      exact or_congr_left (iff_self_and.mpr fun h => by rw [h]; exact hc)
    · simp only [fields_cons_sep s hc, List.mem_cons, or_and_right, exists_or, exists_eq_left, List.not_mem_nil,
        false_or, ih]
      exact (or_iff_right fun ⟨h1, h2⟩ => by rw [h1, hc] at h2; cases h2).symm

theorem consHead_nil {l : List Str} (h : l ≠ []) : consHead [] l = l := by
  cases l with
  | nil => exact absurd rfl h
  | cons f fs => rfl

theorem consHead_consHead (a b : Str) (l : List Str) : consHead a (consHead b l) = consHead (a ++ b) l := by
  cases l <;> simp [consHead]

theorem splitGo_eq (p : Nat → Bool) (s acc : Str) : splitGo p acc s = consHead acc.reverse (fields p s) := by
  induction s generalizing acc with
  | nil => simp [splitGo, fields, consHead]
  | cons c r ih =>
    simp only [splitGo, fields]
    split
    · rw [ih [], List.reverse_nil, consHead_nil (fields_ne_nil p r)]; simp [consHead]
    · rw [ih (c :: acc), consHead_consHead]; simp

theorem split_eq_fields (p : Nat → Bool) (s : Str) : split p s = fields p s := by
  rw [split, splitGo_eq]; exact consHead_nil (fields_ne_nil p s)

theorem splitWhitespace_eq_words (s : Str) : splitWhitespace s = words s := by
  rw [splitWhitespace, words, split_eq_fields, isSpace_fun]

theorem words_cons_ws {c : Nat} (r : Str) (h : isSpace c = true) : words (c :: r) = words r := by
  rw [words, fields_cons_sep r h]; rfl

theorem mem_words_iff (x : Nat) (s : Str) : (∃ w ∈ words s, x ∈ w) ↔ x ∈ s ∧ isSpace x = false := by
  rw [← mem_fields_iff]
  simp only [words, List.mem_filter]
  constructor
  · rintro ⟨w, ⟨hw, _⟩, hx⟩; exact ⟨w, hw, hx⟩
  · rintro ⟨w, hw, hx⟩
    exact ⟨w, ⟨hw, by cases w with | nil => cases hx | cons _ _ => rfl⟩, hx⟩

theorem words_eq_nil_iff (s : Str) : words s = [] ↔ s.all isSpace = true := by
  induction s with
  | nil => simp [words, fields]
  | cons c r ih =>
    cases h : isSpace c
    · obtain ⟨f, fs, _, e⟩ := fields_cons_not r h
      simp [words, e, h]
    · rw [words_cons_ws r h, ih]; simp [h]

theorem words_dropWhile (s : Str) : words (s.dropWhile isSpace) = words s := by
  induction s with
  | nil => rfl
  | cons c r ih =>
    by_cases h : isSpace c = true
    · rw [List.dropWhile_cons_of_pos h, ih, words_cons_ws r h]
    · rw [List.dropWhile_cons_of_neg h]

theorem consHead_append (a : Str) {l : List Str} (h : l ≠ []) (m : List Str) :
    consHead a (l ++ m) = consHead a l ++ m := by
  cases l with
  | nil => exact absurd rfl h
  | cons f fs => rfl

theorem fields_append_sep {p : Nat → Bool} {c : Nat} (s t : Str) (hc : p c = true) :
    fields p (s ++ c :: t) = fields p s ++ fields p t := by
  induction s with
  | nil => exact fields_cons_sep t hc
  | cons a r ih =>
    simp only [List.cons_append, fields, ih]
    split
    · rfl
    · exact consHead_append _ (fields_ne_nil p r) _

theorem words_append_ws (s t : Str) (h : t.all isSpace = true) : words (s ++ t) = words s := by
  cases t with
  | nil => rw [List.append_nil]
  | cons c t =>
    rw [List.all_cons, Bool.and_eq_true] at h
    rw [words, fields_append_sep s t h.1, List.filter_append]
    exact (congrArg _ ((words_eq_nil_iff t).mpr h.2)).trans (List.append_nil _)

theorem trimEnd_decomp (s : Str) : ∃ t, s = trimEnd s ++ t ∧ t.all isSpace = true := by
  refine ⟨(s.reverse.takeWhile isWs).reverse, ?_, ?_⟩
  · have := List.takeWhile_append_dropWhile (p := isWs) (l := s.reverse)
    have h2 := congrArg List.reverse this
    rw [List.reverse_append, List.reverse_reverse] at h2
    exact h2.symm
  · rw [List.all_reverse, isSpace_fun]; exact List.all_takeWhile

theorem words_trim (s : Str) : words (trim s) = words s := by
  obtain ⟨t, ht, hws⟩ := trimEnd_decomp (trimStart s)
  have h1 : words (trimStart s) = words (trim s) := by
    conv => lhs; rw [ht]
    exact words_append_ws _ _ hws
  rw [← h1, trimStart, ← isSpace_fun, words_dropWhile]

theorem dropWhile_eq_nil_of_all (p : Nat → Bool) (l : Str) (h : l.all p = true) : l.dropWhile p = [] := by
  induction l with
  | nil => rfl
  | cons c r ih =>
    simp only [List.all_cons, Bool.and_eq_true] at h
    rw [List.dropWhile_cons_of_pos h.1]; exact ih h.2

theorem trim_isEmpty_iff (s : Str) : (trim s).isEmpty = true ↔ words s = [] := by
  rw [List.isEmpty_iff]
  refine ⟨fun h => by rw [← words_trim, h]; rfl, fun h => ?_⟩
  have h1 : trimStart s = [] := by
    rw [trimStart, ← isSpace_fun]; exact dropWhile_eq_nil_of_all _ _ ((words_eq_nil_iff s).mp h)
  rw [trim, h1]; rfl

theorem suffixLoop_some_cons (l ch : Nat) (r : Str) : suffixLoop (some l) (ch :: r) =
    if isOp ch then (if isOp l then .err "adjacent-ops" else suffixLoop (some ch) r)
    else if isFlag ch then suffixLoop (some ch) r else .err "suffix-char" := by
  -- the loop tests `ch == 'p' || ch == 'i' || ch == 'e'`, the spec `isFlag` has the three in the other order
  have hf : (ch == 112 || ch == 105 || ch == 101) = isFlag ch := by
    rw [isFlag, Bool.or_assoc, Bool.or_comm, Bool.or_comm (ch == 105)]
  simp only [suffixLoop, isOpCh_eq, hf, Option.isNone_some, Bool.false_eq_true, if_false]

/-- the spec state `some n` matches `last_ch = Some(l)` when `n = 0 ↔ l is an operator`;
then the model's scan accepts exactly `groups` with flagless last groups allowed -/
theorem suffixLoop_ok_iff {rd : Reading} (hrd : rd.flaglessLast = true) (r : Str) :
    ∀ (l n : Nat), (n = 0 ↔ isOp l = true) →
    (suffixLoop (some l) r = .ok () ↔ groups rd (some n) r = true) := by
  induction r with
  | nil => intro l n _; simp [suffixLoop, groups, hrd]
  | cons ch r ih =>
    intro l n hn
    rw [suffixLoop_some_cons]
    simp only [groups]
    cases hop : isOp ch
    · cases hf : isFlag ch
      · simp
      · simp only [if_true, Bool.false_eq_true, if_false]
        exact ih ch (n + 1) (by simp [hop])
    · have hf : isFlag ch = false := Bool.eq_false_iff.mpr fun h => by rw [isFlag_not_op h] at hop; cases hop
      simp only [hf, if_true, Bool.false_eq_true, if_false, Bool.true_and]
      cases hl : isOp l
      · have hn' : 0 < n := Nat.pos_of_ne_zero fun h => by rw [hn.mp h] at hl; cases hl
        simp only [Bool.false_eq_true, if_false, decide_eq_true hn', Bool.true_and]
        exact ih ch 0 (by simp [hop])
      · simp [hn.mpr hl]

theorem suffixLoop_some_not_panic (r : Str) : ∀ l : Nat, (suffixLoop (some l) r).isPanic = false := by
  induction r with
  | nil => intro l; rfl
  | cons ch r ih =>
    intro l
    rw [suffixLoop_some_cons]
    split
    · split
      · rfl
      · exact ih ch
    · split
      · exact ih ch
      · rfl

theorem validateSuffix_cons_op {x : Nat} (r : Str) (hx : isOp x = true) :
    validateSuffix (x :: r) = suffixLoop (some x) r := by
  simp [validateSuffix, suffixLoop, isOpCh_eq, hx]

theorem groups_none_cons (rd : Reading) (x : Nat) (r : Str) :
    groups rd none (x :: r) = (isOp x && groups rd (some 0) r) := rfl

theorem groups_none_head {rd : Reading} {s : Str} (h : groups rd none s = true) :
    ∃ x r, s = x :: r ∧ isOp x = true ∧ groups rd (some 0) r = true := by
  cases s with
  | nil => simp [groups] at h
  | cons x r =>
    rw [groups_none_cons, Bool.and_eq_true] at h
    exact ⟨x, r, rfl, h.1, h.2⟩

theorem validateSuffix_ok_iff {x : Nat} (r : Str) (hx : isOp x = true) :
    validateSuffix (x :: r) = .ok () ↔ groups codeReading none (x :: r) = true := by
  rw [validateSuffix_cons_op r hx, groups_none_cons, hx, Bool.true_and]
  exact suffixLoop_ok_iff rfl r x 0 (by simp [hx])

theorem table_chars :
    Gen.capsTable.all (fun t => t.all (fun a => decide (65 ≤ a) && decide (a ≤ 90) || a == 95)) = true := by
  decide

theorem table_char {t : Str} (ht : t ∈ Gen.capsTable) {a : Nat} (ha : a ∈ t) : (65 ≤ a ∧ a ≤ 90) ∨ a = 95 := by
  simpa using List.all_eq_true.mp (List.all_eq_true.mp table_chars t ht) a ha

theorem toAsciiUpper_eq_iff {a b : Nat} (ha : ¬(97 ≤ a ∧ a ≤ 122)) :
    toAsciiUpper b = a ↔ (b = a ∨ (65 ≤ a ∧ a ≤ 90 ∧ b = a + 32)) := by
  unfold toAsciiUpper; split <;> omega

theorem sameName_iff (t : Str) (ht : ∀ a ∈ t, ¬(97 ≤ a ∧ a ≤ 122)) :
    ∀ n : Str, sameName t n = true ↔ n.map toAsciiUpper = t := by
  induction t with
  | nil => intro n; cases n <;> simp [sameName]
  | cons a t ih =>
    intro n
    cases n with
    | nil => simp [sameName]
    | cons b n =>
      have h1 := toAsciiUpper_eq_iff (b := b) (ht a (List.mem_cons_self ..))
      have h2 := ih (fun x hx => ht x (List.mem_cons_of_mem _ hx)) n
      simp only [sameName, Bool.and_eq_true, Bool.or_eq_true, beq_iff_eq, decide_eq_true_eq, List.map_cons,
        List.cons.injEq, h1, h2, and_assoc]

theorem known_iff (p : Str) : known p = true ↔ p.map toAsciiUpper ∈ Gen.capsTable := by
  have hs : ∀ t ∈ Gen.capsTable, (sameName t p = true ↔ p.map toAsciiUpper = t) := fun t ht =>
    sameName_iff t (fun a ha => by have := table_char ht ha; omega) p
  rw [known, List.any_eq_true]
  exact ⟨fun ⟨t, ht, h⟩ => ((hs t ht).mp h) ▸ ht, fun h => ⟨_, h, (hs _ h).mpr rfl⟩⟩

theorem known_eq_contains (p : Str) : Gen.capsTable.contains (p.map toAsciiUpper) = known p := by
  rw [Bool.eq_iff_iff, List.contains_iff_mem, known_iff]

theorem toAsciiLower_eq_iff (a u : Nat) (hu : 65 ≤ u ∧ u ≤ 90) :
    toAsciiLower a = u + 32 ↔ (a = u + 32 ∨ a = u) := by
  unfold toAsciiLower; split <;> omega

theorem isAll_iff {x : Str} : isAll x = true ↔
    ∃ a b c, x = [a, b, c] ∧ (a = 97 ∨ a = 65) ∧ (b = 108 ∨ b = 76) ∧ (c = 108 ∨ c = 76) := by
  constructor
  · intro h
    match x, h with
    | [a, b, c], h => exact ⟨a, b, c, rfl, by simpa [isAll, and_assoc] using h⟩
  · rintro ⟨a, b, c, rfl, h⟩
    simpa [isAll, and_assoc] using h

theorem eqIgnoreAsciiCase_all (n : Str) : eqIgnoreAsciiCase n allLit = isAll n := by
  have e : eqIgnoreAsciiCase n allLit = (n.map toAsciiLower == [97, 108, 108]) := rfl
  rw [e, Bool.eq_iff_iff, beq_iff_eq, isAll_iff]
  have ha (a : Nat) : toAsciiLower a = 97 ↔ (a = 97 ∨ a = 65) := toAsciiLower_eq_iff a 65 (by omega)
  have hl (a : Nat) : toAsciiLower a = 108 ↔ (a = 108 ∨ a = 76) := toAsciiLower_eq_iff a 76 (by omega)
  simp only [List.map_eq_cons_iff, List.map_eq_nil_iff, ha, hl]
  constructor
  · rintro ⟨a, _, rfl, ha, b, _, rfl, hb, c, _, rfl, hc, rfl⟩; exact ⟨a, b, c, rfl, ha, hb, hc⟩
  · rintro ⟨a, b, c, rfl, ha, hb, hc⟩; exact ⟨a, _, rfl, ha, b, _, rfl, hb, c, _, rfl, hc, rfl⟩

theorem capsetLoop_ok_iff (ps : List Str) :
    capsetLoop ps = .ok () ↔ ps.all known = true := by
  induction ps with
  | nil => simp [capsetLoop]
  | cons p ps ih =>
    simp only [capsetLoop, known_eq_contains, List.all_cons, Bool.and_eq_true]
    cases hk : known p
    · simp
    · simp [ih]

theorem capsetLoop_not_panic (ps : List Str) : (capsetLoop ps).isPanic = false := by
  induction ps with
  | nil => rfl
  | cons p ps ih =>
    simp only [capsetLoop]
    split
    · rfl
    · exact ih

theorem validateCapset_not_panic (n : Str) : (validateCapset n).isPanic = false := by
  unfold validateCapset; split
  · rfl
  · exact capsetLoop_not_panic _

theorem validateCapset_ok_iff (n : Str) :
    validateCapset n = .ok () ↔ (n = [] ∨ nameList codeReading n = true) := by
  unfold validateCapset
  rw [eqIgnoreAsciiCase_all, split_eq_fields]
  cases n with
  | nil => simp
  | cons a n =>
    cases h : isAll (a :: n)
    · simp [capsetLoop_ok_iff, nameList, codeReading, h]
    · simp [nameList, h]

abbrev IsNameCh (a : Nat) : Prop := (65 ≤ a ∧ a ≤ 90) ∨ (97 ≤ a ∧ a ≤ 122) ∨ a = 95

theorem known_char {x : Str} (h : known x = true) {a : Nat} (ha : a ∈ x) : IsNameCh a := by
  have := table_char ((known_iff x).mp h) (List.mem_map_of_mem (f := toAsciiUpper) ha)
  unfold toAsciiUpper at this; split at this <;> omega

theorem isAll_char {x : Str} (h : isAll x = true) {a : Nat} (ha : a ∈ x) : IsNameCh a := by
  obtain ⟨_, _, _, rfl, hp, hq, hr⟩ := isAll_iff.mp h
  simp only [List.mem_cons, List.not_mem_nil, or_false] at ha
  rcases ha with rfl | rfl | rfl
  · rcases hp with rfl | rfl <;> decide
  · rcases hq with rfl | rfl <;> decide
  · rcases hr with rfl | rfl <;> decide

theorem nameList_char {rd : Reading} {n : Str} (h : nameList rd n = true) {a : Nat} (ha : a ∈ n) :
    IsNameCh a ∨ a = 44 := by
  rw [nameList, Bool.or_eq_true] at h
  rcases h with h | h
  · exact .inl (isAll_char h ha)
  · cases hc : a == 44
    · obtain ⟨f, hf, haf⟩ := (mem_fields_iff (· == 44) a n).mpr ⟨ha, hc⟩
      have := List.all_eq_true.mp h f hf
      rw [Bool.or_eq_true, Bool.and_eq_true] at this
      exact .inl (this.elim (known_char · haf) (isAll_char ·.2 haf))
    · exact .inr (beq_iff_eq.mp hc)

theorem nameList_no_op {rd : Reading} {n : Str} (h : nameList rd n = true) : n.all (fun c => !isOp c) = true := by
  rw [List.all_eq_true]
  intro a ha
  have := nameList_char h ha
  rw [Bool.not_eq_true', Bool.eq_false_iff, Ne, isOp_iff]
  omega

theorem findOp_append (a : Str) (x : Nat) (r : Str) (ha : a.all (fun c => !isOp c) = true)
    (hx : isOp x = true) : findOp (a ++ x :: r) = some a.length := by
  induction a with
  | nil => simp [findOp, isOpCh_eq, hx]
  | cons c a ih =>
    simp only [List.all_cons, Bool.and_eq_true, Bool.not_eq_true'] at ha
    simp [findOp, isOpCh_eq, ha.1, ih ha.2]

theorem findOp_some {s : Str} {i : Nat} (h : findOp s = some i) :
    i < s.length ∧ ∃ x r, s.drop i = x :: r ∧ isOp x = true := by
  induction s generalizing i with
  | nil => simp [findOp] at h
  | cons c s ih =>
    simp only [findOp, isOpCh_eq] at h
    split at h
    · next hc =>
      cases h
      exact ⟨by simp, c, s, rfl, hc⟩
    · cases hf : findOp s with
      | none => rw [hf] at h; simp at h
      | some j =>
        rw [hf] at h
        simp only [Option.map_some, Option.some.injEq] at h
        subst h
        obtain ⟨h1, x, r, h2, h3⟩ := ih hf
        exact ⟨by simp; omega, x, r, by simpa using h2, h3⟩

theorem findOp_zero_iff {s : Str} : findOp s = some 0 ↔ ∃ x r, s = x :: r ∧ isOp x = true := by
  constructor
  · intro h
    obtain ⟨_, x, r, hd, hx⟩ := findOp_some h
    exact ⟨x, r, hd, hx⟩
  · rintro ⟨x, r, rfl, hx⟩
    simp [findOp, isOpCh_eq, hx]

theorem seq_ok_iff {x y : Out Unit} : (do x; y) = .ok () ↔ x = .ok () ∧ y = .ok () := by
  cases x <;> simp

/-- the test `index == 0 && !part.starts_with('=')` of the clause check -/
theorem firstCharTest_iff (i : Nat) (h : Option Nat) :
    (i == 0 && !(h == some 61)) = true ↔ ¬(i = 0 → h = some 61) := by
  simp

theorem validateClause_ok_iff (c : Str) :
    validateClause c = .ok () ↔
      ∃ i, findOp c = some i ∧ (i = 0 → c.head? = some 61) ∧
        validateCapset (c.take i) = .ok () ∧ validateSuffix (c.drop i) = .ok () := by
  unfold validateClause
  cases findOp c with
  | none => simp
  | some i =>
    simp only [Option.some.injEq, exists_eq_left']
    split
    · next h =>
      rw [firstCharTest_iff] at h
      exact iff_of_false nofun fun h' => h h'.1
    · next h =>
      rw [firstCharTest_iff, Classical.not_not] at h
      rw [seq_ok_iff]
      exact (and_iff_right h).symm

theorem clause_iff (rd : Reading) (c : Str) :
    clause rd c = true ↔ ∃ k, k ≤ c.length ∧ clauseAt rd c k = true := by
  simp only [clause, List.any_eq_true, List.mem_range, Nat.lt_succ_iff]

/-- The grammar does not say where a clause is cut, but there is only one place: no operator occurs in a name list and the
groups start with one, so the cut is at the first operator — where `find` puts it. -/
theorem clauseAt_findOp {rd : Reading} {c : Str} {k : Nat} (h : clauseAt rd c k = true) : findOp c = some k := by
  rw [clauseAt, Bool.and_eq_true] at h
  obtain ⟨x, r, hd, hx, _⟩ := groups_none_head h.1
  have hk : k < c.length := by
    have := congrArg List.length hd
    rw [List.length_drop, List.length_cons] at this; omega
  have hnoop : (c.take k).all (fun ch => !isOp ch) = true := by
    by_cases hk0 : k = 0
    · simp [hk0]
    · exact nameList_no_op (by simpa [hk0] using h.2)
  have := findOp_append (c.take k) x r hnoop hx
  rwa [← hd, List.take_append_drop, List.length_take, Nat.min_eq_left (Nat.le_of_lt hk)] at this

theorem clause_iff_findOp (rd : Reading) (c : Str) :
    clause rd c = true ↔ ∃ i, findOp c = some i ∧ clauseAt rd c i = true := by
  rw [clause_iff]
  exact ⟨fun ⟨k, _, h⟩ => ⟨k, clauseAt_findOp h, h⟩, fun ⟨i, hf, h⟩ => ⟨i, Nat.le_of_lt (findOp_some hf).1, h⟩⟩

theorem validateClause_ok_iff_clause (c : Str) : validateClause c = .ok () ↔ clause codeReading c = true := by
  rw [validateClause_ok_iff, clause_iff_findOp]
  refine exists_congr fun i => and_congr_right fun hf => ?_
  obtain ⟨hlt, x, r, hd, hx⟩ := findOp_some hf
  rw [clauseAt, Bool.and_eq_true, hd, validateSuffix_ok_iff r hx, validateCapset_ok_iff]
  by_cases hi : i = 0
  · simp [hi, and_comm]
  · have : c.take i ≠ [] := fun e => by
      rcases List.take_eq_nil_iff.mp e with h | h
      · exact hi h
      · rw [h] at hlt; cases hlt
    simp [hi, this, and_comm]

theorem validateClause_not_panic (c : Str) : (validateClause c).isPanic = false := by
  unfold validateClause
  cases hf : findOp c with
  | none => rfl
  | some i =>
    simp only
    split
    · rfl
    · apply Out.bind_not_panic (validateCapset_not_panic _)
      intro _ _
      obtain ⟨_, x, r, hd, hx⟩ := findOp_some hf
      rw [hd, validateSuffix_cons_op r hx]
      exact suffixLoop_some_not_panic r x

theorem clauseLoop_ok_iff (ps : List Str) :
    clauseLoop ps = .ok () ↔ ∀ p ∈ ps, validateClause p = .ok () := by
  induction ps with
  | nil => simp [clauseLoop]
  | cons p ps ih => rw [clauseLoop, seq_ok_iff, ih, List.forall_mem_cons]

theorem clauseLoop_not_panic (ps : List Str) : (clauseLoop ps).isPanic = false := by
  induction ps with
  | nil => rfl
  | cons p ps ih =>
    simp only [clauseLoop]
    exact Out.bind_not_panic (validateClause_not_panic p) (fun _ _ => ih)

theorem validateCapsText_ok_iff (s : Str) :
    validateCapsText s = .ok () ↔ words s ≠ [] ∧ ∀ c ∈ words s, validateClause c = .ok () := by
  unfold validateCapsText
  rw [splitWhitespace_eq_words, words_trim]
  by_cases h : (trim s).isEmpty = true
  · simp [h, (trim_isEmpty_iff s).mp h]
  · have hw : words s ≠ [] := fun hw => h ((trim_isEmpty_iff s).mpr hw)
    simp [h, hw, clauseLoop_ok_iff]

theorem wf_iff (rd : Reading) (s : Str) :
    wf rd s = true ↔ words s ≠ [] ∧ ∀ c ∈ words s, clause rd c = true := by
  simp [wf]

theorem groups_mono {a b : Reading} (hab : Reading.le a b) (st : Option Nat) (s : Str) :
    groups a st s = true → groups b st s = true := by
  fun_induction groups a st s with
  | case1 => exact id
  | case2 n => simp only [groups, Bool.or_eq_true]; exact Or.imp_left hab.1
  | case3 c s ih => simp only [groups, Bool.and_eq_true]; exact And.imp_right ih
  | case4 n c s hf ih => simp only [groups, hf, if_true]; exact ih
  | case5 n c s hf ih => simp only [groups, hf, Bool.false_eq_true, if_false, Bool.and_eq_true]; exact And.imp_right ih

theorem nameList_mono {a b : Reading} (hab : Reading.le a b) {n : Str} (h : nameList a n = true) :
    nameList b n = true := by
  rw [nameList, Bool.or_eq_true, List.all_eq_true] at h ⊢
  refine h.imp_right fun h f hf => ?_
  have := h f hf
  rw [Bool.or_eq_true, Bool.and_eq_true] at this ⊢
  exact this.imp_right (And.imp_left hab.2)

theorem clause_mono {a b : Reading} (hab : Reading.le a b) {c : Str} (h : clause a c = true) :
    clause b c = true := by
  rw [clause_iff] at h ⊢
  obtain ⟨k, hk, hat⟩ := h
  refine ⟨k, hk, ?_⟩
  rw [clauseAt, Bool.and_eq_true] at hat ⊢
  refine ⟨groups_mono hab _ _ hat.1, ?_⟩
  by_cases hk0 : k = 0
  · simpa [hk0] using hat.2
  · simp only [hk0, if_false] at hat ⊢; exact nameList_mono hab hat.2

theorem wf_mono {a b : Reading} (hab : Reading.le a b) {s : Str} (h : wf a s = true) : wf b s = true := by
  rw [wf_iff] at h ⊢
  exact ⟨h.1, fun c hc => clause_mono hab (h.2 c hc)⟩

theorem demand_mustAccept_iff (s : Str) : demand s = .mustAccept ↔ WellFormed s := by
  unfold demand; split
  · next h => exact iff_of_true rfl h
  · next h => split <;> exact iff_of_false (fun e => nomatch e) h

theorem demand_mustReject_iff (s : Str) : demand s = .mustReject ↔ ¬ Admissible s := by
  unfold demand; split
  · next h => exact iff_of_false (fun e => nomatch e) (fun hn => hn (wf_mono strict_le_lenient h.1))
  · split
    · next h => exact iff_of_false (fun e => nomatch e) (not_not_intro h)
    · next h => exact iff_of_true rfl h

theorem validateCapsText_ok_iff_wf (s : Str) : validateCapsText s = .ok () ↔ wf codeReading s = true := by
  simp only [validateCapsText_ok_iff, wf_iff, validateClause_ok_iff_clause]

theorem getLast?_cons_of {P : Nat → Prop} {c : Nat} {s : Str}
    (h : (∃ x, s.getLast? = some x ∧ P x) ∨ (s = [] ∧ P c)) : ∃ x, (c :: s).getLast? = some x ∧ P x := by
  rcases h with ⟨x, hx, hp⟩ | ⟨rfl, hp⟩
  · cases s with
    | nil => simp at hx
    | cons y r => exact ⟨x, by rw [List.getLast?_cons_cons]; exact hx, hp⟩
  · exact ⟨c, rfl, hp⟩

theorem groups_gap (st : Option Nat) (s : Str) : groups lenient st s = true → groups strict st s = false →
    EndsWithOp s ∨ (s = [] ∧ st = some 0) := by
  fun_induction groups lenient st s with
  | case1 => intro h; cases h
  | case2 n =>
    intro _ hs
    simp only [groups, strict, Bool.false_or, decide_eq_false_iff_not] at hs
    exact .inr ⟨rfl, by congr 1; omega⟩
  | case3 c s ih =>
    rw [Bool.and_eq_true]; rintro ⟨hc, hl⟩ hs
    simp only [groups, hc, Bool.true_and] at hs
    exact .inl (getLast?_cons_of ((ih hl hs).imp_right fun h => ⟨h.1, hc⟩))
  | case4 n c s hf ih =>
    intro hl hs
    simp only [groups, hf, if_true] at hs
    exact .inl (getLast?_cons_of ((ih hl hs).imp_right fun h => absurd h.2 (by simp)))
  | case5 n c s hf ih =>
    simp only [Bool.and_eq_true]; rintro ⟨⟨hc, hn⟩, hl⟩ hs
    simp only [groups, hf, Bool.false_eq_true, if_false, hc, hn, Bool.true_and] at hs
    exact .inl (getLast?_cons_of ((ih hl hs).imp_right fun h => ⟨h.1, hc⟩))

theorem fields_singleton (p : Nat → Bool) (s f : Str) (h : fields p s = [f]) : s = f := by
  induction s generalizing f with
  | nil => exact (List.cons.inj h).1
  | cons c r ih =>
    cases hc : p c
    · obtain ⟨g, gs, hg, e⟩ := fields_cons_not r hc
      rw [e] at h
      obtain ⟨rfl, rfl⟩ := List.cons.inj h
      rw [ih g hg]
    · rw [fields_cons_sep r hc] at h
      exact absurd (List.cons.inj h).2 (fields_ne_nil p r)

theorem nameList_gap {n : Str} (hl : nameList lenient n = true) (hs : nameList strict n = false) :
    2 ≤ (fields (· == 44) n).length ∧ ∃ f ∈ fields (· == 44) n, isAll f = true := by
  rw [nameList, Bool.or_eq_false_iff] at hs
  rw [nameList, hs.1, Bool.false_or] at hl
  obtain ⟨f, hfm, hfk⟩ := List.all_eq_false.mp hs.2
  have hfa : isAll f = true := by
    have := List.all_eq_true.mp hl f hfm
    simp only [strict, Bool.false_and, Bool.or_false, Bool.not_eq_true] at hfk
    simpa [hfk, lenient] using this
  refine ⟨?_, f, hfm, hfa⟩
  cases hfs : fields (· == 44) n with
  | nil => exact absurd hfs (fields_ne_nil _ _)
  | cons g gs =>
    cases gs with
    | nil =>
      -- a single field is the whole list, which is not `all`
      rw [hfs, List.mem_singleton] at hfm
      rw [fields_singleton _ _ _ hfs, ← hfm, hfa] at hs
      cases hs.1
    | cons _ _ => simp

theorem clause_gap {c : Str} (hl : clause lenient c = true) (hs : clause strict c = false) :
    EndsWithOp c ∨ AllInList c := by
  obtain ⟨k, hk, hat⟩ := (clause_iff lenient c).mp hl
  have hnot : clauseAt strict c k = false := Bool.eq_false_iff.mpr fun h => by
    rw [(clause_iff strict c).mpr ⟨k, hk, h⟩] at hs; cases hs
  rw [clauseAt, Bool.and_eq_true] at hat
  rw [clauseAt, Bool.and_eq_false_iff] at hnot
  rcases hnot with hg | hn
  · left
    rcases groups_gap none _ hat.1 hg with ⟨x, hx, hop⟩ | ⟨_, hst⟩
    · rw [List.getLast?_drop] at hx
      split at hx
      · cases hx
      · exact ⟨x, hx, hop⟩
    · cases hst
  · right
    by_cases hk0 : k = 0
    · simp only [hk0, if_true] at hn hat
      rw [hat.2] at hn; cases hn
    · simp only [hk0, if_false] at hn hat
      exact ⟨k, nameList_gap hat.2 hn⟩

theorem isOp_ascii {a : Nat} (h : isOp a = true) : a < 128 := by rw [isOp_iff] at h; omega
theorem isFlag_ascii {a : Nat} (h : isFlag a = true) : a < 128 := by rw [isFlag_iff] at h; omega

theorem groups_ascii (rd : Reading) (st : Option Nat) (s : Str) : groups rd st s = true → ∀ a ∈ s, a < 128 := by
  fun_induction groups rd st s with
  | case1 => exact fun _ _ h => nomatch h
  | case2 n => exact fun _ _ h => nomatch h
  | case3 c s ih =>
    rw [Bool.and_eq_true]
    exact fun ⟨h1, h2⟩ => List.forall_mem_cons.mpr ⟨isOp_ascii h1, ih h2⟩
  | case4 n c s hf ih => exact fun h => List.forall_mem_cons.mpr ⟨isFlag_ascii hf, ih h⟩
  | case5 n c s hf ih =>
    simp only [Bool.and_eq_true]
    exact fun ⟨⟨h1, _⟩, h2⟩ => List.forall_mem_cons.mpr ⟨isOp_ascii h1, ih h2⟩

theorem clause_ascii {rd : Reading} {c : Str} (h : clause rd c = true) : ∀ a ∈ c, a < 128 := by
  obtain ⟨k, hk, hat⟩ := (clause_iff rd c).mp h
  rw [clauseAt, Bool.and_eq_true] at hat
  intro a ha
  rw [← List.take_append_drop k c, List.mem_append] at ha
  rcases ha with ha | ha
  · by_cases hk0 : k = 0
    · simp [hk0] at ha
    · have h2 := hat.2
      simp only [hk0, if_false] at h2
      have := nameList_char h2 ha
      omega
  · exact groups_ascii rd none _ hat.1 a ha

theorem not_wf_of_nonascii {rd : Reading} {s c : Str} (hc : c ∈ words s) {x : Nat} (hx : x ∈ c) (h128 : 128 ≤ x) :
    wf rd s = false := by
  cases h : wf rd s
  · rfl
  · have := clause_ascii (((wf_iff rd s).mp h).2 c hc) x hx
    omega

theorem capsetLoopWith_ascii (ps : List Str) :
    capsetLoopWith (fun c => [toAsciiUpper c]) ps = capsetLoop ps := by
  induction ps with
  | nil => rfl
  | cons p ps ih => simp only [capsetLoopWith, capsetLoop, ← List.map_eq_flatMap, ih]

theorem validateClauseWith_ascii (c : Str) :
    validateClauseWith (fun c => [toAsciiUpper c]) c = validateClause c := by
  simp only [validateClauseWith, validateClause, validateCapsetWith, validateCapset, capsetLoopWith_ascii]

theorem clauseLoopWith_ascii (ps : List Str) :
    clauseLoopWith (fun c => [toAsciiUpper c]) ps = clauseLoop ps := by
  induction ps with
  | nil => rfl
  | cons p ps ih => simp only [clauseLoopWith, clauseLoop, validateClauseWith_ascii, ih]

theorem validateCapsTextWith_ascii (s : Str) :
    validateCapsTextWith (fun c => [toAsciiUpper c]) s = validateCapsText s := by
  simp only [validateCapsTextWith, validateCapsText, clauseLoopWith_ascii]

end RpmVerif.FileCaps
