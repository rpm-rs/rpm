import RpmVerif.Lemmas.FileIter
import RpmVerif.Lemmas.PkgFiles
/-!
The cpio reader on a stream that stops early: `decompress_stream` hands `FileIterator` a lazy reader (GzDecoder, zstd / xz /
bzip2 decoders), and a damaged compressed payload yields the bytes decoded so far and then an `Err` or a premature end.
Every reading step that succeeds on a stream succeeds with the same value on every extension of it (`Frame`); hence a
damaged stream gives some of the right items and then an error, never a wrong item (`okPrefix_iterateE_append`), and
damage behind the cpio trailer — a missing gzip CRC trailer, say — is never looked at (`iterateE_append_clean`).
-/
namespace RpmVerif.FileIter
open RpmVerif.Cpio RpmVerif.Gen RpmVerif.PkgFiles

/-- a reader that, whenever it succeeds, succeeds with the same value on any longer stream (and leaves the extra bytes) -/
def Frame {α} (m : Rd α) : Prop := ∀ (bs t : Bytes) (a : α) (r : Bytes), m bs = (.ok a, r) → m (bs ++ t) = (.ok a, r ++ t)

theorem Frame.pure {α} (a : α) : Frame (pure a : Rd α) := by
  intro bs t a' r h
  change (Out.ok a, bs) = (Out.ok a', r) at h
  obtain ⟨h1, h2⟩ := Prod.mk.inj h
  cases h1; subst h2; rfl

theorem Frame.fail {α} (c : String) : Frame (Rd.fail c : Rd α) := by
  intro bs t a r h
  change (Out.err c, bs) = (Out.ok a, r) at h
  cases (Prod.mk.inj h).1

theorem Frame.exact (n : Nat) : Frame (exact n) := by
  intro bs t a r h
  unfold FileIter.exact at h ⊢
  split at h
  · rename_i hn
    obtain ⟨h1, h2⟩ := Prod.mk.inj h
    cases h1; subst h2
    have : n ≤ (bs ++ t).length := by simp; omega
    rw [if_pos this, List.take_append_of_le_length hn, List.drop_append_of_le_length hn]
  · cases (Prod.mk.inj h).1

theorem Frame.bind {α β} {m : Rd α} {f : α → Rd β} (hm : Frame m) (hf : ∀ a, Frame (f a)) : Frame (m >>= f) := by
  intro bs t b r h
  change Rd.bind m f bs = _ at h
  change Rd.bind m f (bs ++ t) = _
  unfold Rd.bind at h ⊢
  rcases hmb : m bs with ⟨o, r1⟩
  rw [hmb] at h
  cases o with
  | ok a =>
    rw [hm bs t a r1 hmb]
    exact hf a r1 t b r h
  | err c => cases (Prod.mk.inj h).1
  | panic s => cases (Prod.mk.inj h).1

theorem Frame.hex8 : Frame hex8 := by
  unfold FileIter.hex8
  refine Frame.bind (Frame.exact 8) (fun f => ?_)
  cases parseHex8 f with
  | none => exact Frame.fail _
  | some n => exact Frame.pure n

theorem readerNewS_frame (sizes : List Nat) : Frame (readerNewS sizes) := by
  unfold readerNewS
  refine Frame.bind (Frame.exact 6) (fun magic => ?_)
  split
  · repeat (refine Frame.bind Frame.hex8 (fun _ => ?_))
    split
    · exact Frame.fail _
    refine Frame.bind (Frame.exact _) (fun nameBytes => ?_)
    split
    · exact Frame.fail _
    dsimp only
    split
    · exact Frame.fail _
    refine Frame.bind (Frame.exact _) (fun _ => ?_)
    exact Frame.pure _
  · split
    · refine Frame.bind Frame.hex8 (fun idx => ?_)
      refine Frame.bind (Frame.exact _) (fun _ => ?_)
      split
      · exact Frame.pure _
      · split
        · exact Frame.pure _
        · exact Frame.fail _
    · exact Frame.fail _

theorem readerNew_append {sizes : List Nat} {bs : Bytes} {e : PayloadEntry} {fs : Nat} {r : Bytes}
    (h : readerNew sizes bs = .ok (e, fs, r)) (t : Bytes) : readerNew sizes (bs ++ t) = .ok (e, fs, r ++ t) := by
  rw [← readerNewS_out] at h ⊢
  unfold out3 at h ⊢
  rcases hS : readerNewS sizes bs with ⟨o, r1⟩
  rw [hS] at h
  cases o with
  | ok x =>
    obtain ⟨e', fs'⟩ := x
    simp only [Out.ok.injEq, Prod.mk.injEq] at h
    obtain ⟨rfl, rfl, rfl⟩ := h
    rw [readerNewS_frame sizes bs t _ _ hS]
  | err c => cases h
  | panic s => cases h

theorem readData_append_ok {fs : Nat} {r c r' : Bytes} (h : readData fs r = .ok (c, r')) (t : Bytes) :
    readData fs (r ++ t) = .ok (c, r' ++ t) := by
  unfold readData at h ⊢
  simp only at h
  split at h
  · cases h
  · rename_i hlen
    simp only [Out.bind_eq_ok, Prod.exists, Out.pure_eq, Out.ok.injEq, Prod.mk.injEq] at h
    obtain ⟨x, r2, htk, rfl, rfl⟩ := h
    have hfs : fs ≤ r.length := by
      simp only [List.length_take, Nat.not_lt] at hlen
      omega
    have h1 : (r ++ t).take fs = r.take fs := List.take_append_of_le_length hfs
    have h2 : (r ++ t).drop fs = r.drop fs ++ t := List.drop_append_of_le_length hfs
    rw [h1, h2, if_neg hlen]
    unfold takeN at htk ⊢
    split at htk
    · rename_i hp
      simp only [Out.ok.injEq, Prod.mk.injEq] at htk
      obtain ⟨rfl, rfl⟩ := htk
      have hp' : padLen fs ≤ (r.drop fs ++ t).length := by simp at hp ⊢; omega
      rw [if_pos hp']
      simp only [Out.bind_ok, Out.pure_eq, Out.ok.injEq, Prod.mk.injEq, true_and]
      exact List.drop_append_of_le_length hp
    · cases htk

theorem iterateE_succ_append (paths : List Bytes) (sizes : List Nat) (fuel : Nat) (bs t : Bytes) :
    (∃ o, iterateE paths sizes (fuel + 1) bs = [o] ∧ o.isOk = false)
    ∨ (iterateE paths sizes (fuel + 1) bs = [] ∧ iterateE paths sizes (fuel + 1) (bs ++ t) = [])
    ∨ ∃ x r', iterateE paths sizes (fuel + 1) bs = .ok x :: iterateE paths sizes fuel r'
        ∧ iterateE paths sizes (fuel + 1) (bs ++ t) = .ok x :: iterateE paths sizes fuel (r' ++ t) := by
  rw [iterateE, iterateE]
  cases hr : readerNew sizes bs with
  | err c => exact .inl ⟨_, rfl, rfl⟩
  | panic s => exact .inl ⟨_, rfl, rfl⟩
  | ok x =>
    obtain ⟨e, fs, r⟩ := x
    rw [readerNew_append hr t]
    dsimp only
    split
    · exact .inr (.inl ⟨rfl, rfl⟩)
    · cases fileIndex paths e with
      | none => exact .inl ⟨_, rfl, rfl⟩
      | some i =>
        dsimp only
        cases hd : readData fs r with
        | err c => exact .inl ⟨_, rfl, rfl⟩
        | panic s => exact .inl ⟨_, rfl, rfl⟩
        | ok y => rw [readData_append_ok hd t]; exact .inr (.inr ⟨_, _, rfl, rfl⟩)

/-- **the items before the first error do not depend on what follows the bytes read**: every `Ok` item of the iteration
over `bs`, preceded by `Ok` items only, is the item at the same position of the iteration over `bs ++ t` -/
theorem okPrefix_iterateE_append (paths : List Bytes) (sizes : List Nat) : ∀ (fuel : Nat) (bs t : Bytes),
    okPrefix (iterateE paths sizes fuel bs) <+: okPrefix (iterateE paths sizes fuel (bs ++ t)) := by
  intro fuel
  induction fuel with
  | zero => intro bs t; exact List.prefix_refl _
  | succ fuel ih =>
    intro bs t
    rcases iterateE_succ_append paths sizes fuel bs t with ⟨o, h, ho⟩ | ⟨h, h'⟩ | ⟨x, r', h, h'⟩
    · rw [h]
      cases o with
      | ok a => cases ho
      | err c => exact List.nil_prefix
      | panic s => exact List.nil_prefix
    · rw [h, h']; exact List.prefix_refl _
    · rw [h, h']; exact (List.prefix_cons_inj _).mpr (ih r' t)

/-- **a trailer inside the prefix ends the iteration for good**: when the iteration over `bs` hands out no error item (it
met the trailer, or made its `fuel` steps), the
iteration over any extension `bs ++ t` is the very same list — what follows (more bytes, or the decoder's failure) is never read -/
theorem iterateE_append_clean (paths : List Bytes) (sizes : List Nat) : ∀ (fuel : Nat) (bs t : Bytes),
    (∀ o ∈ iterateE paths sizes fuel bs, o.isOk = true) →
    iterateE paths sizes fuel (bs ++ t) = iterateE paths sizes fuel bs := by
  intro fuel
  induction fuel with
  | zero => intro bs t _; rfl
  | succ fuel ih =>
    intro bs t hall
    rcases iterateE_succ_append paths sizes fuel bs t with ⟨o, h, ho⟩ | ⟨h, h'⟩ | ⟨x, r', h, h'⟩
    · rw [h] at hall
      exact absurd (hall o List.mem_cons_self) (by rw [ho]; decide)
    · rw [h, h']
    · rw [h] at hall
      rw [h, h', ih r' t fun o ho => hall o (List.mem_cons_of_mem _ ho)]

end RpmVerif.FileIter
