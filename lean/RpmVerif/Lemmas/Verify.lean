import RpmVerif.Model.Verify
import RpmVerif.Lemmas.Digest
/-!
Lemmas for C02. `verify_signature` is: digests, then a PLAN of steps read off the signature header (`sigPlan`: which
signatures, in which order, each header-only or header+payload; `none` = an entry that does not base64-decode; the empty
plan = `NoSignatureFound`; it depends on neither the main header nor the payload), run by ONE loop until the first failure
(`runSteps`; `verifySignatureS_eq`). The facts about the log are facts about that loop. The statements of Props/C02 are
written in the vocabulary defined here: `PlanStep`, `dataFor`, `sigPlan`, `runSteps`, `okConsult`, `Faithful`, `echoOf`.
-/
namespace RpmVerif.Verify
open RpmVerif.Hdr RpmVerif.Gen RpmVerif.Digest

/-- a step of the plan: signature bytes and whether it is the legacy header+payload one; `none` = undecodable entry -/
abbrev PlanStep := Option (Bytes × Bool)

def dataFor (hdr content : Bytes) (pgp : Bool) : Bytes := if pgp then hdr ++ content else hdr

/-- `if let Ok(sig) = tag { .. }` as a (possibly empty) piece of the plan -/
def legacyStep (g : Out Bytes) (pgp : Bool) : List PlanStep :=
  match g with
  | .ok s => [some (s, pgp)]
  | _ => []

/-- the `else` branch: whichever of DSA, RSA (header-only) and PGP (header+payload) can be read, in the order they are presented -/
def legacyPlan (sig : Header) : List PlanStep :=
  legacyStep (getBinary sig SigTag.RPMSIGTAG_DSA) false ++ legacyStep (getBinary sig SigTag.RPMSIGTAG_RSA) false ++
    legacyStep (getBinary sig SigTag.RPMSIGTAG_PGP) true

/-- which signatures `verify_signature` will present, in order; the empty plan is `NoSignatureFound` -/
def sigPlan (b64 : Bytes → Option Bytes) (sig : Header) : List PlanStep :=
  match getStringArray sig SigTag.RPMSIGTAG_OPENPGP with
  | .ok sigs => sigs.map fun s => (b64 s).map fun x => (x, false)
  | _ => legacyPlan sig

def runSteps (v : Verifier) (hdr content : Bytes) (pre : List Consult) : List PlanStep → Out Unit × List Consult
  | [] => (.ok (), pre)
  | none :: _ => (.err "base64", pre)
  | some (sig, pgp) :: rest =>
    if v pre (dataFor hdr content pgp) sig then
      runSteps v hdr content (pre ++ [⟨dataFor hdr content pgp, sig, true, pgp⟩]) rest
    else (.err "verify", pre ++ [⟨dataFor hdr content pgp, sig, false, pgp⟩])

theorem openpgpLoop_eq (b64 : Bytes → Option Bytes) (v : Verifier) (hdr content : Bytes) (pre : List Consult)
    (sigs : List Bytes) :
    openpgpLoop b64 v hdr pre sigs = runSteps v hdr content pre (sigs.map fun s => (b64 s).map fun x => (x, false)) := by
  induction sigs generalizing pre with
  | nil => rfl
  | cons s rest ih =>
    simp only [openpgpLoop, List.map_cons]
    cases hb : b64 s with
    | none => simp [runSteps]
    | some x =>
      simp only [Option.map_some, runSteps, dataFor, Bool.false_eq_true, if_false]
      cases hv : v pre hdr x
      · simp
      · simp only [if_true]; exact ih _

theorem runConsults_eq (v : Verifier) (hdr content : Bytes) (pre : List Consult) (l : List (Bytes × Bytes × Bool))
    (hl : ∀ x ∈ l, x.1 = dataFor hdr content x.2.2) :
    runConsults v pre l = runSteps v hdr content pre (l.map fun (_, s, g) => some (s, g)) := by
  induction l generalizing pre with
  | nil => rfl
  | cons x rest ih =>
    obtain ⟨d, s, g⟩ := x
    have hd : d = dataFor hdr content g := hl (d, s, g) List.mem_cons_self
    subst hd
    simp only [runConsults, List.map_cons, runSteps]
    cases hv : v pre (dataFor hdr content g) s
    · simp
    · simp only [if_true]
      exact ih _ (fun y hy => hl y (List.mem_cons_of_mem _ hy))

theorem stepOf_data (g : Out Bytes) (hdr content : Bytes) (pgp : Bool) :
    ∀ x ∈ stepOf g (dataFor hdr content pgp) pgp, x.1 = dataFor hdr content x.2.2 := by
  cases g with
  | ok s => intro x hx; rw [List.mem_singleton.mp hx]
  | err c => nofun
  | panic c => nofun

theorem stepOf_map (g : Out Bytes) (d : Bytes) (pgp : Bool) :
    (stepOf g d pgp).map (fun (_, s, q) => (some (s, q) : PlanStep)) = legacyStep g pgp := by
  cases g <;> rfl

theorem legacyStep_eq_nil {g : Out Bytes} {pgp : Bool} : legacyStep g pgp = [] ↔ g.isOk = false := by
  cases g <;> simp [legacyStep, Out.isOk]

theorem mem_legacyStep {g : Out Bytes} {pgp q : Bool} {s : Bytes} :
    some (s, q) ∈ legacyStep g pgp ↔ g = .ok s ∧ q = pgp := by
  cases g <;> simp [legacyStep, eq_comm]

theorem legacy_eq (v : Verifier) (hdr content : Bytes) (sig : Header) :
    legacy v hdr content sig =
      if legacyPlan sig = [] then (.err "nosig", []) else runSteps v hdr content [] (legacyPlan sig) := by
  have hc : ∀ a b c : Bool, (!a && !b && !c) = true ↔ (b = false ∧ a = false) ∧ c = false := by decide
  have hdata := runConsults_eq v hdr content []
    (stepOf (getBinary sig SigTag.RPMSIGTAG_DSA) (dataFor hdr content false) false ++
      stepOf (getBinary sig SigTag.RPMSIGTAG_RSA) (dataFor hdr content false) false ++
      stepOf (getBinary sig SigTag.RPMSIGTAG_PGP) (dataFor hdr content true) true)
    (List.forall_mem_append.mpr ⟨List.forall_mem_append.mpr ⟨stepOf_data _ _ _ _, stepOf_data _ _ _ _⟩, stepOf_data _ _ _ _⟩)
  simp only [List.map_append, stepOf_map] at hdata
  simp only [legacy, legacyPlan, List.append_eq_nil_iff, legacyStep_eq_nil, hc]
  split
  · rfl
  · exact hdata

/-- **`verify_signature` = digests, then the plan run until the first failure** -/
theorem verifySignatureS_eq (md5 sha1 sha256 : Bytes → Bytes) (b64 : Bytes → Option Bytes) (v : Verifier) (p : Package) :
    verifySignatureS md5 sha1 sha256 b64 v p =
      match verifyDigests md5 sha1 sha256 p with
      | .err c => (.err c, [])
      | .panic s => (.panic s, [])
      | .ok _ =>
        if sigPlan b64 p.md.signature = [] then (.err "nosig", [])
        else runSteps v (writeHeader p.md.header) p.content [] (sigPlan b64 p.md.signature) := by
  unfold verifySignatureS sigPlan
  cases verifyDigests md5 sha1 sha256 p with
  | err c => rfl
  | panic s => rfl
  | ok u =>
    simp only
    cases hg : getStringArray p.md.signature SigTag.RPMSIGTAG_OPENPGP with
    | ok sigs =>
      cases sigs with
      | nil => rfl
      | cons s rest =>
        simp only [List.map_cons]
        rw [if_neg (List.cons_ne_nil _ _)]
        exact openpgpLoop_eq b64 v _ p.content [] (s :: rest)
    | err c => exact legacy_eq v _ _ _
    | panic s => exact legacy_eq v _ _ _

theorem sigPlan_openpgp (b64 : Bytes → Option Bytes) {sig : Header} {sigs : List Bytes}
    (hg : getStringArray sig SigTag.RPMSIGTAG_OPENPGP = .ok sigs) :
    sigPlan b64 sig = sigs.map fun s => (b64 s).map fun x => (x, false) := by
  unfold sigPlan; rw [hg]

theorem sigPlan_legacy (b64 : Bytes → Option Bytes) {sig : Header}
    (hno : ∀ l, getStringArray sig SigTag.RPMSIGTAG_OPENPGP ≠ .ok l) : sigPlan b64 sig = legacyPlan sig := by
  unfold sigPlan
  split
  · rename_i sigs hg; exact absurd hg (hno sigs)
  · rfl

theorem mem_sigPlan {b64 : Bytes → Option Bytes} {sig : Header} {s : Bytes} {g : Bool} :
    some (s, g) ∈ sigPlan b64 sig ↔
      (∃ sigs t, getStringArray sig SigTag.RPMSIGTAG_OPENPGP = .ok sigs ∧ t ∈ sigs ∧ b64 t = some s ∧ g = false) ∨
      ((∀ l, getStringArray sig SigTag.RPMSIGTAG_OPENPGP ≠ .ok l) ∧
        ((getBinary sig SigTag.RPMSIGTAG_DSA = .ok s ∧ g = false) ∨ (getBinary sig SigTag.RPMSIGTAG_RSA = .ok s ∧ g = false) ∨
          (getBinary sig SigTag.RPMSIGTAG_PGP = .ok s ∧ g = true))) := by
  unfold sigPlan
  split
  · rename_i sigs hg
    constructor
    · intro h
      obtain ⟨t, ht, hm⟩ := List.mem_map.mp h
      obtain ⟨x, hx, he⟩ := Option.map_eq_some_iff.mp hm
      cases he
      exact .inl ⟨sigs, t, hg, ht, hx, rfl⟩
    · rintro (⟨sigs', t, hg', ht, hx, rfl⟩ | ⟨hno, _⟩)
      · cases hg.symm.trans hg'
        exact List.mem_map.mpr ⟨t, ht, by rw [hx]; rfl⟩
      · exact absurd hg (hno sigs)
  · rename_i hno
    simp only [legacyPlan, List.mem_append, mem_legacyStep, or_assoc]
    constructor
    · intro h; exact .inr ⟨fun l hl => hno l hl, h⟩
    · rintro (⟨sigs, _, hg, _⟩ | ⟨_, h⟩)
      · exact absurd hg (hno sigs)
      · exact h

def AllAcc (l : List Consult) : Prop := ∀ c ∈ l, c.accepted = true

theorem AllAcc.snoc {l : List Consult} {c : Consult} (hl : AllAcc l) (hc : c.accepted = true) : AllAcc (l ++ [c]) := by
  intro x hx
  rcases List.mem_append.mp hx with hx | hx
  · exact hl x hx
  · rw [List.mem_singleton.mp hx, hc]

/-- every logged verdict is what the verifier said, given the consults before it -/
inductive Faithful (v : Verifier) : List Consult → Prop where
  | nil : Faithful v []
  | snoc {l : List Consult} {c : Consult} : Faithful v l → c.accepted = v l c.data c.sig → Faithful v (l ++ [c])

theorem Faithful.call {v : Verifier} {l : List Consult} (h : Faithful v l) :
    ∀ c ∈ l, ∃ pre, c.accepted = v pre c.data c.sig := by
  induction h with
  | nil => intro c hc; cases hc
  | snoc _ hc ih =>
    intro c hm
    simp only [List.mem_append, List.mem_singleton] at hm
    rcases hm with hm | rfl
    · exact ih c hm
    · exact ⟨_, hc⟩

theorem runSteps_faithful (v : Verifier) (hdr content : Bytes) (pre : List Consult) (plan : List PlanStep)
    (hp : Faithful v pre) : Faithful v (runSteps v hdr content pre plan).2 := by
  fun_induction runSteps v hdr content pre plan with
  | case1 => exact hp
  | case2 => exact hp
  | case3 pre sig pgp rest hv ih => exact ih (.snoc hp hv.symm)
  | case4 pre sig pgp rest hv => exact .snoc hp (Bool.eq_false_iff.mpr hv).symm

theorem runSteps_not_panic (v : Verifier) (hdr content : Bytes) (pre : List Consult) (plan : List PlanStep) :
    (runSteps v hdr content pre plan).1.isPanic = false := by
  fun_induction runSteps v hdr content pre plan with
  | case1 => rfl
  | case2 => rfl
  | case3 _ _ _ _ _ ih => exact ih
  | case4 => rfl

theorem runSteps_shape (v : Verifier) (hdr content : Bytes) (pre : List Consult) (plan : List PlanStep)
    (hp : AllAcc pre) :
    AllAcc (runSteps v hdr content pre plan).2 ∨
      ∃ init c, (runSteps v hdr content pre plan).2 = init ++ [c] ∧ AllAcc init ∧ c.accepted = false ∧
        (runSteps v hdr content pre plan).1 = .err "verify" := by
  fun_induction runSteps v hdr content pre plan with
  | case1 => exact .inl hp
  | case2 => exact .inl hp
  | case3 pre sig pgp rest hv ih => exact ih (hp.snoc rfl)
  | case4 pre sig pgp rest hv => exact .inr ⟨pre, _, rfl, hp, rfl, rfl⟩

/-- the consult a plan step produces when accepted -/
def okConsult (hdr content : Bytes) : PlanStep → List Consult
  | none => []
  | some (sig, pgp) => [⟨dataFor hdr content pgp, sig, true, pgp⟩]

theorem mem_okLog {hdr content : Bytes} {plan : List PlanStep} {c : Consult} :
    c ∈ plan.flatMap (okConsult hdr content) ↔
      ∃ s g, some (s, g) ∈ plan ∧ c = ⟨dataFor hdr content g, s, true, g⟩ := by
  constructor
  · intro h
    obtain ⟨st, hst, hc⟩ := List.mem_flatMap.mp h
    match st, hst, hc with
    | some (s, g), hst, hc => exact ⟨s, g, hst, List.mem_singleton.mp hc⟩
  · rintro ⟨s, g, hm, rfl⟩
    exact List.mem_flatMap.mpr ⟨_, hm, List.mem_singleton.mpr rfl⟩

theorem runSteps_ok (v : Verifier) (hdr content : Bytes) (pre : List Consult) (plan : List PlanStep)
    (h : (runSteps v hdr content pre plan).1 = .ok ()) :
    (runSteps v hdr content pre plan).2 = pre ++ plan.flatMap (okConsult hdr content) ∧ ∀ st ∈ plan, st.isSome = true := by
  fun_induction runSteps v hdr content pre plan with
  | case1 => exact ⟨(List.append_nil _).symm, nofun⟩
  | case2 => cases h
  | case3 pre sig pgp rest hv ih =>
    obtain ⟨h1, h2⟩ := ih h
    refine ⟨by rw [h1, List.append_assoc]; rfl, fun st hst => ?_⟩
    rcases List.mem_cons.mp hst with rfl | hst
    · rfl
    · exact h2 st hst
  | case4 => cases h

theorem runSteps_data (v : Verifier) (hdr content : Bytes) (pre : List Consult) (plan : List PlanStep) :
    ∀ c ∈ (runSteps v hdr content pre plan).2,
      c ∈ pre ∨ (some (c.sig, c.fromPgpTag) ∈ plan ∧ c.data = dataFor hdr content c.fromPgpTag) := by
  have key : ∀ (b : Bool) (pre : List Consult) (sig : Bytes) (pgp : Bool) (rest : List PlanStep) (c : Consult),
      c ∈ pre ++ [⟨dataFor hdr content pgp, sig, b, pgp⟩] →
        c ∈ pre ∨ (some (c.sig, c.fromPgpTag) ∈ (some (sig, pgp) :: rest : List PlanStep) ∧
          c.data = dataFor hdr content c.fromPgpTag) := by
    intro b pre sig pgp rest c hc
    rcases List.mem_append.mp hc with hc | hc
    · exact .inl hc
    · rw [List.mem_singleton.mp hc]; exact .inr ⟨List.mem_cons_self, rfl⟩
  fun_induction runSteps v hdr content pre plan with
  | case1 => exact fun c hc => .inl hc
  | case2 => exact fun c hc => .inl hc
  | case3 pre sig pgp rest hv ih =>
    intro c hc
    rcases ih c hc with h | ⟨h1, h2⟩
    · exact key true pre sig pgp rest c h
    · exact .inr ⟨List.mem_cons_of_mem _ h1, h2⟩
  | case4 pre sig pgp rest hv => exact key false pre sig pgp rest

theorem hexDigitByte_toNat {n : Nat} (h : n < 16) : (hexDigitByte n).toNat = if n < 10 then 48 + n else 87 + n := by
  unfold hexDigitByte
  split <;> simp only [Nat.toUInt8, UInt8.toNat_ofNat'] <;> omega

theorem hexDigitByte_inj {m n : Nat} (hm : m < 16) (hn : n < 16) (h : hexDigitByte m = hexDigitByte n) : m = n := by
  have := congrArg UInt8.toNat h
  rw [hexDigitByte_toNat hm, hexDigitByte_toNat hn] at this
  split at this <;> split at this <;> omega

theorem hexLower_inj {a b : Bytes} (h : hexLower a = hexLower b) : a = b := by
  induction a generalizing b with
  | nil =>
    cases b with
    | nil => rfl
    | cons y ys => simp [hexLower] at h
  | cons x xs ih =>
    cases b with
    | nil => simp [hexLower] at h
    | cons y ys =>
      simp only [hexLower, List.flatMap_cons, List.cons_append, List.nil_append, List.cons.injEq] at h ih
      obtain ⟨h1, h2, h3⟩ := h
      have e1 := hexDigitByte_inj (by have := x.toNat_lt; omega) (by have := y.toNat_lt; omega) h1
      have e2 := hexDigitByte_inj (Nat.mod_lt _ (by decide)) (Nat.mod_lt _ (by decide)) h2
      have : x = y := UInt8.toNat_inj.mp (by rw [← Nat.div_add_mod x.toNat 16, e1, e2, Nat.div_add_mod])
      rw [this, ih h3]

theorem checkDeclared_ok {g : Out Bytes} {c : Bytes} (h : checkDeclared g c = .ok ()) : ∀ d, g = .ok d → d = c := by
  intro d hd
  subst hd
  simp only [checkDeclared] at h
  split at h
  · cases h
  · rename_i hne; simpa using hne

theorem verifyDigests_ok_sha256 {md5 sha1 sha256 : Bytes → Bytes} {p : Package} {d : Bytes}
    (h : verifyDigests md5 sha1 sha256 p = .ok ()) (hd : getString p.md.signature SigTag.RPMSIGTAG_SHA256 = .ok d) :
    d = hexLower (sha256 (writeHeader p.md.header)) := by
  simp only [verifyDigests, Out.bind_eq_ok] at h
  obtain ⟨_, _, _, _, _, h3, _⟩ := h
  exact checkDeclared_ok h3 d hd

theorem verifyDigests_ok_payload {md5 sha1 sha256 : Bytes → Bytes} {p : Package} {l : List Bytes} {a : Nat}
    (h : verifyDigests md5 sha1 sha256 p = .ok ())
    (hl : getStringArray p.md.header IndexTag.RPMTAG_PAYLOADDIGEST = .ok l)
    (ha : getU32 p.md.header IndexTag.RPMTAG_PAYLOADDIGESTALGO = .ok a) :
    l.head? = some (hexLower (sha256 p.content)) := by
  simp only [verifyDigests, Out.bind_eq_ok] at h
  obtain ⟨_, _, _, _, _, _, h4⟩ := h
  simp only [checkPayload, hl, ha] at h4
  split at h4
  · cases h4
  · split at h4
    · cases h4
    · split at h4
      · cases h4
      · rename_i hne; simpa using hne

/-- what `echo_signature` prints for the signature of a consult -/
def echoOf (c : Consult) : Nat × Bytes := (c.sig.length, c.sig.take Gen.echoPrefixLen)

/-- the slice bound `len.min(N)` is never out of range: the echo is a value — the length and the first `N` bytes -/
theorem echoSignature_eq (sig : Bytes) : echoSignature sig = .ok (sig.length, sig.take Gen.echoPrefixLen) := by
  unfold echoSignature sliceTo
  rw [if_pos (Nat.min_le_left _ _)]
  simp only [Out.bind_ok, Out.pure_eq]
  have : sig.take (min sig.length Gen.echoPrefixLen) = sig.take Gen.echoPrefixLen :=
    List.take_eq_take_iff.mpr (by omega)
  rw [this]

theorem openpgpLoopE_eq (b64 : Bytes → Option Bytes) (v : Verifier) (hdr : Bytes) (pre : List Consult)
    (ech : List (Nat × Bytes)) (sigs : List Bytes) (he : ech = pre.map echoOf) :
    openpgpLoopE b64 v hdr pre ech sigs =
      ((openpgpLoop b64 v hdr pre sigs).1, (openpgpLoop b64 v hdr pre sigs).2,
        (openpgpLoop b64 v hdr pre sigs).2.map echoOf) := by
  induction sigs generalizing pre ech with
  | nil => simp [openpgpLoopE, openpgpLoop, he]
  | cons s rest ih =>
    simp only [openpgpLoopE, openpgpLoop]
    cases hb : b64 s with
    | none => simp [he]
    | some x =>
      simp only [echoSignature_eq]
      cases hv : v pre hdr x
      · simp [echoOf, he]
      · simp only [if_true]
        exact ih _ _ (by simp [he, echoOf])

theorem runConsultsE_eq (v : Verifier) (pre : List Consult) (ech : List (Nat × Bytes)) (l : List (Bytes × Bytes × Bool))
    (he : ech = pre.map echoOf) :
    runConsultsE v pre ech l = ((runConsults v pre l).1, (runConsults v pre l).2, (runConsults v pre l).2.map echoOf) := by
  induction l generalizing pre ech with
  | nil => simp [runConsultsE, runConsults, he]
  | cons x rest ih =>
    obtain ⟨d, s, g⟩ := x
    simp only [runConsultsE, runConsults, echoSignature_eq]
    cases hv : v pre d s
    · simp [echoOf, he]
    · simp only [if_true]
      exact ih _ _ (by simp [he, echoOf])

/-- **`verify_signature` with the `echo_signature` calls in = without them**: same result, same consult log; what the
Debug logger is handed is, per consult and in order, the signature's length and its first `echoPrefixLen` bytes -/
theorem verifySignatureSE_eq (md5 sha1 sha256 : Bytes → Bytes) (b64 : Bytes → Option Bytes) (v : Verifier) (p : Package) :
    verifySignatureSE md5 sha1 sha256 b64 v p =
      ((verifySignatureS md5 sha1 sha256 b64 v p).1, (verifySignatureS md5 sha1 sha256 b64 v p).2,
        (verifySignatureS md5 sha1 sha256 b64 v p).2.map echoOf) := by
  unfold verifySignatureSE verifySignatureS
  cases verifyDigests md5 sha1 sha256 p with
  | err c => rfl
  | panic s => rfl
  | ok u =>
    simp only
    cases getStringArray p.md.signature SigTag.RPMSIGTAG_OPENPGP with
    | ok sigs =>
      simp only
      split
      · rfl
      · exact openpgpLoopE_eq b64 v _ [] [] sigs rfl
    | err c =>
      simp only [legacy]
      split
      · rfl
      · exact runConsultsE_eq v [] [] _ rfl
    | panic s =>
      simp only [legacy]
      split
      · rfl
      · exact runConsultsE_eq v [] [] _ rfl

end RpmVerif.Verify
