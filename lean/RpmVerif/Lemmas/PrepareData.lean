import RpmVerif.Model.PrepareData
import RpmVerif.Lemmas.AddData
import RpmVerif.Lemmas.Header
import RpmVerif.Lemmas.WithFile
import RpmVerif.Lemmas.PayloadWriter
import RpmVerif.Lemmas.BuilderSetters
import RpmVerif.Lemmas.BuilderSlots
/-!
# Lemmas for `Model/PrepareData.lean`: the state a call sequence leaves behind, the partial steps of `prepare_data` (no panic;
what an `Ok` is in terms of the total model `Bld.build`), and the archive it writes against C07's archive models
-/
namespace RpmVerif.Build
open RpmVerif.Hdr RpmVerif.Bld RpmVerif.AddData RpmVerif.WithFile RpmVerif.PWriter

theorem insertFE_eq (p : FileE × Bytes) (l : List (FileE × Bytes)) : insertFE p l = insertKeyed (·.1.cpioPath) p l := by
  induction l with
  | nil => rfl
  | cons g r ih => rw [insertFE, insertKeyed, ih]

theorem insertFE_map (p : FileE × Bytes) (l : List (FileE × Bytes)) :
    (insertFE p l).map (·.1) = insertFileE p.1 (l.map (·.1)) := by
  rw [insertFE_eq, insertFileE_eq]
  exact map_insertKeyed _ _ _ (fun _ => rfl) p l

theorem mem_insertFE {p x : FileE × Bytes} {l : List (FileE × Bytes)} (h : x ∈ insertFE p l) : x = p ∨ x ∈ l :=
  mem_insertKeyed _ (insertFE_eq .. ▸ h)

/-- what `prepare_data` relies on: every file's directory is registered (`position(..).unwrap()`), and `entry.size` is the
length of `entry.content` (`add_data`: `size: content.len() as u64`) -/
structure Inv (s : St) : Prop where
  dirs : ∀ p ∈ s.fes, p.1.dir ∈ s.dirs
  size : ∀ p ∈ s.fes, p.1.size = p.2.length

theorem inv_new (name version license arch summary : Bytes) (dc : Comp) : Inv (St.new name version license arch summary dc) :=
  ⟨fun _ hp => (nomatch hp), fun _ hp => (nomatch hp)⟩

theorem Inv.combinedSize_eq {s : St} (inv : Inv s) : combinedSize s.cfg = (s.fes.map (·.2.length)).sum := by
  simp only [combinedSize, St.cfg, List.map_map]
  exact congrArg List.sum (List.map_congr_left inv.size)

theorem runCall_size {sha256hex : Bytes → Bytes} {valid : Bytes → Bool} {c : WithFile.Call} {e : FileE}
    (h : runCall sha256hex valid c = .ok e) : e.size = (srcContent c.src).length := by
  obtain ⟨o, _, hw⟩ := Out.bind_eq_ok.mp (runCall_eq .. ▸ h)
  obtain ⟨f, cpio, dir, base, hsrc, _, _, _, rfl⟩ := withFile_ok hw
  rw [hsrc]; rfl

/-- the instant given to a timestamp setter is inside what a `Timestamp` holds (a `u32` always is) -/
def Call.TsOk : Call → Prop
  | .sourceDate (.src s) => 0 ≤ s.instant.floor ∧ s.instant.floor < 4294967296
  | .changelog _ _ (.src s) => 0 ≤ s.instant.floor ∧ s.instant.floor < 4294967296
  | _ => True

/-- the metadata setter a call amounts to (a timestamp argument after its conversion; none for a conversion that fails and
for `with_file`) -/
def metaOf : Call → Option MetaSetter
  | .set m => some m
  | .sourceDate t => (timestampSetter t).toOption.map .sourceDate
  | .changelog n e t => (timestampSetter t).toOption.map (.changelog n e)
  | .file _ => none

def fileOf : Call → Option WithFile.Call
  | .file c => some c
  | _ => none

theorem step_ok {sha256hex : Bytes → Bytes} {valid : Bytes → Bool} {s s' : St} {c : Call} (h : step sha256hex valid s c = .ok s') :
    (∃ m, metaOf c = some m ∧ fileOf c = none ∧ s' = { s with base := MetaSetter.apply s.base m }) ∨
    (∃ wc e, c = .file wc ∧ runCall sha256hex valid wc = .ok e ∧
      s' = { s with fes := insertFE (e, srcContent wc.src) s.fes, dirs := insertDir e.dir s.dirs }) := by
  cases c with
  | set m => cases h; exact .inl ⟨m, rfl, rfl, rfl⟩
  | sourceDate t =>
    obtain ⟨n, hn, rfl⟩ := Out.map_eq_ok.mp h
    exact .inl ⟨.sourceDate n, by rw [metaOf, show timestampSetter t = .ok n from hn]; rfl, rfl, rfl⟩
  | changelog name entry t =>
    obtain ⟨n, hn, rfl⟩ := Out.map_eq_ok.mp h
    exact .inl ⟨.changelog name entry n, by rw [metaOf, show timestampSetter t = .ok n from hn]; rfl, rfl, rfl⟩
  | file wc =>
    obtain ⟨e, he, rfl⟩ := Out.map_eq_ok.mp h
    exact .inr ⟨wc, e, rfl, he, rfl⟩

theorem Inv.step {sha256hex : Bytes → Bytes} {valid : Bytes → Bool} {s s' : St} {c : Call} (hi : Inv s)
    (h : step sha256hex valid s c = .ok s') : Inv s' ∧ s'.fes.length ≤ s.fes.length + 1 := by
  rcases step_ok h with ⟨m, _, _, rfl⟩ | ⟨wc, e, _, hr, rfl⟩
  · exact ⟨⟨hi.dirs, hi.size⟩, Nat.le_succ _⟩
  · refine ⟨⟨fun p hp => ?_, fun p hp => ?_⟩, insertFE_eq .. ▸ length_insertKeyed_le ..⟩
    · rcases mem_insertFE hp with rfl | hp'
      · exact mem_insertDir_self _ _
      · exact mem_insertDir_of_mem (hi.dirs p hp')
    · rcases mem_insertFE hp with rfl | hp'
      · exact runCall_size hr
      · exact hi.size p hp'

theorem run_cons (sha256hex : Bytes → Bytes) (valid : Bytes → Bool) (c : Call) (r : List Call) (s : St) :
    run sha256hex valid (c :: r) s = step sha256hex valid s c >>= run sha256hex valid r := by
  rw [run]; cases step sha256hex valid s c <;> rfl

theorem run_cons_ok {sha256hex : Bytes → Bytes} {valid : Bytes → Bool} {c : Call} {r : List Call} {s s' : St}
    (h : run sha256hex valid (c :: r) s = .ok s') :
    ∃ s1, step sha256hex valid s c = .ok s1 ∧ run sha256hex valid r s1 = .ok s' :=
  Out.bind_eq_ok.mp (run_cons .. ▸ h)

theorem Inv.run {sha256hex : Bytes → Bytes} {valid : Bytes → Bool} {calls : List Call} {s s' : St} (hi : Inv s)
    (h : run sha256hex valid calls s = .ok s') : Inv s' ∧ s'.fes.length ≤ s.fes.length + calls.length := by
  induction calls generalizing s with
  | nil => cases h; exact ⟨hi, Nat.le_refl _⟩
  | cons c r ih =>
    obtain ⟨s1, h1, h2⟩ := run_cons_ok h
    obtain ⟨i1, l1⟩ := hi.step h1
    obtain ⟨i2, l2⟩ := ih i1 h2
    exact ⟨i2, by rw [List.length_cons]; omega⟩

theorem run_base {sha256hex : Bytes → Bytes} {valid : Bytes → Bool} {calls : List Call} {s s' : St}
    (h : run sha256hex valid calls s = .ok s') : s'.base = s.base.applyAll (calls.filterMap metaOf) := by
  induction calls generalizing s with
  | nil => cases h; rfl
  | cons c r ih =>
    obtain ⟨s1, h1, h2⟩ := run_cons_ok h
    rw [ih h2, List.filterMap_cons]
    rcases step_ok h1 with ⟨m, hm, _, rfl⟩ | ⟨wc, e, rfl, _, rfl⟩
    · rw [hm]; rfl
    · rfl

/-- the file part of the state is `WithFile.buildState` of the `with_file` calls — the model C06's `with_file_readback`,
`readback_flags_of_setters`, `defaults_readback` are stated for -/
theorem run_files {sha256hex : Bytes → Bytes} {valid : Bytes → Bool} {calls : List Call} {s s' : St}
    (h : run sha256hex valid calls s = .ok s') :
    buildState sha256hex valid (calls.filterMap fileOf) ⟨s.fes.map (·.1), s.dirs⟩ = .ok ⟨s'.fes.map (·.1), s'.dirs⟩ := by
  induction calls generalizing s with
  | nil => cases h; rfl
  | cons c r ih =>
    obtain ⟨s1, h1, h2⟩ := run_cons_ok h
    rw [List.filterMap_cons]
    rcases step_ok h1 with ⟨m, _, hf, rfl⟩ | ⟨wc, e, rfl, hr, rfl⟩
    · rw [hf]; exact ih (s := { s with base := MetaSetter.apply s.base m }) h2
    · rw [fileOf, buildState_cons, hr]
      have := ih h2
      rwa [insertFE_map] at this

theorem sumU64_spec (l : List Nat) (acc : Nat) (hacc : acc < 18446744073709551616) :
    (acc + l.sum < 18446744073709551616 ∧ sumU64 l acc = .ok (acc + l.sum)) ∨
    (18446744073709551616 ≤ acc + l.sum ∧ sumU64 l acc = .panic "u64-overflow") := by
  induction l generalizing acc with
  | nil =>
    simp only [List.sum_nil, Nat.add_zero, sumU64]
    exact .inl ⟨hacc, trivial⟩
  | cons x r ih =>
    simp only [sumU64, List.sum_cons]
    by_cases h : acc + x < 18446744073709551616
    · rw [if_pos h]
      rcases ih (acc + x) h with ⟨a, b⟩ | ⟨a, b⟩
      · left; exact ⟨by omega, by rw [b, Nat.add_assoc]⟩
      · right; exact ⟨by omega, b⟩
    · rw [if_neg h]; right; exact ⟨by omega, rfl⟩

theorem sumU64_of_lt {l : List Nat} (h : l.sum < 18446744073709551616) : sumU64 l 0 = .ok l.sum := by
  rcases sumU64_spec l 0 (by decide) with ⟨_, e⟩ | ⟨hge, _⟩
  · rw [e, Nat.zero_add]
  · omega

section archive
open RpmVerif.Cpio

/-- an all-accepting compressor: every `write` takes everything, `flush` succeeds -/
def Sink.Accepting (s : Sink) : Prop := s.script = [] ∧ s.flushFails = false

/-- the builder's files as the cpio layer sees them: key, mode word, content -/
def toFileIn (p : FileE × Bytes) : FileIn := ⟨p.1.cpioPath, p.1.mode, p.2⟩

theorem emits_not_panic {s s' : Sink} {a : Bytes} {r : Out Unit} (h : Emits s a r s') : r.isPanic = false := by
  rcases h.2.2.2 with ⟨e, _⟩ | e | e <;> rw [e] <;> rfl

theorem emits_accepting {s : Sink} {a : Bytes} {p : Out Unit × Sink} (ha : Sink.Accepting s) (h : Emits s a p.1 p.2) :
    p = (.ok (), { s with out := s.out ++ a }) :=
  Prod.ext (h.accepting ha.1 ha.2).1 (h.accepting ha.1 ha.2).2

theorem strippedW_emits (idx : Nat) (content : Bytes) (s : Sink) (hi : idx < 4294967296) :
    Emits s (strippedHeader idx ++ (content ++ strippedDataPad content.length))
      (strippedW idx content s).1 (strippedW idx content s).2 := by
  suffices h : Emits s (strippedHeader idx ++ (content ++ (strippedDataPad content.length ++ []))) _ _ by
    rwa [List.append_nil] at h
  unfold strippedW
  rw [Nat.mod_eq_of_lt hi]
  have h1 := Sink.writeAll_emits s (strippedHeader idx)
  generalize s.writeAll (strippedHeader idx) = p at h1 ⊢
  apply emits_then _ p h1
  · intros; rfl
  intro s1
  dsimp only
  have h2 := Sink.writeAll_emits s1 content
  generalize s1.writeAll content = p at h2 ⊢
  apply emits_then _ p h2
  · intros; rfl
  intro s2
  dsimp only
  have h3 := Sink.writeAll_emits s2 (strippedDataPad content.length)
  generalize s2.writeAll (strippedDataPad content.length) = p at h3 ⊢
  apply emits_then _ p h3
  · intros; rfl
  exact fun s3 => Sink.flush_emits s3

theorem fileLoop_cons {dirs : List Bytes} (large : Bool) {e : FileE} (content : Bytes) (r : List (FileE × Bytes)) (idx : Nat)
    {ino : Nat} (s : Sink) (hd : e.dir ∈ dirs) (hlt : ino + 1 < 4294967296) :
    fileLoop dirs large ((e, content) :: r) idx ino s =
      match (if large then strippedW idx content s
          else entryW (Cpio.builderMeta 0 0 ino ⟨e.cpioPath, e.mode, content⟩) content s) with
      | (.ok (), s') => fileLoop dirs large r (idx + 1) (ino + 1) s'
      | (.err x, s') => (.err x, s')
      | (.panic p, s') => (.panic p, s') := by
  simp only [fileLoop, List.contains_iff_mem.mpr hd, Bool.not_true, Bool.false_eq_true, if_false, if_pos hlt]
  rfl

/-- **the file loop of `prepare_data`, for every compressor**: no panic, an error only from the compressor, and after `Ok`
exactly the entries of C07's archive models went out — standard form `Cpio.builderEntriesFrom` (inode numbers from `ino`),
large form `Cpio.archiveStrippedFrom` (indices from `idx`) -/
theorem fileLoop_emits (dirs : List Bytes) (large : Bool) (fes : List (FileE × Bytes)) (idx ino : Nat)
    (hd : ∀ p ∈ fes, p.1.dir ∈ dirs) (hc : large = false → ∀ p ∈ fes, p.2.length < 4294967296)
    (hn : ino + fes.length < 4294967296) (hi : idx + fes.length ≤ 4294967296) :
    ∃ bytes, (∀ s, Emits s bytes (fileLoop dirs large fes idx ino s).1 (fileLoop dirs large fes idx ino s).2) ∧
      (large = false → bytes ++ trailer = archiveOf (builderEntriesFrom 0 0 ino (fes.map toFileIn))) ∧
      (large = true → bytes ++ trailer = archiveStrippedFrom idx ((fes.map toFileIn).map (·.content))) := by
  induction fes generalizing idx ino with
  | nil =>
    exact ⟨[], Emits.refl,
      fun _ => by simp [archiveOf, builderEntriesFrom], fun _ => by simp [archiveStrippedFrom]⟩
  | cons p r ih =>
    obtain ⟨e, content⟩ := p
    rw [List.length_cons] at hn hi
    obtain ⟨bytes, hE, h2, h3⟩ := ih (idx + 1) (ino + 1) (fun q hq => hd q (List.mem_cons_of_mem _ hq))
      (fun hl q hq => hc hl q (List.mem_cons_of_mem _ hq)) (by omega) (by omega)
    have hstep : ∀ {a : Bytes} (s : Sink) (w : Out Unit × Sink), Emits s a w.1 w.2 →
        (if large then strippedW idx content s
          else entryW (builderMeta 0 0 ino ⟨e.cpioPath, e.mode, content⟩) content s) = w →
        Emits s (a ++ bytes) (fileLoop dirs large ((e, content) :: r) idx ino s).1
          (fileLoop dirs large ((e, content) :: r) idx ino s).2 := by
      intro a s w hw ew
      rw [fileLoop_cons large content r idx s (hd _ (List.mem_cons_self ..)) (by omega), ew]
      apply emits_then _ w hw
      · intros; rfl
      exact fun s1 => hE s1
    cases large with
    | false =>
      refine ⟨_, fun s => hstep s _ (entryW_spec _ content s (hc rfl _ (List.mem_cons_self ..))) rfl, fun _ => ?_, nofun⟩
      simp only [List.map_cons, builderEntriesFrom, archiveOf, toFileIn, List.append_assoc]
      rw [h2 rfl]
    | true =>
      refine ⟨_, fun s => hstep s _ (strippedW_emits idx content s (by omega)) rfl, nofun, fun _ => ?_⟩
      simp only [List.map_cons, archiveStrippedFrom, toFileIn, List.append_assoc]
      rw [← h3 rfl]

end archive

/-- what is assumed of the codec crates: constructing an encoder inside the checked level range, and finishing the stream, end
in `Ok` or `Err` (the answers to `write` / `flush` are `Ok` / `Err` by the type of `Sink`) -/
structure Env.Quiet (E : Env) : Prop where
  enc : ∀ v l, levelInRange v l = true → (E.enc v l).isPanic = false
  finish : ∀ a, (E.finish a).isPanic = false

/-- the system clock is inside what a `Timestamp` holds: 1970-01-01 .. 2106-02-07T06:28:15Z -/
def Env.ClockOk (E : Env) : Prop := 0 ≤ E.clock.secs ∧ E.clock.secs < 4294967296

theorem compressorConstruct_not_panic {enc : Nat → Int → Out Unit}
    (henc : ∀ v l, levelInRange v l = true → (enc v l).isPanic = false) (v : Nat) (l : Int) :
    (compressorConstruct enc v l).isPanic = false := by
  rw [compressorConstruct_eq]
  cases hr : levelInRange v l with
  | false => rfl
  | true => exact henc v l hr

theorem now_ok {clock : Timestamp.Instant} (h0 : 0 ≤ clock.secs) (h1 : clock.secs < 4294967296) :
    (Timestamp.now clock).toOut = .ok clock.secs.toNat := by
  rcases Timestamp.fromSystemTime_cases clock with ⟨h, _⟩ | ⟨_, _, e⟩ | ⟨h, _⟩
  · omega
  · simp only [Timestamp.now, e, Timestamp.Conv.toOut]
  · omega

theorem fromEntriesOut_records (c : Cfg) (now : Nat) (a b : Bytes) (tag : Nat) :
    fromEntriesOut (records c now a b) tag = .ok (fromEntries (records c now a b) tag) := by
  unfold fromEntriesOut
  have : (records c now a b).length ≤ 102 := Bld.records_length_le _
  rw [if_pos (by omega)]

theorem seqS_not_panic {r : Out Unit × Sink} (h : r.1.isPanic = false) : (seqS r).isPanic = false := by
  obtain ⟨o, s⟩ := r
  cases o with
  | ok u => rfl
  | err e => rfl
  | panic p => cases h

theorem seqS_ok {r : Out Unit × Sink} {s : Sink} (h : seqS r = .ok s) : r = (.ok (), s) := by
  obtain ⟨o, s'⟩ := r
  cases o with
  | ok u => cases u; simp only [seqS, Out.ok.injEq] at h; rw [h]
  | err e => cases h
  | panic p => cases h

/-- **`prepare_data` never panics** on a state whose directories are registered and whose sizes are the content lengths,
with a clock inside 1970..2106, codecs that do not panic, fewer than 2^32 − 1 files and less than 2^64 content bytes (both
are bounds of the address space) and the large-file limit at or below `u32::MAX` (it IS `u32::MAX` without the hook) -/
theorem prepareData_not_panic (E : Env) (c : Cfg) (fes : List (FileE × Bytes)) (hq : E.Quiet) (hclock : E.ClockOk)
    (hd : ∀ p ∈ fes, p.1.dir ∈ c.directories) (hs : ∀ p ∈ fes, p.1.size = p.2.length)
    (hmem : (fes.map (·.2.length)).sum < 18446744073709551616) (hcount : fes.length < 4294967295)
    (hthr : c.largeFileThreshold ≤ 4294967295) : (prepareData E c fes).isPanic = false := by
  rw [← congrArg List.sum (List.map_congr_left hs)] at hmem
  unfold prepareData
  refine Out.bind_not_panic (compressorConstruct_not_panic hq.enc _ _) (fun _ _ => ?_)
  rw [sumU64_of_lt hmem, Out.bind_ok]
  -- without the large-file format the sum, hence every size, fits a `u32`
  have hsmall : decide ((fes.map (·.1.size)).sum > c.largeFileThreshold) = false →
      (fes.map (·.1.size)).sum < 4294967296 ∧ ∀ p ∈ fes, p.1.size < 4294967296 := by
    intro hl
    have hle := of_decide_eq_false hl
    refine ⟨by omega, fun p hp => ?_⟩
    have := le_sum_of_mem (List.mem_map_of_mem (f := fun q : FileE × Bytes => q.1.size) hp)
    omega
  obtain ⟨bytes, hloop, _⟩ := fileLoop_emits c.directories (decide ((fes.map (·.1.size)).sum > c.largeFileThreshold)) fes 0 1 hd
    (fun hl p hp => hs p hp ▸ (hsmall hl).2 p hp) (by omega) (by omega)
  refine Out.bind_not_panic (seqS_not_panic (emits_not_panic (hloop E.sink))) (fun s1 _ => ?_)
  refine Out.bind_not_panic (seqS_not_panic (emits_not_panic (trailerW_spec s1))) (fun s2 _ => ?_)
  have hexp : (!decide ((fes.map (·.1.size)).sum > c.largeFileThreshold) && decide (4294967296 ≤ (fes.map (·.1.size)).sum)) = false :=
    Bool.and_eq_false_imp.mpr fun hl => decide_eq_false (Nat.not_le.mpr (hsmall ((Bool.not_eq_true' _).mp hl)).1)
  have hexp2 : (!fes.isEmpty && !decide ((fes.map (·.1.size)).sum > c.largeFileThreshold) &&
      fes.any (fun p => decide (4294967296 ≤ p.1.size))) = false :=
    Bool.and_eq_false_imp.mpr fun hl => List.any_eq_false.mpr fun p hp h =>
      Nat.not_le.mpr ((hsmall ((Bool.not_eq_true' _).mp (Bool.and_eq_true_iff.mp hl).2)).2 p hp) (of_decide_eq_true h)
  rw [hexp, if_neg Bool.false_ne_true, now_ok hclock.1 hclock.2, Out.bind_ok, hexp2, if_neg Bool.false_ne_true]
  refine Out.bind_not_panic (hq.finish _) (fun payload _ => ?_)
  rw [fromEntriesOut_records]
  rfl

theorem fromEntriesOut_ok {recs : List (Nat × IndexData)} {tag : Nat} {h : Header} (e : fromEntriesOut recs tag = .ok h) :
    h = fromEntries recs tag := by
  unfold fromEntriesOut at e
  split at e
  · cases e; rfl
  · cases e

/-- **what an `Ok` of `prepare_data` is**: the lead of the name, the main header of the TOTAL model (`Bld.mainHeader`) for the
clock reading and the two digests, and the compressor's output -/
theorem prepareData_ok {E : Env} {c : Cfg} {fes : List (FileE × Bytes)} {r : Lead × Header × Bytes}
    (h : prepareData E c fes = .ok r) :
    ∃ now archive, (Timestamp.now E.clock).toOut = .ok now ∧ prepareArchive E c fes = some archive ∧ E.finish archive = .ok r.2.2 ∧
      r = (leadNew c.name, mainHeader c now (E.hex r.2.2) (E.hex archive), r.2.2) := by
  unfold prepareData at h
  simp only [Out.bind_eq_ok] at h
  obtain ⟨_, _, combined, hsum, s1, hs1, s2, hs2, h⟩ := h
  have harch : prepareArchive E c fes = some s2.out := by
    unfold prepareArchive
    rw [hsum]; simp only [hs1, hs2]
  split at h
  · cases h
  · simp only [Out.bind_eq_ok] at h
    obtain ⟨now, hnow, h⟩ := h
    split at h
    · cases h
    · simp only [Out.bind_eq_ok, Out.pure_eq, Out.ok.injEq] at h
      obtain ⟨payload, hfin, hdr, hh, rfl⟩ := h
      exact ⟨now, s2.out, hnow, harch, hfin, by rw [fromEntriesOut_ok hh]; rfl⟩

/-- `SignatureHeaderBuilder::build` without signatures cannot fail -/
theorem sigBuild_nil (pubAlg : Bytes → Option Nat) (b64 : Bytes → Bytes) (d : Option Bytes) :
    Sign.sigBuilderBuild pubAlg b64 [] d = .ok (signatureHeader [] d) := rfl

/-- **an `Ok` of `build()` is the package of the total model `Bld.build`** for the clock reading, the archive the compressor
accepted and the payload it returned -/
theorem build_ok {E : Env} {c : Cfg} {fes : List (FileE × Bytes)} {p : Package} (h : build E c fes = .ok p) :
    ∃ now archive, (Timestamp.now E.clock).toOut = .ok now ∧ prepareArchive E c fes = some archive ∧
      E.finish archive = .ok p.content ∧ p = Bld.build c now E.hex archive p.content := by
  unfold build at h
  simp only [Out.bind_eq_ok, Prod.exists] at h
  obtain ⟨lead, hdr, payload, hp, sig, hsig, h⟩ := h
  obtain ⟨now, archive, hnow, harch, hfin, hr⟩ := prepareData_ok hp
  rw [sigBuild_nil] at hsig
  cases hsig
  simp only [Out.pure_eq, Out.ok.injEq] at h
  subst h
  simp only [Prod.mk.injEq] at hr
  obtain ⟨rfl, rfl, _⟩ := hr
  exact ⟨now, archive, hnow, harch, hfin, rfl⟩

section models
open RpmVerif.Cpio

/-- **the archive `prepare_data` hands to an all-accepting compressor is the archive of C07 / C09's models**: `Cpio.builderArchive`
(uid = gid = 0, inode numbers from 1) without the large-file format, `Cpio.builderArchiveLarge` with it — for a state whose
directories are registered and whose sizes are the content lengths (every state `Build.run` makes) -/
theorem prepareArchive_accepting (E : Env) (c : Cfg) (fes : List (FileE × Bytes)) (ha : Sink.Accepting E.sink) (ho : E.sink.out = [])
    (hd : ∀ p ∈ fes, p.1.dir ∈ c.directories) (hs : ∀ p ∈ fes, p.1.size = p.2.length)
    (hmem : (fes.map (·.2.length)).sum < 18446744073709551616) (hcount : fes.length < 4294967295)
    (hthr : c.largeFileThreshold ≤ 4294967295) :
    prepareArchive E c fes = some (if (fes.map (·.2.length)).sum > c.largeFileThreshold then builderArchiveLarge (fes.map toFileIn)
      else builderArchive 0 0 (fes.map toFileIn)) := by
  have hsum : (fes.map (·.1.size)).sum = (fes.map (·.2.length)).sum :=
    congrArg List.sum (List.map_congr_left hs)
  unfold prepareArchive
  rw [sumU64_of_lt (hsum ▸ hmem), hsum]
  have hsmall : decide ((fes.map (·.2.length)).sum > c.largeFileThreshold) = false → ∀ p ∈ fes, p.2.length < 4294967296 := by
    intro hl p hp
    have hle := of_decide_eq_false hl
    have := le_sum_of_mem (List.mem_map_of_mem (f := fun q : FileE × Bytes => q.2.length) hp)
    omega
  obtain ⟨bytes, hE, h2, h3⟩ := fileLoop_emits c.directories (decide ((fes.map (·.2.length)).sum > c.largeFileThreshold)) fes 0 1
    hd hsmall (by omega) (by omega)
  simp only [emits_accepting ha (hE E.sink), seqS,
    emits_accepting (s := { E.sink with out := E.sink.out ++ bytes }) ha (trailerW_spec _)]
  simp only [ho, List.nil_append]
  by_cases hl : (fes.map (·.2.length)).sum > c.largeFileThreshold
  · rw [if_pos hl, h3 (decide_eq_true hl)]; rfl
  · rw [if_neg hl, h2 (decide_eq_false hl)]; rfl

end models

theorem build_not_panic (E : Env) (c : Cfg) (fes : List (FileE × Bytes)) (hq : E.Quiet) (hclock : E.ClockOk)
    (hd : ∀ p ∈ fes, p.1.dir ∈ c.directories) (hs : ∀ p ∈ fes, p.1.size = p.2.length)
    (hmem : (fes.map (·.2.length)).sum < 18446744073709551616) (hcount : fes.length < 4294967295)
    (hthr : c.largeFileThreshold ≤ 4294967295) : (build E c fes).isPanic = false := by
  unfold build
  refine Out.bind_not_panic (prepareData_not_panic E c fes hq hclock hd hs hmem hcount hthr) (fun r _ => ?_)
  obtain ⟨lead, hdr, payload⟩ := r
  rfl

end RpmVerif.Build
