import RpmVerif.Lemmas.ValidCalls
/-!
# The weight of the builder state is bounded by the lengths of the ARGUMENTS of the calls

`C06.valid_of_inputs` asks for a bound on `cfgWeight` of the state; this file bounds that by what the caller wrote (for
`C06.valid_of_args`): directory and base name of a destination are not longer than the destination (`addData_lengths`,
through the piece lists of `std::path`), the options chain holds what its setters were given (`applySetters_optsW`), every
metadata setter adds at most its arguments (`cfgWeight_apply`), hence `run_weight`.
-/
namespace RpmVerif.Build
open RpmVerif.Hdr RpmVerif.Bld RpmVerif.AddData RpmVerif.WithFile RpmVerif.Path

/-- total length of a list of pieces, one separator each -/
def piecesLen (l : List Bytes) : Nat := (l.map (·.length + 1)).sum

theorem joinSep_length_le (l : List Bytes) : (joinSep l).length ≤ piecesLen l := by
  cases l with
  | nil => simp [joinSep, piecesLen]
  | cons a t =>
    simp only [joinSep, piecesLen, List.map_cons, List.sum_cons, List.length_append]
    have : (t.flatMap (fun x => 47 :: x)).length = (t.map (·.length + 1)).sum := by
      induction t with
      | nil => rfl
      | cons x u ih => simp only [List.flatMap_cons, List.length_append, List.length_cons, List.map_cons, List.sum_cons, ih]
    omega

theorem piecesLen_splitSep (s : Bytes) : piecesLen (splitSep s) = s.length + 1 := by
  induction s with
  | nil => rfl
  | cons b r ih =>
    by_cases hb : b = 47
    · subst hb; rw [splitSep_cons_sep]; simp only [piecesLen, List.map_cons, List.sum_cons, List.length_nil, List.length_cons] at ih ⊢; omega
    · rw [splitSep_cons_ne hb]
      have := splitSep_eq_cons r
      rw [this] at ih
      simp only [piecesLen, List.map_cons, List.sum_cons, List.length_cons] at ih ⊢
      omega

theorem piecesLen_cons (a : Bytes) (l : List Bytes) : piecesLen (a :: l) = a.length + 1 + piecesLen l := by
  simp [piecesLen]

theorem piecesLen_reverse (l : List Bytes) : piecesLen l.reverse = piecesLen l := by
  unfold piecesLen
  exact ((List.reverse_perm l).map _).sum_nat

theorem piecesLen_trim (l : List Bytes) : piecesLen (trimTriv l) ≤ piecesLen l :=
  sublist_sum_le ((List.dropWhile_sublist _).map _)

theorem mem_length_le_piecesLen {l : List Bytes} {p : Bytes} (h : p ∈ l) : p.length + 1 ≤ piecesLen l :=
  mem_le_sum (List.mem_map_of_mem (f := fun x : Bytes => x.length + 1) h)

theorem dirOf_length (x : Bytes) : (dirOf x).length ≤ x.length + 2 := by
  unfold dirOf; split <;> simp

theorem piecesLen_trim_reverse (l : List Bytes) : piecesLen (trimTriv l).reverse ≤ piecesLen l := by
  rw [piecesLen_reverse]
  exact piecesLen_trim l

theorem piecesLen_back {l : List Bytes} {n : Nat} (h : piecesLen l = n) : piecesLen (trimTriv l.reverse) ≤ n := by
  rw [← h, ← piecesLen_reverse l]
  exact piecesLen_trim l.reverse

theorem dirText_length (rest : List Bytes) : (joinSep (trimTriv rest).reverse).length ≤ piecesLen rest :=
  Nat.le_trans (joinSep_length_le _) (piecesLen_trim_reverse rest)

theorem dotDirText_length (rest : List Bytes) : (dotDirText rest).length ≤ piecesLen rest + 1 := by
  unfold dotDirText
  refine Nat.le_trans (joinSep_length_le _) (Nat.le_trans (piecesLen_trim_reverse _) ?_)
  rw [piecesLen_reverse]
  refine Nat.le_trans (piecesLen_trim _) ?_
  rw [piecesLen_splitSep]
  exact Nat.succ_le_succ (dirText_length rest)

/-- the last real piece `base` of a text `q` and the directory made from a text `t` of the pieces before it -/
theorem lengths_of_back {q base t : Bytes} {rest : List Bytes} {k : Nat} (hb : trimTriv (splitSep q).reverse = base :: rest)
    (ht : t.length ≤ piecesLen rest + k) : base.length ≤ q.length ∧ (dirOf t).length ≤ q.length + k + 2 := by
  have hall := hb ▸ piecesLen_back (piecesLen_splitSep q)
  have := dirOf_length t
  rw [piecesLen_cons] at hall
  constructor <;> omega

theorem addData_lengths {dest cpio dir base : Bytes} (h : addData dest = .ok (cpio, dir, base)) :
    base.length ≤ dest.length ∧ dir.length ≤ dest.length + 4 := by
  obtain ⟨⟨c, d, b⟩, hraw, he⟩ := Out.map_eq_ok.mp h
  cases he
  rcases start_cases dest with ⟨r, rfl⟩ | ⟨r, rfl⟩ | hb
  · rw [addData_slash] at hraw
    obtain ⟨rest, hb, -, -, rfl⟩ := backPieces_ok_iff.mp hraw
    have := lengths_of_back hb (k := 0) (dirText_length rest)
    simp only [List.length_cons]
    constructor <;> omega
  · rw [addData_dot] at hraw
    obtain ⟨rest, hb, -, -, rfl⟩ := backPieces_ok_iff.mp hraw
    have := lengths_of_back hb (dotDirText_length rest)
    simp only [List.length_cons] at this ⊢
    constructor <;> omega
  · rw [addData_bad_start hb] at hraw; cases hraw

def setterW : Setter → Nat
  | .user u => u.length
  | .group g => g.length
  | .symlink l => l.length
  | .caps t => strW t
  | _ => 0

def optsW (o : FileOpts) : Nat := o.user.length + o.group.length + o.symlink.length + optW o.caps

theorem optsW_new (dest : Bytes) : optsW (FileOpts.new dest) ≤ 16 := by
  show Gen.fileOptionsNewUser.length + Gen.fileOptionsNewGroup.length + Gen.fileOptionsNewSymlink.length + 0 ≤ 16
  decide

theorem Setter.effect_optsW (s : Setter) (o : FileOpts) : optsW (s.effect o) ≤ optsW o + setterW s := by
  cases s <;> simp only [Setter.effect, optsW, optW, setterW, setMode, applySetter] <;> omega

theorem applySetters_optsW {valid : Bytes → Bool} {ss : List Setter} {o o' : FileOpts} (h : applySetters valid ss o = .ok o') :
    optsW o' ≤ optsW o + (ss.map setterW).sum := by
  induction ss generalizing o with
  | nil => cases h; simp
  | cons s r ih =>
    obtain ⟨o₁, h1, h2⟩ := applySetters_cons_ok h
    have := Setter.apply_ok h1 ▸ Setter.effect_optsW s o
    have := ih h2
    simp only [List.map_cons, List.sum_cons]; omega

/-- what one `with_file` call can add to the weight of the state: destination (base name and directory), the option strings,
the digest text, the per-file constant -/
def callW (c : WithFile.Call) : Nat := 2 * c.dest.length + (c.setters.map setterW).sum + 128

/-- `hsha`: the digest text is hex SHA-256, 64 characters -/
theorem runCall_weight {sha256hex : Bytes → Bytes} {valid : Bytes → Bool} {c : WithFile.Call} {e : FileE}
    (hsha : ∀ b, (sha256hex b).length ≤ 64) (h : runCall sha256hex valid c = .ok e) : fileW e + strW e.dir ≤ callW c := by
  obtain ⟨f, o, cpio, dir, base, _, _, _, hs, hadd, rfl⟩ := runCall_ok h
  have hw := applySetters_optsW hs
  have hn := optsW_new c.dest
  obtain ⟨hb, hd⟩ := addData_lengths hadd
  have := hsha f.content
  simp only [fileW, entryFor, strW, callW, optsW] at *
  omega

def metaW : MetaSetter → Nat
  | .epoch _ | .sourceDate _ | .compression _ => 0
  | .release s | .url s | .vcs s | .description s | .vendor s | .packager s | .group s | .buildHost s | .cookie s => strW s
  | .changelog n e _ => strW n + strW e + 4
  | .script _ s => scriptW (some s)
  | .dep _ d => depW d

theorem depsW_snoc (l : List Dep) (d : Dep) : depsW (l ++ [d]) = depsW l + depW d := by simp [depsW]

theorem changelogW_snoc (l : List (Bytes × Bytes × Nat)) (n e : Bytes) (t : Nat) :
    changelogW (l ++ [(n, e, t)]) = changelogW l + (strW n + strW e + 4) := by simp [changelogW]

/-! `cfgWeight` before and after a setter are the same sum up to one summand: `frame_tail` drops the equal summands behind
it one by one, `frame_head` the equal sum before it (`with_reducible`, so that the summand that differs is found without
unfolding the weights) -/
theorem frame_tail {p' p a m : Nat} (h : p' ≤ p + m) : p' + a ≤ p + a + m := by omega
theorem frame_head {p a' a m : Nat} (h : a' ≤ a + m) : p + a' ≤ p + a + m := by omega

theorem cfgWeight_apply (c : Cfg) (m : MetaSetter) : cfgWeight (MetaSetter.apply c m) ≤ cfgWeight c + metaW m := by
  -- one goal for each equation of `MetaSetter.apply`, in its order
  fun_cases MetaSetter.apply c m
  -- `epoch`
  · exact Nat.le_add_right ..
  -- `release` … `build_host`: a string for a string
  iterate 8
    · unfold cfgWeight
      repeat with_reducible apply frame_tail
      with_reducible exact frame_head (Nat.le_add_left ..)
  -- `source_date`, `cookie`, `compression`
  · exact Nat.le_add_right ..
  · unfold cfgWeight
    repeat with_reducible apply frame_tail
    with_reducible exact frame_head (Nat.le_add_left ..)
  · exact Nat.le_add_right ..
  -- `add_changelog_entry`
  · exact frame_head (Nat.le_of_eq (changelogW_snoc ..))
  -- the nine scriptlet setters, then an index past them
  iterate 9
    · unfold cfgWeight
      repeat with_reducible apply frame_tail
      with_reducible exact frame_head (Nat.le_add_left ..)
  · exact Nat.le_add_right ..
  -- the eight dependency setters, then an index past them
  iterate 8
    · unfold cfgWeight
      repeat with_reducible apply frame_tail
      with_reducible exact frame_head (Nat.le_of_eq (depsW_snoc ..))
  · exact Nat.le_add_right ..

def Call.weight : Call → Nat
  | .set m => metaW m
  | .sourceDate _ => 0
  | .changelog n e _ => strW n + strW e + 4
  | .file c => callW c

def stWeight (s : St) : Nat := cfgWeight s.base + (s.fes.map (fun p => fileW p.1)).sum + strsW s.dirs

theorem metaOf_weight {c : Call} {m : MetaSetter} (hm : metaOf c = some m) : metaW m = c.weight := by
  cases c with
  | set _ => cases hm; rfl
  | sourceDate t => obtain ⟨n, _, rfl⟩ := Option.map_eq_some_iff.mp hm; rfl
  | changelog name entry t => obtain ⟨n, _, rfl⟩ := Option.map_eq_some_iff.mp hm; rfl
  | file _ => cases hm

theorem insertKeyed_weight {α} (key : α → Bytes) (w : α → Nat) (x : α) (l : List α) :
    ((insertKeyed key x l).map w).sum ≤ (l.map w).sum + w x := by
  induction l with
  | nil => simp [insertKeyed]
  | cons g r ih =>
    rw [insertKeyed]
    split
    · omega
    · split
      · simp only [List.map_cons, List.sum_cons]; omega
      · simp only [List.map_cons, List.sum_cons]; omega

theorem step_weight {sha256hex : Bytes → Bytes} {valid : Bytes → Bool} {s s' : St} {c : Call}
    (hsha : ∀ b, (sha256hex b).length ≤ 64) (h : step sha256hex valid s c = .ok s') : stWeight s' ≤ stWeight s + c.weight := by
  rcases step_ok h with ⟨m, hm, _, rfl⟩ | ⟨wc, e, rfl, hr, rfl⟩
  · have := cfgWeight_apply s.base m
    rw [metaOf_weight hm] at this
    simp only [stWeight]; omega
  · have h1 := runCall_weight hsha hr
    have h2 := insertKeyed_weight (·.1.cpioPath) (fun q => fileW q.1) (e, srcContent wc.src) s.fes
    have h3 := insertKeyed_weight id strW e.dir s.dirs
    rw [← insertFE_eq] at h2
    rw [← insertDir_eq] at h3
    simp only [stWeight, Call.weight, strsW] at *; omega

theorem run_weight {sha256hex : Bytes → Bytes} {valid : Bytes → Bool} {calls : List Call} {s s' : St}
    (hsha : ∀ b, (sha256hex b).length ≤ 64) (h : run sha256hex valid calls s = .ok s') :
    stWeight s' ≤ stWeight s + (calls.map Call.weight).sum := by
  induction calls generalizing s with
  | nil => cases h; simp
  | cons c r ih =>
    obtain ⟨s1, h1, h2⟩ := run_cons_ok h
    have := step_weight hsha h1
    have := ih h2
    simp only [List.map_cons, List.sum_cons]; omega

/-- the weight of the state `prepare_data` consumes, when the metadata part carries no files of its own (`St.new`, any run) -/
theorem cfgWeight_cfg (s : St) (hf : s.base.files = []) (hd : s.base.directories = []) : cfgWeight s.cfg = stWeight s := by
  have move_tail {p p' q x y : Nat} (h : p' = p + x + y) : p' + q = p + q + x + y := by omega
  unfold stWeight cfgWeight
  rw [hf, hd]
  -- the 18 summands behind `directories` are those of the base; before them the base has two empty sums
  iterate 18 apply move_tail
  show _ + (List.map fileW (s.fes.map (·.1))).sum + _ = _
  rw [List.map_map]
  rfl

theorem run_base_nofiles {sha256hex : Bytes → Bytes} {valid : Bytes → Bool} {calls : List Call} {s s' : St}
    (h : run sha256hex valid calls s = .ok s') : s'.base.files = s.base.files ∧ s'.base.directories = s.base.directories := by
  rw [run_base h]
  exact ⟨(new_args_kept _ _).2.2.2.2.2.1, (new_args_kept _ _).2.2.2.2.2.2.1⟩

theorem stWeight_new (name version license arch summary : Bytes) (dc : Bld.Comp) :
    stWeight (St.new name version license arch summary dc) = strW name + strW version + strW license + strW arch + strW summary + 2 := by
  simp only [stWeight, St.new, cfgWeight, Cfg.new, optW, depsW, scriptW, changelogW, strsW, List.map_nil, List.sum_nil]
  have : strW Gen.builderNewRelease = 2 := rfl
  omega

end RpmVerif.Build
